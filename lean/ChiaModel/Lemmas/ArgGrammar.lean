import ChiaModel.Spec.ArgGrammar
import ChiaModel.Props.C11
import ChiaModel.Lemmas.CondLoop
import ChiaModel.Lemmas.UnknownCost
/-
C01 — the model's `parseArgs` (Model/Conditions.lean, mirroring `parse_args`) equals the table-driven
specification `specParseArgs` (Spec/ArgGrammar.lean) on every tree, every opcode number and every flag set
(`parseArgs_eq_spec`); hence `parseAll` / `parseBundle` equal their table-driven counterparts.  The proof
reads the argument list one argument at a time on both sides: `interpFrom` is the interpreter after some
values have been read, an `arg_*` lemma says that a sanitizer of the model decodes one argument kind, and
`parseArgs_eq_spec` goes down the `if` chain of `parse_args` branch by branch.  Core Lean only.
-/
namespace ChiaModel.Grammar
open ChiaModel ChiaModel.Cond

def classToSan : IntClass → Sanitized
  | .canon v => .ok v
  | .neg => .negOverflow
  | .over => .posOverflow
  | .bad => .err

theorem sanitizeUint_eq_class (b : Bytes) (w : Nat) : sanitizeUint b w = classToSan (intClass w b) := by
  -- `sigBytes` is the length with a leading zero set aside
  have hl : sigBytes b ≤ w ↔ b.length ≤ if b.head? = some 0 then w + 1 else w := by
    unfold sigBytes
    cases b with
    | nil => simp
    | cons b0 tl => by_cases hz : b0 = 0 <;> simp [hz]
  rcases C11.sanitizeUint_cases b w with ⟨h, e⟩ | ⟨h, hm, e⟩ | ⟨h, hm, hlen, _, e⟩ | ⟨h, hm, hlen, _, e⟩ <;>
    rw [e, intClass, h]
  · rfl
  · simp only [Bool.false_eq_true, if_false, if_neg hm]; rfl
  · rw [← Nat.not_le, ← hl] at hlen
    simp only [Bool.false_eq_true, if_false, if_pos hm, if_neg hlen]; rfl
  · simp only [Bool.false_eq_true, if_false, if_pos hm, if_pos (hl.mpr hlen)]; rfl

theorem checkNil_eq (t : Sexp) : checkNil t = if t.isNil = true then .ok () else .error .reject := by
  cases t with
  | pair a b => rfl
  | atom x => cases x <;> rfl

theorem sanMsg_atom (b : Bytes) : sanitizeAnnounceMsg (.atom b) = if b.length ≤ 1024 then .ok b else .error .reject := by
  by_cases h : b.length ≤ 1024
  · simp [sanitizeAnnounceMsg, atomOf, bind, Except.bind, h]
  · simp [sanitizeAnnounceMsg, atomOf, bind, Except.bind, h]
theorem sanMsg_pair (a b : Sexp) : sanitizeAnnounceMsg (.pair a b) = .error .reject := rfl
theorem sanHash_atom (b : Bytes) (n : Nat) : sanitizeHash (.atom b) n = if b.length = n then .ok b else .error .reject := rfl
theorem sanHash_pair (a b : Sexp) (n : Nat) : sanitizeHash (.pair a b) n = .error .reject := rfl

theorem strict_bind {β : Type} (flags : Nat) (t : Sexp) (x : R β) :
    (if strict flags = true then checkNil t >>= fun _ => x else x) =
      if terminatorOk flags (some t) = true then x else .error .reject := by
  rw [checkNil_eq]
  show _ = if (!hasFlag flags Gen.flagStrictArgsCount || t.isNil) = true then x else _
  unfold strict
  cases hasFlag flags Gen.flagStrictArgsCount <;> cases t.isNil <;> rfl

theorem maybeCheck_bind {β : Type} (flags : Nat) (a r : Sexp) (x : R β) :
    (maybeCheckArgsTerminator (.pair a r) flags >>= fun _ => x) =
      if terminatorOk flags (some r) = true then x else .error .reject := by
  rw [← strict_bind]
  unfold maybeCheckArgsTerminator
  cases strict flags <;> rfl

def interpFrom (pre : List Val) (kinds : List ArgKind) (tail : Tail) (bld : List Val → Option Cond) (c : Sexp) (flags : Nat) :
    R Cond :=
  match walk kinds c with
  | none => .error .reject
  | some (vals, t) =>
    match tailRule tail (pre ++ vals) t with
    | none => .error .reject
    | some (extra, endNode) =>
      if terminatorOk flags endNode then
        match bld (pre ++ vals ++ extra) with
        | some cva => .ok cva
        | none => .error .reject
      else .error .reject

theorem interp_eq_from (kinds : List ArgKind) (tail : Tail) (bld : List Val → Option Cond) (c : Sexp) (flags : Nat) :
    interp kinds tail bld c flags = interpFrom [] kinds tail bld c flags := rfl

theorem interpFrom_cons (pre : List Val) (k : ArgKind) (ks : List ArgKind) (tail : Tail) (bld : List Val → Option Cond)
    (a r : Sexp) (flags : Nat) :
    interpFrom pre (k :: ks) tail bld (.pair a r) flags = match argValue k a with
      | none => .error .reject
      | some v => interpFrom (pre ++ [v]) ks tail bld r flags := by
  simp only [interpFrom, walk]
  cases argValue k a with
  | none => rfl
  | some v =>
    cases walk ks r with
    | none => rfl
    | some p => simp only [List.append_assoc, List.singleton_append]

theorem interpFrom_nil (pre : List Val) (tail : Tail) (bld : List Val → Option Cond) (t : Sexp) (flags : Nat) :
    interpFrom pre [] tail bld t flags = match tailRule tail pre t with
      | none => .error .reject
      | some (extra, endNode) =>
        if terminatorOk flags endNode then
          match bld (pre ++ extra) with
          | some cva => .ok cva
          | none => .error .reject
        else .error .reject := by
  simp only [interpFrom, walk, List.append_nil]

/-! ## the model's sanitizers decode the argument kinds

`F` is what the model goes on to do with the sanitized value, `G` what the interpreter goes on to do with the
decoded one. -/

theorem arg_hash {β : Type} {k : ArgKind} {n : Nat}
    (hk : ∀ b, argValue k (.atom b) = if b.length = n then some (.bytes b) else none) (a : Sexp)
    {F : Bytes → R β} {G : Val → R β} (h : ∀ b, F b = G (.bytes b)) :
    (sanitizeHash a n >>= F) = match argValue k a with
      | none => .error .reject
      | some v => G v := by
  rcases a with b | _
  case pair => rfl
  rw [sanHash_atom, hk]
  by_cases hl : b.length = n
  · rw [if_pos hl, if_pos hl]; exact h b
  · rw [if_neg hl, if_neg hl]; rfl

theorem arg_msg {β : Type} (a : Sexp) {F : Bytes → R β} {G : Val → R β} (h : ∀ b, F b = G (.bytes b)) :
    (sanitizeAnnounceMsg a >>= F) = match argValue .announceMsg a with
      | none => .error .reject
      | some v => G v := by
  rcases a with b | _
  case pair => rfl
  rw [sanMsg_atom]
  simp only [argValue]
  by_cases hl : b.length ≤ 1024
  · rw [if_pos hl, if_pos hl]; exact h b
  · rw [if_neg hl, if_neg hl]; rfl

theorem arg_amount {β : Type} (a : Sexp) {F : Nat → R β} {G : Val → R β} (h : ∀ v, F v = G (.int v)) :
    (parseAmount a >>= F) = match argValue amountU64 a with
      | none => .error .reject
      | some v => G v := by
  rcases a with b | _
  case pair => rfl
  simp only [parseAmount, atomOf, ok_bind, sanitizeUint_eq_class, argValue]
  cases intClass 8 b
  case canon v => exact h v
  all_goals rfl

theorem beVal_two_ge (b0 y : Nat) (t : Bytes) (h : ¬ (b0 = 0 ∧ y < 128)) : 128 ≤ beVal (b0 :: y :: t) := by
  have hP : 0 < 256 ^ t.length := Nat.pow_pos (by decide)
  rw [beVal_cons, beVal_cons, List.length_cons, Nat.pow_succ]
  by_cases hz : b0 = 0
  · have : 128 * 1 ≤ y * 256 ^ t.length := Nat.mul_le_mul (by omega) hP
    omega
  · have : 1 * (1 * 256) ≤ b0 * (256 ^ t.length * 256) := Nat.mul_le_mul (by omega) (Nat.mul_le_mul hP (Nat.le_refl _))
    omega

theorem mode_atom (b : Bytes) :
    sanitizeMessageMode (.atom b) = match sanitizeUint b 1 with
      | .ok v => if v ≤ 63 then .ok v else .error .reject
      | _ => .error .reject := by
  rcases b with _ | ⟨b0, _ | ⟨y, t⟩⟩
  · rfl
  · -- one byte: 01 … 7f are read as themselves
    simp only [sanitizeMessageMode, fitsInSmallAtom, sanitizeUint, headLt128, beVal, List.foldl, List.length_cons, List.length_nil,
      List.cons.injEq, and_true, Bool.false_eq_true, and_false, or_false, Nat.zero_mul, Nat.zero_add]
    by_cases h0 : b0 ≥ 128
    · simp [h0]
    by_cases hz : b0 = 0
    · simp [hz]
    by_cases h63 : b0 ≤ 63
    · have : b0 / 64 = 0 := by omega
      simp [h0, hz, h63, this]
    · have : ¬ b0 / 64 = 0 := by omega
      simp [h0, hz, h63, this]
  · -- two or more bytes: what is not rejected as negative or redundant is too large
    simp only [sanitizeMessageMode, fitsInSmallAtom, sanitizeUint]
    by_cases h0 : b0 ≥ 128
    · simp [h0]
    by_cases he : b0 = 0 ∧ y < 128
    · simp [he, headLt128]
    have h1 : ¬ (b0 :: y :: t = [0] ∨ b0 = 0 ∧ headLt128 (y :: t) = true) := by simpa [headLt128] using he
    have hge := beVal_two_ge b0 y t he
    rw [if_neg h0, if_neg h1]
    have hl : ∀ o : Option Nat, (∀ m, o = some m → m / 64 ≠ 0) →
        (match o with
          | none => .error .reject
          | some mode => if mode / 64 ≠ 0 then .error .reject else .ok mode : R Nat) = .error .reject := by
      intro o h
      cases o with
      | none => rfl
      | some m => exact if_pos (h m rfl)
    have hr : ∀ s : Sanitized, (∀ v, s = .ok v → ¬ v ≤ 63) →
        (match s with
          | .ok v => if v ≤ 63 then .ok v else .error .reject
          | _ => .error .reject : R Nat) = .error .reject := by
      intro s h
      cases s <;> first | rfl | exact if_neg (h _ rfl)
    refine (hl _ fun m hm => ?_).trans (hr _ fun v hv => ?_).symm
    · split at hm
      · cases hm
      · injection hm with hm; omega
    · by_cases hp : (b0 :: y :: t).length > if b0 = 0 then 1 + 1 else 1
      · rw [if_pos hp] at hv; cases hv
      · rw [if_neg hp] at hv; injection hv with hv; omega

theorem arg_mode {β : Type} (a : Sexp) {F : Nat → R β} {G : Val → R β} (h : ∀ v, F v = G (.int v)) :
    (sanitizeMessageMode a >>= F) = match argValue .messageMode a with
      | none => .error .reject
      | some v => G v := by
  rcases a with b | _
  case pair => rfl
  rw [mode_atom, sanitizeUint_eq_class]
  simp only [argValue]
  cases intClass 1 b
  case canon v => by_cases hv : v ≤ 63 <;> simp only [classToSan, hv, if_true, if_false, ok_bind, err_bind, h]
  all_goals rfl

theorem shape_one (c : Sexp) (flags : Nat) (rd : Sexp → R Cond) (k : ArgKind) (bld : List Val → Option Cond)
    (h : ∀ a, rd a = match argValue k a with
      | none => .error .reject
      | some v => match bld [v] with
        | some cva => .ok cva
        | none => .error .reject) :
    (do maybeCheckArgsTerminator c flags
        rd (← first c)) = interp [k] .exact bld c flags := by
  rcases c with x | ⟨a, r⟩
  · unfold maybeCheckArgsTerminator
    cases strict flags <;> rfl
  · simp only [first, ok_bind, maybeCheck_bind, h, interp, walk]
    cases argValue k a with
    | none => exact ite_self _
    | some v => rfl

/-- the ten lock opcodes: `g` is what `parse_args` makes of the four results of `sanitize_uint` -/
theorem shape_lock (c : Sexp) (flags w : Nat) (g : Sanitized → R Cond) (neg over : Policy) (bld : List Val → Option Cond)
    (h : ∀ cls : IntClass, ((match classToSan cls with
        | .err => .error .reject
        | s => .ok s) >>= g) = match (match cls with
          | .canon v => some (.int v)
          | .neg => outOfRange neg
          | .over => outOfRange over
          | .bad => none : Option Val) with
      | none => .error .reject
      | some v => match bld [v] with
        | some cva => .ok cva
        | none => .error .reject) :
    (lockArg c flags w >>= g) = interp [.int w neg over] .exact bld c flags := by
  unfold lockArg
  simp only [bind_assoc]
  refine shape_one c flags _ _ _ (fun a => ?_)
  rcases a with b | _
  case pair => rfl
  simp only [atomOf, ok_bind, sanitizeUint_eq_class]
  exact h _

theorem shape_aggSig (c : Sexp) (flags : Nat) (mk : Bytes → Bytes → Cond) (bld : List Val → Option Cond)
    (hb : ∀ a b, bld [.bytes a, .bytes b] = some (mk a b)) :
    (do let pk ← sanitizeHash (← first c) 48
        let c ← rest c
        let msg ← sanitizeAnnounceMsg (← first c)
        if strict flags then checkNil (← rest c)
        return mk pk msg) = interp [.pubkey48, .announceMsg] .exact bld c flags := by
  rw [interp_eq_from]
  rcases c with x | ⟨a, c⟩
  case atom => rfl
  rw [interpFrom_cons]
  refine arg_hash (fun _ => rfl) a (fun pk => ?_)
  rcases c with x | ⟨a, r⟩
  case atom => rfl
  rw [interpFrom_cons]
  refine arg_msg a (fun msg => ?_)
  simp only [rest, ok_bind, strict_bind, interpFrom_nil, tailRule, List.nil_append, List.cons_append, List.append_nil, hb]
  rfl

theorem shape_ephemeral (c : Sexp) (flags : Nat) (bld : List Val → Option Cond)
    (hb : ∀ vs, bld vs = noArgs .assertEphemeral vs) :
    (do if strict flags then checkNil c
        return Cond.assertEphemeral) = interp [] .exact bld c flags := by
  simp only [strict_bind, interp, walk, tailRule, List.append_nil, hb, noArgs]
  rfl

theorem shape_remark (c : Sexp) (flags : Nat) (bld : List Val → Option Cond) (hb : ∀ vs, bld vs = noArgs .skip vs) :
    (return Cond.skip : R Cond) = interp [] .ignored bld c flags := by
  simp only [interp, walk, tailRule, List.append_nil, hb, terminatorOk, noArgs]
  rfl

theorem shape_softfork (c : Sexp) (flags : Nat) (bld : List Val → Option Cond)
    (hb : ∀ v, bld [.int v] = some (.softfork (v * 10000))) :
    (do let b ← atomOf (← first c)
        match sanitizeUint b 4 with
        | .ok cost => return Cond.softfork (cost * 10000)
        | _ => .error .reject) = interp [costU32] .ignored bld c flags := by
  rw [interp_eq_from]
  rcases c with x | ⟨b | _, r⟩
  case atom => rfl
  case pair.pair => rfl
  simp only [first, atomOf, ok_bind, sanitizeUint_eq_class, interpFrom_cons, argValue]
  cases intClass 4 b
  case canon v => simp only [interpFrom_nil, tailRule, List.nil_append, List.append_nil, hb]; rfl
  all_goals rfl

theorem memoHint_eq (ph : Bytes) (amount : Nat) (params : Sexp) :
    (match params with
      | .pair (.atom h) _ =>
        if h.length ≤ 32 then (pure (Cond.createCoin ph amount (if h.isEmpty then none else some h)) : R Cond)
        else pure (Cond.createCoin ph amount none)
      | _ => pure (Cond.createCoin ph amount none)) = .ok (Cond.createCoin ph amount (memoHint params)) := by
  rcases params with x | ⟨h | ⟨_, _⟩, r⟩ <;> try rfl
  cases h with
  | nil => rfl
  | cons y t =>
    simp only [memoHint, List.length_cons, List.isEmpty_cons, Nat.le_add_left, true_and]
    split <;> rfl

theorem shape_createCoin (c : Sexp) (flags : Nat) (bld : List Val → Option Cond)
    (hb : ∀ ph v h, bld [.bytes ph, .int v, .hint h] = some (.createCoin ph v h)) :
    (do let ph ← sanitizeHash (← first c) 32
        let c ← rest c
        let node ← first c
        let b ← atomOf node
        let amount ← match sanitizeUint b 8 with
          | .ok v => pure v
          | _ => Except.error Err.reject
        let c ← rest c
        match c with
        | .pair params _ =>
          maybeCheckArgsTerminator c flags
          match params with
          | .pair (.atom h) _ =>
            if h.length ≤ 32 then return Cond.createCoin ph amount (if h.isEmpty then none else some h)
            else return Cond.createCoin ph amount none
          | _ => return Cond.createCoin ph amount none
        | .atom _ =>
          if strict flags then checkNil c
          return Cond.createCoin ph amount none) = interp [.hash32, amountU64] .memos bld c flags := by
  rw [interp_eq_from]
  rcases c with x | ⟨a, c⟩
  case atom => rfl
  rw [interpFrom_cons]
  refine arg_hash (fun _ => rfl) a (fun ph => ?_)
  rcases c with x | ⟨b | _, c⟩
  case atom => rfl
  case pair.pair => rfl
  simp only [first, rest, atomOf, ok_bind, sanitizeUint_eq_class, interpFrom_cons, argValue]
  cases intClass 8 b
  case canon v =>
    simp only [classToSan, pure_bind, interpFrom_nil, tailRule, List.nil_append, List.cons_append]
    rcases c with x | ⟨params, r⟩
    · simp only [strict_bind, hb]; rfl
    · simp only [maybeCheck_bind, memoHint_eq, hb]
  all_goals rfl

theorem walk_append (ks₁ ks₂ : List ArgKind) (t : Sexp) :
    walk (ks₁ ++ ks₂) t = match walk ks₁ t with
      | none => none
      | some (vs₁, t₁) => match walk ks₂ t₁ with
        | none => none
        | some (vs₂, t₂) => some (vs₁ ++ vs₂, t₂) := by
  induction ks₁ generalizing t with
  | nil => cases h : walk ks₂ t <;> simp only [List.nil_append, walk, h]
  | cons k ks ih =>
    rcases t with x | ⟨a, r⟩
    case atom => rfl
    simp only [List.cons_append, walk, ih]
    cases argValue k a with
    | none => rfl
    | some v =>
      cases walk ks r with
      | none => rfl
      | some p =>
        obtain ⟨vs, t'⟩ := p
        cases h : walk ks₂ t' <;> simp only [h, List.cons_append]

theorem keyBytes_append (vs₁ vs₂ : List Val) : keyBytes (vs₁ ++ vs₂) = keyBytes vs₁ ++ keyBytes vs₂ := by
  induction vs₁ with
  | nil => rfl
  | cons v vs ih => simp only [List.cons_append, keyBytes, ih, List.append_assoc]

theorem field_hash {β : Type} (p : Prop) [Decidable p] (t : Sexp) (jp : Bytes × Sexp → R β) :
    (if p then do
        let h ← sanitizeHash (← first t) 32
        let a ← rest t
        let y ← pure (h, a)
        jp y
      else do
        let y ← pure ([], t)
        jp y) = match walk (if p then [.hash32] else []) t with
      | none => .error .reject
      | some (vs, t') => jp (keyBytes vs, t') := by
  by_cases hp : p
  case neg => rw [if_neg hp, if_neg hp]; rfl
  rw [if_pos hp, if_pos hp]
  rcases t with x | ⟨b | _, r⟩
  case atom => rfl
  case pair.pair => rfl
  simp only [first, rest, ok_bind, sanHash_atom, walk, argValue]
  by_cases hl : b.length = 32
  · simp only [if_pos hl, ok_bind, pure_bind, keyBytes, fieldBytes, List.append_nil]
  · simp only [if_neg hl, err_bind]

theorem field_amount {β : Type} (p : Prop) [Decidable p] (t : Sexp) (jp : Bytes × Sexp → R β) :
    (if p then do
        let b ← atomOf (← first t)
        match sanitizeUint b 8 with
        | .ok v => do
          let a ← rest t
          let y ← pure (be 8 v, a)
          jp y
        | _ => do
          let y ← Except.error Err.reject
          jp y
      else do
        let y ← pure ([], t)
        jp y) = match walk (if p then [amountU64] else []) t with
      | none => .error .reject
      | some (vs, t') => jp (keyBytes vs, t') := by
  by_cases hp : p
  case neg => rw [if_neg hp, if_neg hp]; rfl
  rw [if_pos hp, if_pos hp]
  rcases t with x | ⟨b | _, r⟩
  case atom => rfl
  case pair.pair => rfl
  simp only [first, rest, atomOf, ok_bind, sanitizeUint_eq_class, walk, argValue]
  cases intClass 8 b <;> rfl

/-- the fields `SpendId::parse` reads under a mode, by the bits of the mode; it is `endpointFields` on 0 … 7 -/
def modeFields (m : Nat) : List ArgKind :=
  if m = 7 then [.hash32]
  else (if m / 4 % 2 = 1 then [.hash32] else []) ++ (if m / 2 % 2 = 1 then [.hash32] else []) ++
       (if m % 2 = 1 then [amountU64] else [])

theorem endpointFields_getD : ∀ m, m < 8 → endpointFields.getD m [] = modeFields m := by decide

theorem spendIdParse_walk (t : Sexp) (m : Nat) :
    spendIdParse t m = match walk (modeFields m) t with
      | some (fs, t') => .ok (m :: keyBytes fs, t')
      | none => .error .reject := by
  unfold spendIdParse modeFields
  by_cases h7 : m = 7
  · rw [if_pos h7, if_pos h7]
    refine (field_hash True t (fun y => pure (7 :: y.1, y.2))).trans ?_
    rw [if_pos trivial, h7]
    cases walk [.hash32] t <;> rfl
  · rw [if_neg h7, if_neg h7, walk_append, walk_append]
    refine (field_hash _ t _).trans ?_
    cases walk (if m / 4 % 2 = 1 then [.hash32] else []) t with
    | none => rfl
    | some p =>
      obtain ⟨parent, t⟩ := p
      dsimp only
      refine (field_hash _ t _).trans ?_
      cases walk (if m / 2 % 2 = 1 then [.hash32] else []) t with
      | none => rfl
      | some p =>
        obtain ⟨puzzle, t⟩ := p
        dsimp only
        refine (field_amount _ t _).trans ?_
        cases walk (if m % 2 = 1 then [amountU64] else []) t with
        | none => rfl
        | some p => simp only [keyBytes_append]; rfl

theorem spendId_eq (t : Sexp) (m : Nat) (hm : m < 8) :
    spendIdParse t m = match walk (endpointFields.getD m []) t with
      | some (fs, t') => .ok (m :: keyBytes fs, t')
      | none => .error .reject := by
  rw [endpointFields_getD m hm]
  exact spendIdParse_walk t m

theorem select_lt (s : Side) (mode : Nat) : s.select mode < 8 := by
  cases s <;> exact Nat.mod_lt _ (by decide)

theorem shape_message (c : Sexp) (flags : Nat) (s : Side) (mk : Nat → Bytes → Bytes → Cond) (bld : List Val → Option Cond)
    (hb : ∀ m msg k, bld [.int m, .bytes msg, .key k] = some (mk m k msg)) :
    (do let mode ← sanitizeMessageMode (← first c)
        let c ← rest c
        let msg ← sanitizeAnnounceMsg (← first c)
        let c ← rest c
        let (k, c) ← spendIdParse c (s.select mode)
        if strict flags then checkNil c
        return mk mode k msg) = interp [.messageMode, .announceMsg] (.endpoint s) bld c flags := by
  rw [interp_eq_from]
  rcases c with x | ⟨a, c⟩
  case atom => rfl
  rw [interpFrom_cons]
  refine arg_mode a (fun mode => ?_)
  rcases c with x | ⟨a, t⟩
  case atom => rfl
  rw [interpFrom_cons]
  refine arg_msg a (fun msg => ?_)
  simp only [rest, ok_bind, interpFrom_nil, tailRule, List.nil_append, List.cons_append]
  rw [spendId_eq _ _ (select_lt s mode)]
  cases walk (endpointFields.getD (s.select mode) []) t with
  | none => rfl
  | some p => simp only [ok_bind, strict_bind, hb]; rfl

theorem lookup_isSome {β : Type} (k : Nat) (l : List (Nat × β)) : (l.lookup k).isSome = true ↔ k ∈ l.map Prod.fst := by
  simp [List.lookup_isSome_iff]

theorem table_keys : oneByteTable.map Prod.fst = Gen.opcodeWhitelist := by decide

theorem pa_twoByte (c : Sexp) (op flags : Nat) (h : 256 ≤ op ∧ op ≤ 65535) :
    (if hasFlag flags Gen.flagNoUnknownConds = true then .error .reject
      else pure (.softfork (Gen.computeUnknownConditionCost op))) = specParseArgs c op flags := by
  have hg : grammar op = some ([], .ignored) := if_pos h
  have hb : build op [] = some (.softfork (Gen.computeUnknownConditionCost op)) := by
    unfold build
    rw [if_pos h, unknown_cost_fn]
    rfl
  have hk : unknownClass op = true := by simp [unknownClass, h]
  rw [specParseArgs, hg]
  simp only [hk, Bool.true_and, interp, walk, tailRule, terminatorOk, List.append_nil, hb]
  rfl

theorem branch {c : Sexp} {flags op k : Nat} {a b : R Cond} (ha : a = specParseArgs c k flags)
    (hb : ¬ op = k → b = specParseArgs c op flags) : (if op = k then a else b) = specParseArgs c op flags :=
  ite_eq_of (fun h => h ▸ ha) hb

theorem parseArgs_eq_spec (c : Sexp) (op flags : Nat) : parseArgs c op flags = specParseArgs c op flags := by
  unfold parseArgs
  refine ite_eq_of (fun h => ?_) fun _ => ?_
  · simp only [isAggSig, Bool.or_eq_true, decide_eq_true_eq] at h
    rcases h with ((((((rfl | rfl) | rfl) | rfl) | rfl) | rfl) | rfl) | rfl
    all_goals exact shape_aggSig c flags _ _ (fun _ _ => rfl)
  refine branch (shape_createCoin c flags _ (fun _ _ _ => rfl)) fun _ => ?_
  refine branch (congrArg (ite _ _) (shape_softfork c flags _ (fun _ => rfl))) fun _ => ?_
  refine ite_eq_of (pa_twoByte c op flags) fun hr => ?_
  -- RESERVE_FEE, the four announcement opcodes
  refine branch (shape_one c flags _ _ _ (fun a => arg_amount a (fun _ => rfl))) fun _ => ?_
  refine branch (shape_one c flags _ _ _ (fun a => arg_msg a (fun _ => rfl))) fun _ => ?_
  refine branch (shape_one c flags _ _ _ (fun a => arg_hash (fun _ => rfl) a (fun _ => rfl))) fun _ => ?_
  refine branch (shape_one c flags _ _ _ (fun a => arg_msg a (fun _ => rfl))) fun _ => ?_
  -- ASSERT_PUZZLE_ANNOUNCEMENT, ASSERT_CONCURRENT_*, ASSERT_MY_COIN_ID / PARENT_ID / PUZZLEHASH
  iterate 6 refine branch (shape_one c flags _ _ _ (fun a => arg_hash (fun _ => rfl) a (fun _ => rfl))) fun _ => ?_
  refine branch (shape_one c flags _ _ _ (fun a => arg_amount a (fun _ => rfl))) fun _ => ?_
  iterate 2 refine branch (shape_lock c flags _ _ _ _ _ (fun cls => by cases cls <;> rfl)) fun _ => ?_
  refine branch (shape_ephemeral c flags _ (fun _ => rfl)) fun _ => ?_
  iterate 8 refine branch (shape_lock c flags _ _ _ _ _ (fun cls => by cases cls <;> rfl)) fun _ => ?_
  refine branch (shape_message c flags .low (fun m k msg => .sendMessage (m / 8 % 8) k msg) _ (fun _ _ _ => rfl)) fun _ => ?_
  refine branch (shape_message c flags .high (fun m k msg => .receiveMessage k (m % 8) msg) _ (fun _ _ _ => rfl)) fun _ => ?_
  refine branch (shape_remark c flags _ (fun _ => rfl)) fun _ => ?_
  -- no branch: no table entry
  have hw : op ∉ oneByteTable.map Prod.fst := by
    simp only [isAggSig, Bool.or_eq_true, decide_eq_true_eq, not_or] at *
    simp only [Gen.opAggSigUnsafe, Gen.opAggSigMe, Gen.opAggSigPuzzle, Gen.opAggSigPuzzleAmount, Gen.opAggSigParent,
      Gen.opAggSigAmount, Gen.opAggSigParentPuzzle, Gen.opAggSigParentAmount, Gen.opCreateCoin, Gen.opSoftfork, Gen.opReserveFee, Gen.opCreateCoinAnnouncement, Gen.opAssertCoinAnnouncement,
      Gen.opCreatePuzzleAnnouncement, Gen.opAssertPuzzleAnnouncement, Gen.opAssertConcurrentSpend, Gen.opAssertConcurrentPuzzle,
      Gen.opAssertMyCoinId, Gen.opAssertMyParentId, Gen.opAssertMyPuzzlehash, Gen.opAssertMyAmount, Gen.opAssertMyBirthSeconds,
      Gen.opAssertMyBirthHeight, Gen.opAssertEphemeral, Gen.opAssertSecondsRelative, Gen.opAssertSecondsAbsolute,
      Gen.opAssertHeightRelative, Gen.opAssertHeightAbsolute, Gen.opAssertBeforeSecondsRelative, Gen.opAssertBeforeSecondsAbsolute,
      Gen.opAssertBeforeHeightRelative, Gen.opAssertBeforeHeightAbsolute, Gen.opSendMessage, Gen.opReceiveMessage, Gen.opRemark] at *
    simp only [table_keys, Gen.opcodeWhitelist, List.mem_cons, List.not_mem_nil, *, or_self, not_false_eq_true]
  rw [specParseArgs, grammar, if_neg hr, Option.not_isSome_iff_eq_none.mp (mt (lookup_isSome op _).mp hw)]

theorem noArgs_some {c c' : Cond} {vs : List Val} (h : noArgs c vs = some c') : c' = c := by
  unfold noArgs at h; split at h
  · injection h with h; exact h.symm
  · cases h

theorem oneBytes_some {mk : Bytes → Cond} {c' : Cond} {vs : List Val} (h : oneBytes mk vs = some c') : ∃ b, c' = mk b := by
  unfold oneBytes at h; split at h
  · injection h with h; exact ⟨_, h.symm⟩
  · cases h

theorem twoBytes_some {mk : Bytes → Bytes → Cond} {c' : Cond} {vs : List Val} (h : twoBytes mk vs = some c') :
    ∃ a b, c' = mk a b := by
  unfold twoBytes at h; split at h
  · injection h with h; exact ⟨_, _, h.symm⟩
  · cases h

theorem oneInt_some {mk : Nat → Cond} {c' : Cond} {vs : List Val} (h : oneInt mk vs = some c') : ∃ v, c' = mk v := by
  unfold oneInt at h; split at h
  · injection h with h; exact ⟨_, h.symm⟩
  · cases h

theorem lockInt_some {mk : Nat → Cond} {vac c' : Cond} {vs : List Val} (h : lockInt mk vac vs = some c') :
    (∃ v, c' = mk v) ∨ c' = vac := by
  unfold lockInt at h; split at h
  · injection h with h; exact Or.inl ⟨_, h.symm⟩
  · injection h with h; exact Or.inr h.symm
  · cases h

/-- discharge `h : build-entry vs = some cva` when the entry cannot yield the constructor of `cva` -/
macro "wrong_ctor" h:ident : tactic =>
  `(tactic| first
    | (unfold noArgs at $h:ident; split at $h:ident <;> cases $h:ident)
    | (unfold oneBytes at $h:ident; split at $h:ident <;> cases $h:ident)
    | (unfold twoBytes at $h:ident; split at $h:ident <;> cases $h:ident)
    | (unfold oneInt at $h:ident; split at $h:ident <;> cases $h:ident)
    | (unfold lockInt at $h:ident; split at $h:ident <;> cases $h:ident)
    | (split at $h:ident <;> cases $h:ident))

theorem build_inv {op : Nat} {vs : List Val} {cva : Cond} :
    build op vs = some cva → match cva with
      | .sendMessage .. => op = 66
      | .receiveMessage .. => op = 67
      | .createCoin .. => op = 51
      | _ => True := by
  intro h
  unfold build noArgs oneBytes twoBytes oneInt lockInt at h
  -- two-byte or one-byte opcode, the row of the table, the shape of the values
  repeat' split at h
  all_goals cases h
  all_goals first | exact True.intro | rfl

theorem interp_ok {kinds : List ArgKind} {tail : Tail} {bld : List Val → Option Cond} {c : Sexp} {flags : Nat} {cva : Cond}
    (h : interp kinds tail bld c flags = .ok cva) :
    ∃ vals t extra e, walk kinds c = some (vals, t) ∧ tailRule tail vals t = some (extra, e) ∧
      bld (vals ++ extra) = some cva := by
  unfold interp at h
  repeat' split at h
  all_goals cases h
  exact ⟨_, _, _, _, by assumption, by assumption, by assumption⟩

theorem walk_cons {k : ArgKind} {ks : List ArgKind} {c t : Sexp} {vals : List Val} (h : walk (k :: ks) c = some (vals, t)) :
    ∃ a r v vs, c = .pair a r ∧ argValue k a = some v ∧ walk ks r = some (vs, t) ∧ vals = v :: vs := by
  rcases c with x | ⟨a, r⟩
  · cases h
  · rw [walk] at h
    split at h
    · cases h
      exact ⟨a, r, _, _, rfl, by assumption, by assumption, rfl⟩
    · cases h

theorem argValue_hash32 {a : Sexp} {v : Val} (h : argValue .hash32 a = some v) :
    ∃ b, a = .atom b ∧ b.length = 32 ∧ v = .bytes b := by
  rcases a with b | _
  · obtain ⟨hl, hv⟩ := Option.ite_none_right_eq_some.mp h
    exact ⟨b, rfl, hl, (Option.some.inj hv).symm⟩
  · cases h

theorem argValue_uint {w : Nat} {a : Sexp} {v : Val} (h : argValue (.int w .reject .reject) a = some v) :
    ∃ b n, a = .atom b ∧ sanitizeUint b w = .ok n ∧ v = .int n := by
  rcases a with b | _
  · rw [argValue] at h
    cases hc : intClass w b <;> rw [hc] at h <;> cases h
    exact ⟨b, _, rfl, (sanitizeUint_eq_class b w).trans (congrArg classToSan hc), rfl⟩
  · cases h

theorem specParseArgs_ok {c : Sexp} {op flags : Nat} {cva : Cond} (h : specParseArgs c op flags = .ok cva) :
    ∃ vs, build op vs = some cva := by
  unfold specParseArgs interp at h
  repeat' split at h
  all_goals cases h
  exact ⟨_, by assumption⟩

theorem classToSan_inj {a b : IntClass} (h : classToSan a = classToSan b) : a = b := by
  cases a <;> cases b <;> simp [classToSan] at h <;> first | rfl | (subst h; rfl)

theorem intClass_neg_iff (w : Nat) (b : Bytes) : intClass w b = .neg ↔ headGe128 b = true := by
  constructor
  · intro h
    have := sanitizeUint_eq_class b w
    rw [h] at this
    exact (C11.sanitizeUint_neg b w).mp this
  · intro h
    exact classToSan_inj (by rw [← sanitizeUint_eq_class]; exact (C11.sanitizeUint_neg b w).mpr h)

theorem headGe128_iff_negative (b : Bytes) (hb : isBytes b) : headGe128 b = true ↔ intOfBytes b < 0 := by
  constructor
  · intro h
    rw [C11.intOfBytes_neg_head b h]
    have := beVal_lt b hb
    omega
  · intro h
    cases hh : headGe128 b with
    | true => rfl
    | false => rw [intOfBytes_of_head b hh] at h; omega

theorem intClass_bad_iff (w : Nat) (b : Bytes) : intClass w b = .bad ↔ headGe128 b = false ∧ ¬ Minimal b := by
  unfold intClass
  cases hh : headGe128 b
  · by_cases hm : Minimal b
    · simp [hm]; split <;> simp
    · simp [hm]
  · simp

theorem intClass_canon_iff (w : Nat) (b : Bytes) (hb : isBytes b) (v : Nat) :
    intClass w b = .canon v ↔ headGe128 b = false ∧ Minimal b ∧ beVal b = v ∧ v < 256 ^ w := by
  constructor
  · intro h
    have hs : sanitizeUint b w = .ok v := by rw [sanitizeUint_eq_class, h]; rfl
    obtain ⟨h1, h2, h3, h4⟩ := C11.sanitizeUint_ok b w v hb hs
    exact ⟨h2, h3, h1, h4⟩
  · rintro ⟨h1, h2, h3, h4⟩
    subst h3
    exact classToSan_inj (by rw [← sanitizeUint_eq_class]; exact C11.sanitizeUint_complete b w hb h1 h2 h4)

theorem intClass_over_iff (w : Nat) (b : Bytes) (hb : isBytes b) :
    intClass w b = .over ↔ headGe128 b = false ∧ Minimal b ∧ 256 ^ w ≤ beVal b := by
  constructor
  · intro h
    have hs : sanitizeUint b w = .posOverflow := by rw [sanitizeUint_eq_class, h]; rfl
    exact C11.sanitizeUint_pos b w hs
  · rintro ⟨h1, h2, h3⟩
    cases hc : intClass w b with
    | over => rfl
    | canon v => have := ((intClass_canon_iff w b hb v).mp hc); omega
    | neg => rw [(intClass_neg_iff w b).mp hc] at h1; cases h1
    | bad => exact absurd h2 ((intClass_bad_iff w b).mp hc).2

theorem intClass_canon_canonNat (w : Nat) (hw : w ≤ 8) (b : Bytes) (hb : isBytes b) (v : Nat)
    (h : intClass w b = .canon v) : b = canonNat v ∧ v < 256 ^ w := by
  obtain ⟨h1, h2, h3, h4⟩ := (intClass_canon_iff w b hb v).mp h
  have : (256 : Nat) ^ w ≤ 256 ^ 8 := Nat.pow_le_pow_right (by decide) hw
  exact ⟨C11.canon_unique b v hb h1 h2 h3 (by have : (256 : Nat) ^ 8 = 2 ^ 64 := by decide
                                              omega), h4⟩

theorem intClass_canonNat (w : Nat) (hw : w ≤ 8) (v : Nat) (hv : v < 256 ^ w) : intClass w (canonNat v) = .canon v := by
  have h64 : v < 2 ^ 64 := by
    have : (256 : Nat) ^ w ≤ 256 ^ 8 := Nat.pow_le_pow_right (by decide) hw
    have : (256 : Nat) ^ 8 = 2 ^ 64 := by decide
    omega
  obtain ⟨h1, h2, h3, h4⟩ := C11.canonNat_spec v h64
  have hh : headGe128 (canonNat v) = false := by
    cases hx : headGe128 (canonNat v) with
    | false => rfl
    | true =>
      have := (headGe128_iff_negative _ h4).mp hx
      rw [h2] at this; omega
  exact (intClass_canon_iff w _ h4 v).mpr ⟨hh, h3, h1, hv⟩

/-! ## small concrete inputs for the boundary examples of Props/C01.lean -/

def tableVerdict (op flags : Nat) (args : List Sexp) (terminator : Sexp := .atom []) : Option Cond :=
  match specParseArgs (args.foldr .pair terminator) op flags with
  | .ok c => some c
  | .error _ => none

def STRICT : Nat := Gen.flagStrictArgsCount
def bytesN (n : Nat) (x : Nat := 7) : Sexp := .atom (List.replicate n x)

end ChiaModel.Grammar

namespace ChiaModel.Rules
open ChiaModel ChiaModel.Cond ChiaModel.Grammar

theorem parseItem_eq_spec (flags : Nat) (c : Sexp) : parseItem flags c = specParseItem flags c := by
  rcases c with x | ⟨opn, args⟩
  · rfl
  · simp only [parseItem, specParseItem, Cond.first, rest, bind, Except.bind, parseArgs_eq_spec]
    cases parseOpcode opn with
    | none => rfl
    | some op => simp only; cases specParseArgs args op flags <;> rfl

theorem parseAll_eq_spec (flags : Nat) : ∀ cs : List Sexp, parseAll flags cs = specParseAll flags cs
  | [] => rfl
  | c :: cs => by
    simp only [parseAll, specParseAll, bind, Except.bind, parseItem_eq_spec, parseAll_eq_spec flags cs]
    cases specParseItem flags c <;> cases specParseAll flags cs <;> rfl

theorem parseSpend_eq_spec (flags : Nat) (sp : Sexp) : parseSpend flags sp = specParseSpend flags sp := by
  simp only [parseSpend, specParseSpend, parseAll_eq_spec]
  rfl

theorem parseSpendList_eq_spec (flags : Nat) : ∀ l : List Sexp, parseSpendList flags l = specParseSpendList flags l
  | [] => rfl
  | sp :: l => by
    simp only [parseSpendList, specParseSpendList, parseSpend_eq_spec, parseSpendList_eq_spec flags l]
    rfl

theorem parseBundle_eq_spec (flags : Nat) (t : Sexp) : parseBundle flags t = specParseBundle flags t := by
  cases t with
  | atom x => rfl
  | pair spends ext =>
    simp only [parseBundle, specParseBundle, parseSpendList_eq_spec]
    rfl

end ChiaModel.Rules
