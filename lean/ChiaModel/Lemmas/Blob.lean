import ChiaModel.Lemmas.BlobAssoc
/-
C18, L1 trees and the specification map.  Every operation is described by what it does to `entries`, the leaves
from left to right (`insert_spec`, `delete_spec`, `upsert_spec`, `batch_spec`); the lookup facts about `Map` are
what `Props/C18` needs to read that as a statement about the specification map.
-/
namespace ChiaModel.Blob
open List

def T.entries : T → List KVH
  | .leaf k v h => [(k, v, h)]
  | .node l r => l.entries ++ r.entries

def Tree.entries : Tree → List KVH
  | none => []
  | some t => t.entries

namespace T

theorem keys_eq (t : T) : t.keys = t.entries.map (·.1) := by
  induction t with
  | leaf k v h => rfl
  | node l r ihl ihr => simp [keys, entries, ihl, ihr]

theorem toList_eq (t : T) : t.toList = t.entries.map (fun e => (e.1, e.2.1)) := by
  induction t with
  | leaf k v h => rfl
  | node l r ihl ihr => simp [toList, entries, ihl, ihr]

theorem hashes_eq (t : T) : t.hashes = t.entries.map (·.2.2) := by
  induction t with
  | leaf k v h => rfl
  | node l r ihl ihr => simp [hashes, entries, ihl, ihr]

theorem entries_ne_nil (t : T) : t.entries ≠ [] := by
  induction t with
  | leaf k v h => simp [entries]
  | node l r ihl _ => simp [entries, ihl]

theorem keys_length_pos (t : T) : 0 < t.keys.length := by
  cases t <;> simp [keys]
  rename_i l r
  have := keys_length_pos l
  omega

theorem join_entries (side : Side) (new old : T) : (join side new old).entries ~ new.entries ++ old.entries := by
  cases side
  · exact List.Perm.refl _
  · exact List.perm_append_comm

theorem insertWalk_entries (new : T) (side : Side) (t : T) (bs : BitSrc) :
    (insertWalk new side t bs).entries ~ new.entries ++ t.entries := by
  induction t generalizing bs with
  | leaf k v h => exact join_entries side new _
  | node l r ihl ihr =>
    simp only [insertWalk]
    split
    · exact (List.Perm.append_left _ (ihr _)).trans (List.perm_append_comm_assoc _ _ _)
    · simp only [entries]
      rw [← List.append_assoc]
      exact List.Perm.append_right _ (ihl _)

theorem insertWalk_isNode (new : T) (side : Side) (t : T) (bs : BitSrc) :
    ∃ a b, insertWalk new side t bs = .node a b := by
  cases t with
  | leaf k v h => cases side <;> exact ⟨_, _, rfl⟩
  | node l r =>
    simp only [insertWalk]
    split <;> exact ⟨_, _, rfl⟩

theorem mapLeaf_not_mem (ref : KeyId) (f : T → T) (t : T) (h : ref ∉ t.keys) : t.mapLeaf ref f = t := by
  induction t with
  | leaf k v hh =>
    simp only [keys, List.mem_singleton] at h
    simp only [mapLeaf]
    rw [if_neg (fun e => h e.symm)]
  | node l r ihl ihr =>
    simp only [keys, List.mem_append, not_or] at h
    simp [mapLeaf, ihl h.1, ihr h.2]

theorem mapLeaf_join_entries (ref : KeyId) (side : Side) (new : T) (t : T)
    (hn : t.keys.Nodup) (hm : ref ∈ t.keys) :
    (t.mapLeaf ref (join side new)).entries ~ new.entries ++ t.entries := by
  induction t with
  | leaf k v h =>
    simp only [keys, List.mem_singleton] at hm
    simp only [mapLeaf, if_pos hm.symm]
    exact join_entries side new _
  | node l r ihl ihr =>
    simp only [keys] at hn hm
    obtain ⟨hl, hr, hd⟩ := nodup_append_disj hn
    simp only [mapLeaf, entries]
    rcases List.mem_append.mp hm with h | h
    · rw [mapLeaf_not_mem ref _ r (hd ref h), ← List.append_assoc]
      exact List.Perm.append_right _ (ihl hl h)
    · rw [mapLeaf_not_mem ref _ l (fun hl' => hd ref hl' h)]
      exact (List.Perm.append_left _ (ihr hr h)).trans (List.perm_append_comm_assoc _ _ _)

theorem mapLeaf_replace_entries (k : KeyId) (v : ValueId) (h : Hash) (t : T) :
    (t.mapLeaf k (fun _ => .leaf k v h)).entries = t.entries.map (fun e => if e.1 = k then (k, v, h) else e) := by
  induction t with
  | leaf k' v' h' =>
    simp only [mapLeaf, entries, List.map_cons, List.map_nil]
    split <;> rfl
  | node l r ihl ihr => simp [mapLeaf, entries, ihl, ihr]

theorem del_none_mem (k : KeyId) (t : T) (h : t.del k = none) : k ∈ t.keys := by
  cases t with
  | leaf k' v hh =>
    simp only [del] at h
    split at h
    · simp [keys, *]
    · cases h
  | node l r =>
    simp only [del] at h
    split at h
    · cases h
    · split at h <;> cases h

theorem del_not_mem (k : KeyId) (t : T) (h : k ∉ t.keys) : t.del k = some t := by
  induction t with
  | leaf k' v hh =>
    simp only [keys, List.mem_singleton] at h
    simp only [del]
    rw [if_neg (fun e : k' = k => h e.symm)]
  | node l r ihl ihr =>
    simp only [keys, List.mem_append, not_or] at h
    simp only [del, ihl h.1, ihr h.2]

theorem del_entries (k : KeyId) (t : T) (hn : t.keys.Nodup) :
    Tree.entries (t.del k) = t.entries.filter (fun e => e.1 ≠ k) := by
  induction t with
  | leaf k' v h =>
    simp only [del, entries]
    by_cases hk : k' = k
    · simp [hk, Tree.entries]
    · simp [hk, Tree.entries, entries]
  | node l r ihl ihr =>
    simp only [keys] at hn
    obtain ⟨hl, hr, hd⟩ := nodup_append_disj hn
    have ihl := ihl hl
    have ihr := ihr hr
    simp only [del, entries, List.filter_append]
    cases hdl : l.del k with
    | none =>
      -- the left subtree was the leaf `k`; keys are distinct, so `k` is not in `r` and the filter keeps all of `r`
      rw [hdl] at ihl
      have hkr : k ∉ r.keys := hd k (del_none_mem k l hdl)
      simp only [Tree.entries] at ihl ⊢
      rw [← ihl, List.nil_append]
      exact (filter_ne_self fun e he hek => hkr (by rw [keys_eq, ← hek]; exact List.mem_map_of_mem he)).symm
    | some l' =>
      rw [hdl] at ihl
      cases hdr : r.del k with
      | none => rw [hdr] at ihr; simp only [Tree.entries] at ihl ihr ⊢; rw [← ihl, ← ihr, List.append_nil]
      | some r' => rw [hdr] at ihr; simp only [Tree.entries, entries] at ihl ihr ⊢; rw [ihl, ihr]

/-! ### the subtree `batch_insert` builds, and the leaf it is attached to -/

theorem size_pos (t : T) : 0 < t.size := by cases t <;> simp [size]

theorem bfsLeaf_some (f : Nat) (q : List T) (hq : q ≠ []) (hf : (q.map size).sum ≤ f) :
    ∃ e, bfsLeaf f q = some e ∧ e ∈ q.flatMap entries := by
  induction f generalizing q with
  | zero =>
    cases q with
    | nil => exact absurd rfl hq
    | cons x q => have := size_pos x; simp only [List.map_cons, List.sum_cons] at hf; omega
  | succ f ih =>
    cases q with
    | nil => exact absurd rfl hq
    | cons x q =>
      cases x with
      | leaf k v h => exact ⟨(k, v, h), rfl, by simp [entries]⟩
      | node l r =>
        have hsz : ((q ++ [l, r]).map size).sum ≤ f := by
          simp only [List.map_append, List.sum_append, List.map_cons, List.sum_cons, List.map_nil, List.sum_nil,
            size] at hf ⊢; omega
        obtain ⟨e, he, hm⟩ := ih (q ++ [l, r]) (by simp) hsz
        refine ⟨e, he, ?_⟩
        simp only [List.flatMap_append, List.flatMap_cons, List.flatMap_nil, List.mem_append, entries,
          List.append_nil] at hm ⊢
        rcases hm with h | h | h
        · exact Or.inr h
        · exact Or.inl (Or.inl h)
        · exact Or.inl (Or.inr h)

theorem minLeaf_some (t : T) : ∃ e, t.minLeaf = some e ∧ e ∈ t.entries := by
  obtain ⟨e, he, hm⟩ := bfsLeaf_some t.size [t] (by simp) (by simp)
  exact ⟨e, he, by simpa using hm⟩

theorem pairLevel_flat (l : List T) : (pairLevel l).flatMap entries = l.flatMap entries := by
  induction l using pairLevel.induct with
  | case1 a b rest ih => simp [pairLevel, entries, ih]
  | case2 l h => rw [pairLevel]; intro a b rest e; exact h a b rest e

theorem pairLevel_length (l : List T) : (pairLevel l).length = (l.length + 1) / 2 := by
  induction l using pairLevel.induct with
  | case1 a b rest ih => simp only [pairLevel, List.length_cons, ih]; omega
  | case2 l h =>
    rw [pairLevel]
    · match l, h with
      | [], _ => rfl
      | [a], _ => simp
      | a :: b :: rest, h => exact absurd rfl (h a b rest)
    · intro a b rest e; exact h a b rest e

theorem buildUp_single (f : Nat) (l : List T) (hl : l ≠ []) (hf : l.length ≤ f + 1) :
    ∃ t, buildUp f l = [t] ∧ t.entries = l.flatMap entries := by
  have single : ∀ f (l : List T), l ≠ [] → l.length ≤ 1 → ∃ t, buildUp f l = [t] ∧ t.entries = l.flatMap entries := by
    intro f l hl h1
    obtain ⟨a, rfl⟩ := List.length_eq_one_iff.mp (Nat.le_antisymm h1 (List.length_pos_iff.mpr hl))
    exact ⟨a, by cases f <;> rfl, by simp⟩
  induction f generalizing l with
  | zero => exact single 0 l hl hf
  | succ f ih =>
    by_cases hgt : l.length > 1
    · have hlen := pairLevel_length l
      have hne : pairLevel l ≠ [] := fun e => by
        rw [e] at hlen; simp only [List.length_nil] at hlen; omega
      obtain ⟨t, ht, he⟩ := ih (pairLevel l) hne (by omega)
      exact ⟨t, by rw [buildUp, if_pos hgt, ht], by rw [he, pairLevel_flat]⟩
    · exact single _ l hl (Nat.le_of_not_lt hgt)

theorem ofBatch_nil : ofBatch [] = none := rfl

theorem ofBatch_of_buildUp {l : List KVH} {t : T}
    (h : buildUp l.length (l.map fun e => T.leaf e.1 e.2.1 e.2.2) = [t]) : ofBatch l = some t := by
  have e : (fun (x : KVH) => match x with | (k, v, h) => T.leaf k v h) = fun e => T.leaf e.1 e.2.1 e.2.2 :=
    funext fun ⟨_, _, _⟩ => rfl
  simp only [ofBatch, e, h]

theorem ofBatch_some (l : List KVH) (hl : l ≠ []) : ∃ t, ofBatch l = some t ∧ t.entries = l := by
  have hne : (l.map fun (x : KVH) => T.leaf x.1 x.2.1 x.2.2) ≠ [] := by simpa using hl
  obtain ⟨t, ht, he⟩ := buildUp_single l.length _ hne (by simp)
  refine ⟨t, ofBatch_of_buildUp ht, ?_⟩
  · rw [he]
    induction l with
    | nil => rfl
    | cons x l _ => simp [List.flatMap_map, entries, List.flatMap_cons]

end T

namespace Map

/-- `Map.lookup` is `mapGet`: a `ValueId` and a block index are both `Nat`, so the specification map has the type of
the caches (`Map.erase` is `mapErase` and `Map.set` is `mapInsert` by definition), and what BlobAssoc has about
`mapGet` holds of `lookup` -/
theorem lookup_eq (m : Map) (k : KeyId) : lookup m k = mapGet m k := by
  induction m with
  | nil => rfl
  | cons x m ih => obtain ⟨k', v⟩ := x; simp only [lookup, mapGet, ih]

theorem lookup_append (a b : Map) (k : KeyId) :
    lookup (a ++ b) k = (lookup a k).or (lookup b k) := by
  induction a with
  | nil => simp [lookup]
  | cons x a ih =>
    obtain ⟨k', v⟩ := x
    simp only [List.cons_append, lookup]
    split <;> simp [ih]

theorem lookup_none_of_not_mem (m : Map) (k : KeyId) (h : k ∉ m.map (·.1)) : lookup m k = none :=
  (lookup_eq m k).trans ((mapGet_none_iff m k).mpr fun _ he hek => h (hek ▸ List.mem_map_of_mem he))

theorem lookup_perm {a b : Map} (p : a ~ b) (hn : (a.map (·.1)).Nodup) (k : KeyId) :
    lookup a k = lookup b k := by
  rw [lookup_eq, lookup_eq, mapGet_perm p hn]

theorem lookup_erase (m : Map) (k k' : KeyId) :
    lookup (erase m k) k' = if k' = k then none else lookup m k' := by
  rw [lookup_eq, lookup_eq]
  split
  · next h => exact (mapGet_none_iff _ _).mpr fun e he => h ▸ by simpa using (List.mem_filter.mp he).2
  · next h => exact mapGet_erase_ne m k k' h

theorem lookup_set (m : Map) (k : KeyId) (v : ValueId) (k' : KeyId) :
    lookup (set m k v) k' = if k' = k then some v else lookup m k' := by
  rw [lookup_eq, lookup_eq]
  split
  · next h => exact h ▸ mapGet_insert_self m k v
  · next h => exact mapGet_insert_ne m k k' v h

theorem lookup_foldl_set (l : List KVH) (m : Map) (k' : KeyId) (hn : (l.map (·.1)).Nodup) :
    lookup (l.foldl (fun m (x : KVH) => set m x.1 x.2.1) m) k'
      = (lookup (l.map fun e => (e.1, e.2.1)) k').or (lookup m k') := by
  induction l generalizing m with
  | nil => simp [lookup]
  | cons x l ih =>
    obtain ⟨k, v, h⟩ := x
    simp only [List.map_cons, List.nodup_cons] at hn
    simp only [List.foldl_cons, List.map_cons, lookup]
    rw [ih _ hn.2, lookup_set]
    by_cases hk : k = k'
    · subst hk
      rw [if_pos rfl, if_pos rfl, lookup_none_of_not_mem]
      · rfl
      · simpa [List.map_map] using hn.1
    · rw [if_neg hk, if_neg (fun e : k' = k => hk e.symm)]

theorem lookup_map_replace (m : Map) (k : KeyId) (v : ValueId) (k' : KeyId) :
    lookup (m.map fun e => if e.1 = k then (k, v) else e) k'
      = if k' = k then (if k ∈ m.map (·.1) then some v else none) else lookup m k' := by
  induction m with
  | nil => simp [lookup]
  | cons x m ih =>
    obtain ⟨kx, vx⟩ := x
    simp only [List.map_cons, List.mem_cons]
    by_cases hx : kx = k
    · subst hx
      simp only [if_true, lookup, true_or]
      by_cases h : kx = k'
      · rw [if_pos h, if_pos h.symm]
      · rw [if_neg h, if_neg (fun e : k' = kx => h e.symm), ih, if_neg (fun e : k' = kx => h e.symm), if_neg h]
    · rw [if_neg hx]
      simp only [lookup]
      by_cases h : kx = k'
      · rw [if_pos h, if_neg (fun e : k' = k => hx (h.trans e)), if_pos h]
      · rw [if_neg h, ih]
        by_cases h2 : k' = k
        · rw [if_pos h2, if_pos h2]
          have : (k = kx ∨ k ∈ m.map (·.1)) ↔ k ∈ m.map (·.1) :=
            ⟨fun o => o.elim (fun e => absurd e.symm hx) id, Or.inr⟩
          simp only [this]
        · rw [if_neg h2, if_neg h2, if_neg h]

end Map

namespace Tree

theorem keys_eq (t : Tree) : keys t = (entries t).map (·.1) := by
  cases t with
  | none => rfl
  | some t => exact T.keys_eq t

theorem hashes_eq (t : Tree) : hashes t = (entries t).map (·.2.2) := by
  cases t with
  | none => rfl
  | some t => exact T.hashes_eq t

theorem toMap_eq (t : Tree) : toMap t = (entries t).map (fun e => (e.1, e.2.1)) := by
  cases t with
  | none => rfl
  | some t => exact T.toList_eq t

theorem toMap_keys (t : Tree) : (toMap t).map (·.1) = keys t := by
  rw [toMap_eq, keys_eq, List.map_map]; rfl

theorem keys_perm_of_entries {t t' : Tree} {l : List KVH} (p : entries t' ~ l ++ entries t) :
    keys t' ~ l.map (·.1) ++ keys t := by
  rw [keys_eq, keys_eq, ← List.map_append]; exact p.map _

theorem hashes_perm_of_entries {t t' : Tree} {l : List KVH} (p : entries t' ~ l ++ entries t) :
    hashes t' ~ l.map (·.2.2) ++ hashes t := by
  rw [hashes_eq, hashes_eq, ← List.map_append]; exact p.map _

theorem insert_of_key (k : KeyId) (v : ValueId) (h : Hash) (loc : RefLoc) (t : Tree)
    (hk : k ∈ keys t) : insert k v h loc t = none := by
  unfold insert; rw [if_pos hk]

theorem insert_of_hash (k : KeyId) (v : ValueId) (h : Hash) (loc : RefLoc) (t : Tree)
    (hk : k ∉ keys t) (hh : h ∈ hashes t) : insert k v h loc t = none := by
  unfold insert; rw [if_neg hk, if_pos hh]

theorem insert_auto_eq (k : KeyId) (v : ValueId) (h : Hash) (t : T)
    (hk : k ∉ keys (some t)) (hh : h ∉ hashes (some t)) :
    insert k v h .auto (some t) = some (some (T.insertWalk (.leaf k v h) (keySide k) t (BitSrc.ofKey k))) := by
  unfold insert; rw [if_neg hk, if_neg hh]

theorem insert_at (k : KeyId) (v : ValueId) (h : Hash) (ref : KeyId) (side : Side) (t : T)
    (hk : k ∉ keys (some t)) (hh : h ∉ hashes (some t)) :
    insert k v h (.at ref side) (some t)
      = if ref ∈ t.keys then some (some (t.mapLeaf ref (T.join side (.leaf k v h)))) else none := by
  unfold insert; rw [if_neg hk, if_neg hh]

theorem insert_none_auto (k : KeyId) (v : ValueId) (h : Hash) : insert k v h .auto none = some (some (.leaf k v h)) := rfl

theorem insert_none_at (k : KeyId) (v : ValueId) (h : Hash) (ref : KeyId) (side : Side) :
    insert k v h (.at ref side) none = none := rfl

theorem insert_spec {k : KeyId} {v : ValueId} {h : Hash} {loc : RefLoc} {t t' : Tree}
    (hn : (keys t).Nodup) (hi : insert k v h loc t = some t') :
    entries t' ~ (k, v, h) :: entries t ∧ k ∉ keys t ∧ h ∉ hashes t := by
  by_cases hk : k ∈ keys t
  · rw [insert_of_key k v h loc t hk] at hi; cases hi
  by_cases hh : h ∈ hashes t
  · rw [insert_of_hash k v h loc t hk hh] at hi; cases hi
  refine ⟨?_, hk, hh⟩
  cases t with
  | none =>
    cases loc with
    | auto => rw [insert_none_auto] at hi; cases hi; exact List.Perm.refl _
    | «at» ref side => rw [insert_none_at] at hi; cases hi
  | some t0 =>
    cases loc with
    | auto =>
      rw [insert_auto_eq k v h t0 hk hh] at hi
      cases hi
      exact T.insertWalk_entries _ _ _ _
    | «at» ref side =>
      rw [insert_at k v h ref side t0 hk hh] at hi
      split at hi
      · rename_i hm
        cases hi
        exact T.mapLeaf_join_entries ref side _ t0 hn hm
      · cases hi

theorem delete_spec {k : KeyId} {t t' : Tree} (hn : (keys t).Nodup) (hd : delete k t = some t') :
    entries t' = (entries t).filter (fun e => e.1 ≠ k) ∧ k ∈ keys t := by
  unfold delete at hd
  split at hd
  · cases hd
  · rename_i t0
    split at hd
    · rename_i hm
      injection hd with hd; subst hd
      exact ⟨T.del_entries k t0 hn, hm⟩
    · cases hd

theorem otherHashes_eq (k : KeyId) (t : T) :
    otherHashes k t = (t.entries.filter (fun e => e.1 ≠ k)).map (·.2.2) := by
  induction t with
  | leaf k' v h =>
    simp only [otherHashes, T.entries]
    by_cases hk : k' = k
    · rw [if_pos hk, List.filter_cons_of_neg (by simp [hk])]; rfl
    · rw [if_neg hk, List.filter_cons_of_pos (by simp [hk])]; rfl
  | node l r ihl ihr => simp [otherHashes, T.entries, ihl, ihr]

theorem upsert_absent (k : KeyId) (v : ValueId) (h : Hash) (t : T) (hk : k ∉ t.keys) :
    upsert k v h (some t) = insert k v h .auto (some t) := by
  unfold upsert; simp only; rw [if_neg hk]

theorem upsert_reject (k : KeyId) (v : ValueId) (h : Hash) (t : T) (hk : k ∈ t.keys)
    (hh : h ∈ otherHashes k t) : upsert k v h (some t) = none := by
  unfold upsert; simp only; rw [if_pos hk, if_pos hh]

theorem upsert_accept (k : KeyId) (v : ValueId) (h : Hash) (t : T) (hk : k ∈ t.keys)
    (hh : h ∉ otherHashes k t) :
    upsert k v h (some t) = some (some (t.mapLeaf k (fun _ => .leaf k v h))) := by
  unfold upsert; simp only; rw [if_pos hk, if_neg hh]

theorem upsert_spec {k : KeyId} {v : ValueId} {h : Hash} {t t' : Tree}
    (hn : (keys t).Nodup) (hu : upsert k v h t = some t') :
    (k ∈ keys t ∧ h ∉ ((entries t).filter (fun e => e.1 ≠ k)).map (·.2.2)
        ∧ entries t' = (entries t).map (fun e => if e.1 = k then (k, v, h) else e)) ∨
    (k ∉ keys t ∧ entries t' ~ (k, v, h) :: entries t ∧ h ∉ hashes t) := by
  have absent : insert k v h .auto t = some t' →
      k ∉ keys t ∧ entries t' ~ (k, v, h) :: entries t ∧ h ∉ hashes t := fun hi => by
    obtain ⟨a, b, c⟩ := insert_spec hn hi
    exact ⟨b, a, c⟩
  cases t with
  | none => exact Or.inr (absent hu)
  | some t0 =>
    by_cases hm : k ∈ t0.keys
    · by_cases hf : h ∈ otherHashes k t0
      · rw [upsert_reject k v h t0 hm hf] at hu; cases hu
      · rw [upsert_accept k v h t0 hm hf] at hu
        cases hu
        exact Or.inl ⟨hm, otherHashes_eq k t0 ▸ hf, T.mapLeaf_replace_entries k v h t0⟩
    · rw [upsert_absent k v h t0 hm] at hu
      exact Or.inr (absent hu)

theorem attach_nil (t : Tree) : attach [] t = some t := rfl

theorem attach_spec (rest : List KVH) (a b : T) (hn : (keys (some (.node a b))).Nodup) :
    ∃ t', attach rest (some (.node a b)) = some t' ∧ entries t' ~ rest ++ entries (some (.node a b)) := by
  cases rest with
  | nil => exact ⟨_, rfl, List.Perm.refl _⟩
  | cons x rest =>
    obtain ⟨sub, hs, he⟩ := T.ofBatch_some (x :: rest) (by simp)
    obtain ⟨⟨mk, mv, mh⟩, hm, hmem⟩ := T.minLeaf_some (.node a b)
    refine ⟨some ((T.node a b).mapLeaf mk (T.join .left sub)), by simp only [attach, hs, hm], ?_⟩
    have hk : mk ∈ (T.node a b).keys := by
      rw [T.keys_eq]; exact List.mem_map_of_mem (f := (·.1)) hmem
    exact he ▸ T.mapLeaf_join_entries mk .left sub (.node a b) hn hk

theorem insert_auto_some (k : KeyId) (v : ValueId) (h : Hash) (t : Tree)
    (hk : k ∉ keys t) (hh : h ∉ hashes t) :
    ∃ t1, insert k v h .auto t = some (some t1) ∧ (t ≠ none → ∃ a b, t1 = .node a b) := by
  cases t with
  | none => exact ⟨_, rfl, fun e => absurd rfl e⟩
  | some t0 =>
    obtain ⟨a, b, e⟩ := T.insertWalk_isNode (.leaf k v h) (keySide k) t0 (BitSrc.ofKey k)
    exact ⟨_, insert_auto_eq k v h t0 hk hh, fun _ => ⟨a, b, e⟩⟩

theorem insert_keys_nodup {k : KeyId} {v : ValueId} {h : Hash} {loc : RefLoc} {t t' : Tree}
    (hn : (keys t).Nodup) (hi : insert k v h loc t = some t') : (keys t').Nodup := by
  obtain ⟨p, hk, _⟩ := insert_spec hn hi
  have pk : keys t' ~ k :: keys t := keys_perm_of_entries (l := [(k, v, h)]) p
  exact pk.nodup_iff.mpr (List.nodup_cons.mpr ⟨hk, hn⟩)

theorem fresh_unpack {l : List KVH} {t : Tree} (hf : batchFresh l t = true) :
    (l.map (·.1)).Nodup ∧ (l.map (·.2.2)).Nodup ∧ ∀ e ∈ l, e.1 ∉ keys t ∧ e.2.2 ∉ hashes t := by
  simp only [batchFresh, Bool.and_eq_true, decide_eq_true_eq, List.all_eq_true] at hf
  refine ⟨hf.1.1, hf.1.2, fun e he => ?_⟩
  have := hf.2 e he
  obtain ⟨k, v, h⟩ := e
  simpa using this

theorem fresh_after_insert {r : List KVH} {k : KeyId} {v : ValueId} {h : Hash} {tr tr1 : Tree}
    (hn : (keys tr).Nodup) (hk : ((r ++ [(k, v, h)]).map (·.1)).Nodup) (hh : ((r ++ [(k, v, h)]).map (·.2.2)).Nodup)
    (hfr : ∀ e ∈ r ++ [(k, v, h)], e.1 ∉ keys tr ∧ e.2.2 ∉ hashes tr)
    (hi : insert k v h .auto tr = some tr1) :
    (r.map (·.1)).Nodup ∧ (r.map (·.2.2)).Nodup ∧ ∀ e ∈ r, e.1 ∉ keys tr1 ∧ e.2.2 ∉ hashes tr1 := by
  obtain ⟨p, _, _⟩ := insert_spec hn hi
  have pk := keys_perm_of_entries (l := [(k, v, h)]) p
  have ph := hashes_perm_of_entries (l := [(k, v, h)]) p
  rw [List.map_append] at hk hh
  obtain ⟨hkr, _, hkd⟩ := nodup_append_disj hk
  obtain ⟨hhr, _, hhd⟩ := nodup_append_disj hh
  refine ⟨hkr, hhr, fun e he => ⟨fun hm => ?_, fun hm => ?_⟩⟩
  · rcases List.mem_cons.mp (pk.mem_iff.mp hm) with a | a
    · exact hkd _ (List.mem_map_of_mem he) (by rw [a]; simp)
    · exact (hfr e (List.mem_append.mpr (Or.inl he))).1 a
  · rcases List.mem_cons.mp (ph.mem_iff.mp hm) with a | a
    · exact hhd _ (List.mem_map_of_mem he) (by rw [a]; simp)
    · exact (hfr e (List.mem_append.mpr (Or.inl he))).2 a

theorem batchUnchecked_spec (l : List KVH) (t : Tree) (hn : (keys t).Nodup) (hf : batchFresh l t = true) :
    (batchUnchecked l t).1 = true ∧ entries (batchUnchecked l t).2 ~ l ++ entries t := by
  obtain ⟨hkn, hhn, hfr⟩ := fresh_unpack hf
  unfold batchUnchecked
  split
  · -- at most one leaf: the last two items go through `insert`, each leaving the items before it fresh
    cases hrev : l.reverse with
    | nil =>
      have : l = [] := by simpa using hrev
      subst this; exact ⟨rfl, List.Perm.refl _⟩
    | cons x1 r1 =>
      have hl : l = r1.reverse ++ [x1] := by
        have := congrArg List.reverse hrev; simpa using this
      obtain ⟨k1, v1, h1⟩ := x1
      subst hl
      have hx1 := hfr (k1, v1, h1) (by simp)
      obtain ⟨t1, hi1, _⟩ := insert_auto_some k1 v1 h1 t hx1.1 hx1.2
      obtain ⟨p1, _, _⟩ := insert_spec hn hi1
      obtain ⟨_, _, hfr1⟩ := fresh_after_insert hn hkn hhn hfr hi1
      have hn1 := insert_keys_nodup hn hi1
      simp only [hi1]
      cases r1 with
      | nil => exact ⟨rfl, by simpa using p1⟩
      | cons x2 r2 =>
        obtain ⟨k2, v2, h2⟩ := x2
        have hx2 := hfr1 (k2, v2, h2) (by simp)
        obtain ⟨t2, hi2, hshape2⟩ := insert_auto_some k2 v2 h2 (some t1) hx2.1 hx2.2
        obtain ⟨p2, _, _⟩ := insert_spec hn1 hi2
        obtain ⟨a, b, hab⟩ := hshape2 (by simp)
        subst hab
        obtain ⟨t3, ha, p3⟩ := attach_spec r2.reverse a b (insert_keys_nodup hn1 hi2)
        simp only [hi2, ha]
        refine ⟨trivial, p3.trans ?_⟩
        rw [List.reverse_cons, List.append_assoc, List.append_assoc]
        exact List.Perm.append_left _ (p2.trans (List.Perm.cons _ p1))
  · -- at least two leaves: everything is attached unchecked
    rename_i hlen
    cases t with
    | none => simp [keys] at hlen
    | some t0 =>
      cases t0 with
      | leaf k v h => simp [keys, T.keys] at hlen
      | node a b =>
        obtain ⟨t', ha, p⟩ := attach_spec l a b hn
        simp only [ha]
        exact ⟨trivial, p⟩

theorem batch_spec (l : List KVH) (t : Tree) (hn : (keys t).Nodup) :
    (batchFresh l t = true ∧ (batch l t).1 = true ∧ entries (batch l t).2 ~ l ++ entries t)
    ∨ (batchFresh l t = false ∧ batch l t = (false, t)) := by
  unfold batch
  cases hf : batchFresh l t with
  | true => exact Or.inl ⟨rfl, batchUnchecked_spec l t hn hf⟩
  | false => exact Or.inr ⟨rfl, rfl⟩

end Tree

theorem map_replace_of_not_mem (l : List KVH) (k : KeyId) (v : ValueId) (h : Hash)
    (hk : k ∉ l.map (·.1)) : l.map (fun e => if e.1 = k then (k, v, h) else e) = l := by
  induction l with
  | nil => rfl
  | cons x l ih =>
    simp only [List.map_cons, List.mem_cons, not_or] at hk
    simp only [List.map_cons]
    rw [if_neg (fun e => hk.1 e.symm), ih hk.2]

theorem map_replace_keys (l : List KVH) (k : KeyId) (v : ValueId) (h : Hash) :
    (l.map (fun e => if e.1 = k then (k, v, h) else e)).map (·.1) = l.map (·.1) := by
  rw [List.map_map]
  refine List.map_congr_left fun e _ => ?_
  simp only [Function.comp]
  split
  · next hk => exact hk.symm
  · rfl

theorem map_replace_kv (l : List KVH) (k : KeyId) (v : ValueId) (h : Hash) :
    (l.map (fun e => if e.1 = k then (k, v, h) else e)).map (fun e => (e.1, e.2.1))
      = (l.map (fun e => (e.1, e.2.1))).map (fun e => if e.1 = k then (k, v) else e) := by
  rw [List.map_map, List.map_map]
  refine List.map_congr_left fun e _ => ?_
  simp only [Function.comp]
  split <;> rfl

theorem filter_ne_of_not_mem (l : List KVH) (k : KeyId) (hk : k ∉ l.map (·.1)) :
    l.filter (fun e => e.1 ≠ k) = l :=
  filter_ne_self fun _ he hek => hk (hek ▸ List.mem_map_of_mem (f := (·.1)) he)

theorem nodup_hashes_replace (l : List KVH) (k : KeyId) (v : ValueId) (h : Hash)
    (hkn : (l.map (·.1)).Nodup) (hhn : (l.map (·.2.2)).Nodup)
    (hf : h ∉ (l.filter (fun e => e.1 ≠ k)).map (·.2.2)) :
    ((l.map (fun e => if e.1 = k then (k, v, h) else e)).map (·.2.2)).Nodup := by
  induction l with
  | nil => exact List.nodup_nil
  | cons x l ih =>
    simp only [List.map_cons, List.nodup_cons] at hkn hhn
    by_cases hx : x.1 = k
    · have hkl : k ∉ l.map (·.1) := by rw [← hx]; exact hkn.1
      rw [List.filter_cons_of_neg (by simp [hx]), filter_ne_of_not_mem l k hkl] at hf
      simp only [List.map_cons, if_pos hx]
      rw [map_replace_of_not_mem l k v h hkl]
      exact List.nodup_cons.mpr ⟨hf, hhn.2⟩
    · rw [List.filter_cons_of_pos (by simp [hx])] at hf
      simp only [List.map_cons, List.mem_cons, not_or] at hf
      simp only [List.map_cons, if_neg hx]
      refine List.nodup_cons.mpr ⟨?_, ih hkn.2 hhn.2 hf.2⟩
      intro hm
      obtain ⟨y', hy', hye⟩ := List.mem_map.mp hm
      obtain ⟨y, hy, rfl⟩ := List.mem_map.mp hy'
      by_cases hyk : y.1 = k
      · rw [if_pos hyk] at hye; exact hf.1 hye
      · rw [if_neg hyk] at hye
        exact hhn.1 (by rw [← hye]; exact List.mem_map_of_mem (f := (·.2.2)) hy)

end ChiaModel.Blob
