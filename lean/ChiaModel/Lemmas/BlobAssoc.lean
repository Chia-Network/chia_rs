import ChiaModel.Model.Blob
/-
C18.  Lists, the free list, association lists, and `Cache`: an association list known up to order.  The key cache
and the hash cache of a blob are its two instances (`f` = the key, the hash).
-/
namespace ChiaModel.Blob
open List

theorem nodup_append_disj {α : Type} {a b : List α} (h : (a ++ b).Nodup) :
    a.Nodup ∧ b.Nodup ∧ ∀ x, x ∈ a → x ∉ b := by
  rw [List.nodup_append] at h
  exact ⟨h.1, h.2.1, fun x hx hb => h.2.2 x hx x hb rfl⟩

theorem nodup_bound (n : Nat) (l : List Nat) (hn : l.Nodup) (hb : ∀ x ∈ l, x < n) : l.length ≤ n := by
  have := hn.length_le_of_subset (l₂ := List.range n) fun x hx => List.mem_range.mpr (hb x hx)
  rwa [List.length_range] at this

theorem inj_of_nodup_map {α β : Type} (f : α → β) (l : List α) (hn : (l.map f).Nodup) :
    ∀ x ∈ l, ∀ y ∈ l, f x = f y → x = y := by
  induction l with
  | nil => intro x hx; cases hx
  | cons a l ih =>
    simp only [List.map_cons, List.nodup_cons] at hn
    intro x hx y hy hxy
    rcases List.mem_cons.mp hx with e1 | e1 <;> rcases List.mem_cons.mp hy with e2 | e2
    · rw [e1, e2]
    · subst e1; exact absurd (hxy ▸ List.mem_map_of_mem (f := f) e2) hn.1
    · subst e2; exact absurd (hxy ▸ List.mem_map_of_mem (f := f) e1) hn.1
    · exact ih hn.2 x e1 y e2 hxy

theorem filter_ne_self {κ β : Type} [DecidableEq κ] {l : List (κ × β)} {k : κ} (h : ∀ e ∈ l, e.1 ≠ k) :
    l.filter (fun e => e.1 ≠ k) = l :=
  List.filter_eq_self.mpr fun e he => by simpa using h e he

theorem mem_freeInsert (fr : List Nat) (i x : Nat) : x ∈ freeInsert fr i ↔ x ∈ fr ∨ x = i := by
  unfold freeInsert
  split
  · rename_i h
    exact ⟨Or.inl, fun h1 => h1.elim id (fun e => e ▸ h)⟩
  · simp

theorem freeInsert_nodup (fr : List Nat) (i : Nat) (h : fr.Nodup) : (freeInsert fr i).Nodup := by
  unfold freeInsert
  split
  · exact h
  · rename_i hn
    rw [List.nodup_append]
    exact ⟨h, by simp, fun a ha b hb hab => by simp at hb; exact hn (hb ▸ hab ▸ ha)⟩

theorem freeInsert_erase (fr : List Nat) (i : Nat) (h : i ∉ fr) : (freeInsert fr i).erase i = fr := by
  unfold freeInsert
  rw [if_neg h]
  induction fr with
  | nil => simp
  | cons a fr ih =>
    simp only [List.mem_cons, not_or] at h
    rw [List.cons_append, List.erase_cons_tail (by simpa using fun e => h.1 e.symm), ih h.2]

section
variable {κ : Type} [DecidableEq κ]

theorem mapGet_mem (m : List (κ × Nat)) (k : κ) (i : Nat) (h : mapGet m k = some i) : (k, i) ∈ m := by
  induction m with
  | nil => simp [mapGet] at h
  | cons x m ih =>
    obtain ⟨k', i'⟩ := x
    simp only [mapGet] at h
    split at h
    · rename_i hk; injection h with h; subst hk; subst h; simp
    · exact List.mem_cons_of_mem _ (ih h)

theorem mapGet_of_mem (m : List (κ × Nat)) (k : κ) (i : Nat) (hn : (m.map (·.1)).Nodup) (h : (k, i) ∈ m) :
    mapGet m k = some i := by
  induction m with
  | nil => cases h
  | cons x m ih =>
    obtain ⟨k', i'⟩ := x
    simp only [List.map_cons, List.nodup_cons] at hn
    simp only [mapGet]
    rcases List.mem_cons.mp h with e | e
    · injection e with e1 e2; subst e1; subst e2; simp
    · have : k' ≠ k := fun e' => hn.1 (by rw [e']; exact List.mem_map_of_mem (f := (·.1)) e)
      rw [if_neg this]; exact ih hn.2 e

theorem mapGet_none_iff (m : List (κ × Nat)) (x : κ) : mapGet m x = none ↔ ∀ e ∈ m, e.1 ≠ x := by
  induction m with
  | nil => simp [mapGet]
  | cons e m ih =>
    obtain ⟨k', i'⟩ := e
    simp only [mapGet, List.mem_cons, forall_eq_or_imp]
    by_cases h : k' = x
    · simp [h]
    · simp [h, ih]

theorem mapGet_single_eq (m : List (κ × Nat)) {a b : κ} {i j : Nat}
    (hl : m.length = 1) (h1 : mapGet m a = some i) (h2 : mapGet m b = some j) : a = b ∧ i = j := by
  match m, hl with
  | [(k', i')], _ =>
    simp only [mapGet] at h1 h2
    by_cases ha : k' = a
    · by_cases hb : k' = b
      · rw [if_pos ha] at h1; rw [if_pos hb] at h2
        cases h1; cases h2
        exact ⟨ha.symm.trans hb, rfl⟩
      · rw [if_neg hb] at h2; cases h2
    · rw [if_neg ha] at h1; cases h1

theorem mapGet_perm {a b : List (κ × Nat)} (p : a ~ b) (hn : (a.map (·.1)).Nodup) (k : κ) :
    mapGet a k = mapGet b k := by
  cases h : mapGet a k with
  | some i =>
    have hm := mapGet_mem a k i h
    exact (mapGet_of_mem b k i ((p.map _).nodup_iff.mp hn) (p.mem_iff.mp hm)).symm
  | none =>
    cases h2 : mapGet b k with
    | none => rfl
    | some i =>
      have hm := mapGet_mem b k i h2
      have := mapGet_of_mem a k i hn (p.mem_iff.mpr hm)
      rw [h] at this; cases this

end

theorem mapGet_isSome_of_mem {κ : Type} [DecidableEq κ] (m : List (κ × Nat)) (e : κ × Nat) (h : e ∈ m) :
    (mapGet m e.1).isSome = true := by
  cases hg : mapGet m e.1 with
  | some _ => rfl
  | none => exact absurd rfl ((mapGet_none_iff m e.1).mp hg e h)

section
variable {κ : Type} [DecidableEq κ]

theorem mapGet_insert_self (m : List (κ × Nat)) (k : κ) (i : Nat) : mapGet (mapInsert m k i) k = some i := by
  simp [mapInsert, mapGet]

theorem mapGet_filter_ne (m : List (κ × Nat)) (k k' : κ) (h : k' ≠ k) :
    mapGet (m.filter (fun e => e.1 ≠ k)) k' = mapGet m k' := by
  induction m with
  | nil => rfl
  | cons x m ih =>
    obtain ⟨kx, ix⟩ := x
    by_cases hx : kx = k
    · rw [List.filter_cons_of_neg (by simp [hx]), ih]
      simp only [mapGet]
      rw [if_neg (fun e => h (e.symm.trans hx))]
    · rw [List.filter_cons_of_pos (by simp [hx])]
      simp only [mapGet, ih]

theorem mapGet_erase_ne (m : List (κ × Nat)) (k k' : κ) (h : k' ≠ k) :
    mapGet (mapErase m k) k' = mapGet m k' := mapGet_filter_ne m k k' h

theorem mapGet_insert_ne (m : List (κ × Nat)) (k k' : κ) (i : Nat) (h : k' ≠ k) :
    mapGet (mapInsert m k i) k' = mapGet m k' := by
  simp only [mapInsert, mapGet]
  rw [if_neg (fun e => h e.symm)]
  exact mapGet_filter_ne m k k' h

theorem mapGet_insert_none (m : List (κ × Nat)) (k x : κ) (i : Nat) :
    mapGet (mapInsert m k i) x = none ↔ (x ≠ k ∧ mapGet m x = none) := by
  by_cases h : x = k
  · subst h; simp [mapGet_insert_self]
  · rw [mapGet_insert_ne _ _ _ _ h]; simp [h]

theorem mapGet_insert_insert (m : List (κ × Nat)) {a b : κ} {i j : Nat}
    (ha : mapGet m a = none) (hb : mapGet m b = some j) (x : κ) :
    mapGet (mapInsert (mapInsert m a i) b j) x = if x = a then some i else mapGet m x := by
  have hab : b ≠ a := fun e => by rw [e, ha] at hb; cases hb
  by_cases h1 : x = b
  · rw [h1, mapGet_insert_self, if_neg hab, hb]
  · rw [mapGet_insert_ne _ _ _ _ h1]
    by_cases h2 : x = a
    · rw [if_pos h2, h2, mapGet_insert_self]
    · rw [if_neg h2, mapGet_insert_ne _ _ _ _ h2]

theorem mem_mapInsert (m : List (κ × Nat)) (k : κ) (i : Nat) (e : κ × Nat)
    (h : e ∈ mapInsert m k i) : e = (k, i) ∨ (e ∈ m ∧ e.1 ≠ k) := by
  simp only [mapInsert, List.mem_cons, List.mem_filter, ne_eq, decide_eq_true_eq] at h
  exact h

theorem mapInsert_keys_nodup (m : List (κ × Nat)) (k : κ) (i : Nat)
    (h : (m.map (·.1)).Nodup) : ((mapInsert m k i).map (·.1)).Nodup := by
  simp only [mapInsert, List.map_cons, List.nodup_cons]
  refine ⟨?_, (h.sublist ((List.filter_sublist).map _))⟩
  intro hm
  obtain ⟨e, he, hek⟩ := List.mem_map.mp hm
  have := (List.mem_filter.mp he).2
  simp only [ne_eq, decide_eq_true_eq] at this
  exact this hek

theorem length_erase_insert (m : List (κ × Nat)) (k : κ) (i j : Nat)
    (hn : (m.map (·.1)).Nodup) (hg : mapGet m k = some j) :
    (mapInsert (mapErase m k) k i).length = m.length := by
  induction m with
  | nil => simp [mapGet] at hg
  | cons x m ih =>
    obtain ⟨k', i'⟩ := x
    simp only [List.map_cons, List.nodup_cons] at hn
    simp only [mapGet] at hg
    by_cases hk : k' = k
    · subst hk
      have hfil : m.filter (fun e => e.1 ≠ k') = m :=
        filter_ne_self fun e he e' => hn.1 (e' ▸ List.mem_map_of_mem (f := (·.1)) he)
      simp only [mapInsert, mapErase, List.filter_filter, List.length_cons]
      rw [List.filter_cons_of_neg (by simp)]
      simp only [Bool.and_self]
      rw [hfil]
    · rw [if_neg hk] at hg
      have := ih hn.2 hg
      simp only [mapInsert, mapErase, List.filter_filter, List.length_cons, Bool.and_self] at this ⊢
      rw [List.filter_cons_of_pos (by simpa using hk)]
      simp only [List.length_cons]
      omega

theorem mapInsert_perm_new (m : List (κ × Nat)) (k : κ) (i : Nat)
    (h : mapGet m k = none) : mapInsert m k i ~ (k, i) :: m := by
  simp only [mapInsert, filter_ne_self ((mapGet_none_iff m k).mp h)]
  exact List.Perm.refl _

theorem mapErase_perm_cons (m m' : List (κ × Nat)) (k : κ) (v : Nat)
    (hn : (m.map (·.1)).Nodup) (hp : m ~ (k, v) :: m') : mapErase m k ~ m' := by
  have h1 : mapErase m k ~ mapErase ((k, v) :: m') k := hp.filter _
  have hn' : (((k, v) :: m').map (·.1)).Nodup := (hp.map (·.1)).nodup_iff.mp hn
  simp only [List.map_cons, List.nodup_cons] at hn'
  have h2 : mapErase ((k, v) :: m') k = m' := by
    simp only [mapErase, ne_eq, not_true_eq_false, decide_false, Bool.false_eq_true, not_false_eq_true,
      List.filter_cons_of_neg]
    exact filter_ne_self fun e he e1 => hn'.1 (e1 ▸ List.mem_map_of_mem (f := (·.1)) he)
  rw [h2] at h1; exact h1

theorem mapInsert_perm_of {m R : List (κ × Nat)} {k : κ} {i : Nat} (p : m ~ (k, i) :: R) (hR : ∀ e ∈ R, e.1 ≠ k) :
    mapInsert m k i ~ m := by
  refine (List.Perm.cons _ ((p.filter _).trans ?_)).trans p.symm
  rw [List.filter_cons_of_neg (by simp)]
  exact List.Perm.of_eq (filter_ne_self hR)

theorem mapInsert_two {m m' : List (κ × Nat)} {a b : κ} {i : Nat} (hm : m ~ m')
    (ha : a ∉ m'.map (·.1)) (hb : b ∉ m'.map (·.1)) (hab : a ≠ b) :
    mapInsert (mapInsert m a i) b i ~ m' ++ [(a, i), (b, i)] := by
  have hfresh : ∀ x, x ∉ m'.map (·.1) → ∀ e ∈ m, e.1 ≠ x := fun x hx e he hex =>
    hx (hex ▸ List.mem_map_of_mem (f := (·.1)) (hm.mem_iff.mp he))
  have p1 := mapInsert_perm_new m a i ((mapGet_none_iff m a).mpr (hfresh a ha))
  have p2 := mapInsert_perm_new (mapInsert m a i) b i ((mapGet_none_iff _ b).mpr (by
    intro e he
    rcases List.mem_cons.mp (p1.mem_iff.mp he) with e1 | e1
    · rw [e1]; exact hab
    · exact hfresh b hb e e1))
  refine (p2.trans ((p1.trans (hm.cons _)).cons _)).trans ?_
  refine ((List.Perm.swap _ _ _).trans ?_).trans List.perm_append_comm
  exact List.Perm.refl _

theorem mapGet_append_of_not_mem (a b : List (κ × Nat)) (x : κ) (h : ∀ e ∈ a, e.1 ≠ x) :
    mapGet (a ++ b) x = mapGet b x := by
  induction a with
  | nil => rfl
  | cons e a ih =>
    obtain ⟨k, i⟩ := e
    simp only [List.cons_append, mapGet]
    rw [if_neg (h (k, i) List.mem_cons_self)]
    exact ih fun e he => h e (List.mem_cons_of_mem _ he)

end

/-- `m` is the cache `m0` with the entries `L` added under the projection `f`: it maps `f e` to the index of `e`,
the keys `f e` are distinct and were not in `m0`.  With `m0 = []`, `m` caches exactly `L` (the caches of a blob that
stores a tree); with `m0` the cache at the start of an operation, `L` is what the operation has added so far, and
nothing is asked of `m0`, whose keys need not be distinct under `LInv`. -/
structure Cache {κ : Type} [DecidableEq κ] (f : Nat × KVH → κ) (m0 m : List (κ × Nat)) (L : List (Nat × KVH)) :
    Prop where
  perm : m ~ L.map (fun e => (f e, e.1)) ++ m0
  nodup : (L.map f).Nodup
  fresh : ∀ e ∈ L, mapGet m0 (f e) = none

namespace Cache

variable {κ : Type} [DecidableEq κ] {f : Nat × KVH → κ} {m0 m m' : List (κ × Nat)} {L L' N : List (Nat × KVH)}

theorem refl (f : Nat × KVH → κ) (m0 : List (κ × Nat)) : Cache f m0 m0 [] :=
  ⟨List.Perm.refl _, List.nodup_nil, fun _ h => (by cases h)⟩

theorem of_perm (p : m ~ L.map (fun e => (f e, e.1))) (hn : (L.map f).Nodup) : Cache f [] m L :=
  ⟨by rw [List.append_nil]; exact p, hn, fun _ _ => rfl⟩

theorem perm_nil (c : Cache f [] m L) : m ~ L.map (fun e => (f e, e.1)) := by
  have := c.perm; rwa [List.append_nil] at this

theorem congr (c : Cache f m0 m L) (pm : m' ~ m) (pl : L ~ L') : Cache f m0 m' L' :=
  ⟨pm.trans (c.perm.trans ((pl.map _).append_right _)), (pl.map f).nodup_iff.mp c.nodup,
    fun e he => c.fresh e (pl.mem_iff.mpr he)⟩

theorem mem (c : Cache f m0 m L) {e : Nat × KVH} (he : e ∈ L) : (f e, e.1) ∈ m :=
  c.perm.mem_iff.mpr (List.mem_append_left _ (List.mem_map_of_mem (f := fun e => (f e, e.1)) he))

theorem get_none_of (c : Cache f m0 m L) {x : κ} (hx : x ∉ L.map f) (h0 : mapGet m0 x = none) : mapGet m x = none := by
  refine (mapGet_none_iff m x).mpr fun e he => ?_
  rcases List.mem_append.mp (c.perm.mem_iff.mp he) with h | h
  · obtain ⟨e', he', rfl⟩ := List.mem_map.mp h
    exact fun e1 => hx (e1 ▸ List.mem_map_of_mem he')
  · exact (mapGet_none_iff m0 x).mp h0 e h

/-- the default `h0 := by rfl` settles the side condition for `m0 = []`, the cache of a stored tree; over a base cache
it has to be given -/
theorem insert_new (c : Cache f m0 m L) {e : Nat × KVH} (hn : f e ∉ L.map f)
    (h0 : mapGet m0 (f e) = none := by rfl) : Cache f m0 (mapInsert m (f e) e.1) (e :: L) :=
  ⟨(mapInsert_perm_new m _ _ (c.get_none_of hn h0)).trans (List.Perm.cons _ c.perm), List.nodup_cons.mpr ⟨hn, c.nodup⟩,
    fun x hx => (List.mem_cons.mp hx).elim (fun e1 => e1 ▸ h0) (c.fresh x)⟩

theorem insert_same (c : Cache f m0 m L) {e : Nat × KVH} (he : e ∈ L) : Cache f m0 (mapInsert m (f e) e.1) L := by
  have pe := List.perm_cons_erase he
  have hk := (List.nodup_cons.mp ((pe.map f).nodup_iff.mp c.nodup)).1
  refine ⟨(mapInsert_perm_of (R := (L.erase e).map (fun e => (f e, e.1)) ++ m0)
    (c.perm.trans ((pe.map _).append_right _)) fun x hx => ?_).trans c.perm, c.nodup, c.fresh⟩
  rcases List.mem_append.mp hx with h | h
  · obtain ⟨e', he', rfl⟩ := List.mem_map.mp h
    exact fun e1 => hk (e1 ▸ List.mem_map_of_mem he')
  · exact (mapGet_none_iff m0 (f e)).mp (c.fresh e he) x h

theorem trans {b : List (κ × Nat)} (c : Cache f m0 m N) (c0 : Cache f b m0 L) : Cache f b m (N ++ L) := by
  refine ⟨c.perm.trans (by rw [List.map_append, List.append_assoc]; exact List.Perm.append_left _ c0.perm), ?_,
    fun e he => ?_⟩
  · rw [List.map_append]
    refine List.nodup_append.mpr ⟨c.nodup, c0.nodup, fun x hx y hy e => ?_⟩
    obtain ⟨u, hu, rfl⟩ := List.mem_map.mp hx
    obtain ⟨w, hw, rfl⟩ := List.mem_map.mp hy
    exact (mapGet_none_iff m0 _).mp (c.fresh u hu) _ (c0.mem hw) e.symm
  · rcases List.mem_append.mp he with h | h
    · exact (mapGet_none_iff b _).mpr fun x hx =>
        (mapGet_none_iff m0 _).mp (c.fresh e h) x (c0.perm.mem_iff.mpr (List.mem_append_right _ hx))
    · exact c0.fresh e h

theorem get_old (c : Cache f m0 m L) (hn0 : (m0.map (·.1)).Nodup) {x : κ} (hx : x ∉ L.map f) :
    mapGet m x = mapGet m0 x := by
  have hne : ∀ e ∈ L.map (fun e => (f e, e.1)), e.1 ≠ x := fun e he e1 => by
    obtain ⟨e', he', rfl⟩ := List.mem_map.mp he
    exact hx (e1 ▸ List.mem_map_of_mem he')
  rw [← mapGet_append_of_not_mem _ m0 x hne]
  refine (mapGet_perm c.perm.symm ?_ x).symm
  rw [List.map_append, List.map_map]
  refine List.nodup_append.mpr ⟨c.nodup, hn0, fun a ha b hb e => ?_⟩
  obtain ⟨y, hy, rfl⟩ := List.mem_map.mp ha
  obtain ⟨z, hz, rfl⟩ := List.mem_map.mp hb
  exact (mapGet_none_iff m0 _).mp (c.fresh y hy) z hz e.symm

theorem keys_nodup (c : Cache f [] m L) : (m.map (·.1)).Nodup := by
  refine (c.perm_nil.map (·.1)).nodup_iff.mpr ?_
  rw [List.map_map]
  exact c.nodup

theorem get (c : Cache f [] m L) {e : Nat × KVH} (he : e ∈ L) : mapGet m (f e) = some e.1 :=
  mapGet_of_mem _ _ _ c.keys_nodup (c.mem he)

theorem of_get (c : Cache f [] m L) {x : κ} {i : Nat} (h : mapGet m x = some i) : ∃ e ∈ L, f e = x ∧ e.1 = i := by
  obtain ⟨e, he, hek⟩ := List.mem_map.mp (c.perm_nil.mem_iff.mp (mapGet_mem _ _ _ h))
  injection hek with e1 e2
  exact ⟨e, he, e1, e2⟩

theorem get_none (c : Cache f [] m L) {x : κ} : mapGet m x = none ↔ x ∉ L.map f := by
  constructor
  · intro h hm
    obtain ⟨e, he, rfl⟩ := List.mem_map.mp hm
    rw [c.get he] at h
    cases h
  · exact fun h => c.get_none_of h rfl

theorem isSome_iff (c : Cache f [] m L) (x : κ) : (mapGet m x).isSome = true ↔ x ∈ L.map f := by
  rw [← Decidable.not_iff_not, ← c.get_none]
  cases mapGet m x <;> simp

theorem eq_iff_idx (c : Cache f m0 m L) (hi : (L.map (·.1)).Nodup) {e0 : Nat × KVH} (h0 : e0 ∈ L) :
    ∀ e ∈ L, (f e = f e0 ↔ e.1 = e0.1) := by
  intro e he
  constructor
  · intro h
    rw [inj_of_nodup_map f L c.nodup e he e0 h0 h]
  · intro h
    rw [inj_of_nodup_map (·.1) L hi e he e0 h0 h]

theorem erase {e : Nat × KVH} (c : Cache f [] m (e :: L)) : Cache f [] (mapErase m (f e)) L := by
  have hn := List.nodup_cons.mp c.nodup
  refine of_perm ((c.perm_nil.filter _).trans ?_) hn.2
  rw [List.map_cons, List.filter_cons_of_neg (by simp)]
  refine List.Perm.of_eq (filter_ne_self fun x hx => ?_)
  obtain ⟨e', he', rfl⟩ := List.mem_map.mp hx
  exact fun h : f e' = f e => hn.1 (h ▸ List.mem_map_of_mem he')

theorem reinsert {e : Nat × KVH} (c : Cache f [] m (e :: L)) (e' : Nat × KVH) (h : f e' = f e) :
    Cache f [] (mapInsert m (f e) e'.1) (e' :: L) := by
  refine of_perm ?_ (by rw [List.map_cons, h]; exact c.nodup)
  rw [List.map_cons, h]
  exact List.Perm.cons _ c.erase.perm_nil

end Cache

end ChiaModel.Blob
