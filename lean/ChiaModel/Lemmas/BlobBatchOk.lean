import ChiaModel.Lemmas.BlobInsOk
import ChiaModel.Lemmas.BlobForest
/-
C18, block array under `LInv`: `batch_insert`.  Central: `batchCommit_ok` — a validated batch cannot fail.  The
breadth-first search of `get_min_height_leaf` ends in a live leaf; the allocation loops run as BlobForest says (`FT`:
they only write newly allocated indexes and only add keys of the batch), so the leaf found afterwards and its parent
are still the blocks of the original blob.
-/
namespace ChiaModel.Blob
open List M

/-- `batchValid` accepts exactly the batches whose keys and hashes are pairwise distinct, unknown to the caches and
not among those seen so far.  "Known to the cache" is a parameter (`K`, `H`), so that it can be read as a lookup
(`batchValid_spec`) or as membership in the stored tree (`batchValid_eq` of BlobBatchRef). -/
theorem batchValid_iff (s : Blob) (K : KeyId → Prop) (H : Hash → Prop)
    (hK : ∀ k, (mapGet s.k2i k).isSome = true ↔ K k) (hH : ∀ h, (mapGet s.h2i h).isSome = true ↔ H h)
    (l : List KVH) (ks : List KeyId) (hs : List Hash) :
    batchValid s l ks hs = true ↔
      ((l.map (·.1)).Nodup ∧ (l.map (·.2.2)).Nodup ∧ ∀ e ∈ l, ¬ K e.1 ∧ ¬ H e.2.2 ∧ e.1 ∉ ks ∧ e.2.2 ∉ hs) := by
  induction l generalizing ks hs with
  | nil => simp [batchValid]
  | cons x l ih =>
    obtain ⟨k, v, h⟩ := x
    -- one step of the loop with the induction hypothesis for the rest; the two sides then say the same of the head
    -- and of each later item, with the conjuncts in another order
    simp only [batchValid, Bool.or_eq_true, List.contains_iff_mem, hK, hH, ih, Bool.if_false_left, Bool.and_eq_true,
      Bool.not_eq_true', decide_eq_false_iff_not, List.map_cons, List.nodup_cons, List.mem_cons, forall_eq_or_imp,
      List.mem_map, not_exists, not_and, not_or]
    constructor
    · rintro ⟨⟨a1, a2⟩, ⟨b1, b2⟩, n1, n2, hall⟩
      exact ⟨⟨fun e he => (hall e he).2.2.1.1, n1⟩, ⟨fun e he => (hall e he).2.2.2.1, n2⟩, ⟨a1, b1, a2, b2⟩,
        fun e he => ⟨(hall e he).1, (hall e he).2.1, (hall e he).2.2.1.2, (hall e he).2.2.2.2⟩⟩
    · rintro ⟨⟨m1, n1⟩, ⟨m2, n2⟩, ⟨a1, b1, a2, b2⟩, hall⟩
      exact ⟨⟨a1, a2⟩, ⟨b1, b2⟩, n1, n2, fun e he =>
        ⟨(hall e he).1, (hall e he).2.1, ⟨m1 e he, (hall e he).2.2.1⟩, m2 e he, (hall e he).2.2.2⟩⟩

theorem batchValid_spec (s : Blob) (l : List KVH) (h : batchValid s l [] [] = true) :
    (∀ e ∈ l, mapGet s.k2i e.1 = none ∧ mapGet s.h2i e.2.2 = none)
    ∧ (l.map (·.1)).Nodup ∧ (l.map (·.2.2)).Nodup := by
  obtain ⟨n1, n2, hall⟩ := (batchValid_iff s _ _ (fun _ => Iff.rfl) (fun _ => Iff.rfl) l [] []).mp h
  exact ⟨fun e he => ⟨Option.not_isSome_iff_eq_none.mp (hall e he).1, Option.not_isSome_iff_eq_none.mp (hall e he).2.1⟩,
    n1, n2⟩

/-- on any block list that agrees with a locally well-formed blob on its live indexes, the
breadth-first search finds a live leaf of that blob -/
theorem bf_ok_aux {s : Blob} (hinv : LInv s) (bl : List Block)
    (hag : ∀ j, j < s.blocks.length → j ∉ s.free → bl[j]? = s.blocks[j]?)
    (f : Nat) (dq q : List Nat) (I : BfInv s dq q) (hdq : dq ≠ [])
    (hfuel : s.blocks.length + 1 ≤ f + q.length) :
    ∃ i b, bfAux bl f dq q = some (i, b) ∧ i ∉ s.free ∧ s.blocks[i]? = some b ∧ b.node.isLeaf = true := by
  induction f generalizing dq q with
  | zero => have := I.bound; omega
  | succ f ih =>
    cases dq with
    | nil => exact absurd rfl hdq
    | cons idx rest =>
      obtain ⟨hil, hif⟩ := I.live idx (List.mem_append_right _ List.mem_cons_self)
      obtain ⟨b, hb⟩ := exists_block hil
      simp only [bfAux, hag idx hil hif, hb]
      obtain ⟨d, n⟩ := b
      cases n with
      | leaf h p k v => exact ⟨idx, _, rfl, hif, hb, rfl⟩
      | internal h p l r =>
        simp only
        obtain ⟨hidxq, I'⟩ := I.visit hinv hb
        rw [show q.contains idx = false by simpa using hidxq]
        simp only [Bool.false_eq_true, if_false]
        exact ih (rest ++ [l, r]) (idx :: q) I' (by simp) (by simp only [List.length_cons] at hfuel ⊢; omega)

theorem bf_ok {s : Blob} (hinv : LInv s) (bl : List Block)
    (hag : ∀ j, j < s.blocks.length → j ∉ s.free → bl[j]? = s.blocks[j]?)
    (hne : s.blocks ≠ []) (f : Nat) (hf : s.blocks.length + 1 ≤ f) :
    ∃ i b, bfAux bl f [0] [] = some (i, b) ∧ i ∉ s.free ∧ s.blocks[i]? = some b ∧ b.node.isLeaf = true :=
  bf_ok_aux hinv bl hag f [0] [] (BfInv.root hinv (List.length_pos_iff.mpr hne)) (by simp) (by simpa using hf)

/-- `insert_subtree_at_key` from the state `s1` after its allocation: three writes (the new internal block, the
re-parented root of the new subtree, the patched old parent), the dirty-marking walk, then the old leaf re-parented -/
theorem insertSubtree_run {s' s1 : Blob} {ni idx opi N : Nat} {ok : KeyId} {ov : ValueId} {d dp : Bool} {oh hh : Hash}
    {pp : Option Nat} {pl pr : Nat} {bN : Block} (e1 : getNewIndex s' = (.ok ni, s1)) (hni : ni < s1.blocks.length)
    (hk : mapGet s1.k2i ok = some idx) (hi : s1.blocks[idx]? = some { dirty := d, node := .leaf oh (some opi) ok ov })
    (hN : s1.blocks[N]? = some bN) (ho : s1.blocks[opi]? = some { dirty := dp, node := .internal hh pp pl pr })
    (hkid : idx = pl ∨ idx = pr) (n1 : opi ≠ N) (n2 : opi ≠ ni) (n3 : N ≠ ni) :
    insertSubtreeAtKey ok N .left s'
      = (do markLineageDirty opi; let _ ← updateParent idx (some ni); pure () : M Unit)
          (((s1.write ni { dirty := false, node := .internal (internalHash bN.node.hash oh) (some opi) N idx }).write N
              { bN with node := bN.node.setParent (some ni) }).write opi
            { dirty := dp, node := .internal hh pp (if idx = pl then ni else pl) (if idx = pl then pr else ni) }) := by
  have lN : N < s1.blocks.length := lt_of_block hN
  have l2 := write_len s1 ni { dirty := false, node := .internal (internalHash bN.node.hash oh) (some opi) N idx } hni
  have hN2 : (s1.write ni { dirty := false, node := .internal (internalHash bN.node.hash oh) (some opi) N idx }).blocks[N]?
      = some bN := by rw [write_get _ _ _ hni, if_neg n3]; exact hN
  have ho3 : ((s1.write ni { dirty := false, node := .internal (internalHash bN.node.hash oh) (some opi) N idx }).write N
      { bN with node := bN.node.setParent (some ni) }).blocks[opi]? = some { dirty := dp, node := .internal hh pp pl pr } := by
    rw [write_get _ _ _ (l2 ▸ lN), if_neg n1, write_get _ _ _ hni, if_neg n2]; exact ho
  have hZ : (if idx = pl then Node.internal hh pp ni pr else .internal hh pp pl ni)
      = .internal hh pp (if idx = pl then ni else pl) (if idx = pl then pr else ni) := by
    by_cases h1 : idx = pl
    · simp only [if_pos h1]
    · simp only [if_neg h1]
  unfold insertSubtreeAtKey
  simp only [bind_run, e1, getLeafByKey_run, hk, hi, getNode, getBlock_run, hN, pure_run,
    writeBlock_run_le _ _ _ (Nat.le_of_lt hni), show (Node.leaf oh (some opi) ok ov).hash = oh from rfl,
    show (Node.leaf oh (some opi) ok ov).parent = some opi from rfl, updateParent_run N (some ni) _ bN hN2,
    replaceChild_run opi idx ni _ ho3 hkid, hZ]

/-- `insert_subtree_at_key` at a live leaf of the original blob cannot fail: after the allocation phase (`FT`)
the leaf, its parent and the key cache entry are as in the original blob, and the new subtree's root is a block -/
theorem insertSubtreeAtKey_ok {s : Blob} (hinv : LInv s) (hlen1 : s.k2i.length ≠ 1) {s' : Blob} {N : IT}
    (t : FT s s' [N]) (idx : Nat) {d : Bool} {oh : Hash} {op : Option Nat} {k0 : KeyId} {ov : ValueId}
    (hlive : idx ∉ s.free) (hb : s.blocks[idx]? = some { dirty := d, node := .leaf oh op k0 ov }) :
    Ok (insertSubtreeAtKey k0 N.idx .left) s' (fun _ _ => True) := by
  have hidx : idx < s.blocks.length := lt_of_block hb
  obtain ⟨c1, _⟩ := hinv.leaf_cached hlive hb
  obtain ⟨hnone, hsome⟩ := hinv.leaf_parent hlive hb
  cases op with
  | none => exact absurd (hnone rfl) hlen1
  | some opi =>
    obtain ⟨hopf, d', ph, pp, pl, pr, hpb, hpc⟩ := hsome opi rfl
    have hopi : opi < s.blocks.length := lt_of_block hpb
    have hNm : N.idx ∈ fIdx [N] := (fIdx_single N).symm ▸ N.idx_mem
    obtain ⟨ni, s1, e1, A⟩ := getNewIndex_alloc t hinv.freeLt
    obtain ⟨hi1, li, _⟩ := A.old t hidx hlive
    obtain ⟨ho1, lo, _, n2, n1⟩ := A.old t hopi hopf
    have hk1 : mapGet s1.k2i k0 = some idx := by
      rw [A.k2i, t.old_key hinv (by rw [c1]; exact fun h => by cases h), c1]
    have lN : N.idx < s1.blocks.length := Nat.lt_of_lt_of_le (t.lt _ hNm) A.len
    obtain ⟨bN, hbN⟩ := exists_block lN
    unfold Ok
    rw [insertSubtree_run e1 A.lt hk1 (hi1.trans hb) hbN (ho1.trans hpb) hpc (fun e => n1 (e ▸ hNm)) n2
      fun e => A.notIn (e ▸ hNm)]
    -- the three writes keep the length and the pointer range, which is all the walk needs
    have l2 := write_len s1 ni { dirty := false, node := .internal (internalHash bN.node.hash oh) (some opi) N.idx idx } A.lt
    have r2 := A.range.write (b := { dirty := false, node := .internal (internalHash bN.node.hash oh) (some opi) N.idx idx })
      A.lt fun p hp => by cases hp; exact lo
    have l3 := write_len _ N.idx { bN with node := bN.node.setParent (some ni) } (l2 ▸ lN)
    have r3 := r2.write (b := { bN with node := bN.node.setParent (some ni) }) (l2 ▸ lN) fun q hq => by
      rw [Node.setParent_parent] at hq; cases hq; rw [l2]; exact A.lt
    have lo3 := (l3.trans l2) ▸ lo
    have l4 := write_len _ opi
      { dirty := d', node := .internal ph pp (if idx = pl then ni else pl) (if idx = pl then pr else ni) } lo3
    refine (markLineageDirty_spec opi _ (r3.write lo3 fun q hq => ?_) (l4 ▸ lo3)).bind fun _ s6 ⟨hl6, _⟩ => ?_
    · rw [l3, l2]
      exact Nat.lt_of_lt_of_le (hinv.rangeP opi _ hpb q hq) (Nat.le_trans t.lenLe A.len)
    · obtain ⟨b6, hb6⟩ := exists_block (s := s6) (i := idx)
        (by rw [hl6, l4, l3, l2]; exact li)
      exact Ok.bind_eq (updateParent_run idx (some ni) s6 b6 hb6) (Ok.pure trivial)

/-- the attach phase of a validated batch cannot fail: the allocation loops run as `batchLeaves_ft`
and `buildUp_ft` say, the breadth-first search then finds a live leaf of the original blob -/
theorem batchRest_ok {s : Blob} (hinv : LInv s) (hlen1 : s.k2i.length ≠ 1) (hne : s.blocks ≠ [])
    (l : List KVH) (hK : ∀ e ∈ l, mapGet s.k2i e.1 = none ∧ mapGet s.h2i e.2.2 = none)
    (hkn : (l.map (·.1)).Nodup) (hhn : (l.map (·.2.2)).Nodup) :
    Ok (batchRest l) s (fun _ _ => True) := by
  obtain ⟨idxs, s1, G, e1, hi1, _, t1⟩ := batchLeaves_ft hinv.freeLt l (FT.refl hinv.freeNodup hinv.rangeP)
    hkn hhn hK
  obtain ⟨top, s2, Q, e2, hi2, _, t2⟩ := buildUp_ft hinv.freeLt idxs.length G (by simpa using t1)
  unfold batchRest
  rw [← hi1] at e2
  refine Ok.bind_eq e1 (Ok.bind_eq e2 ?_)
  subst hi2
  match Q, t2 with
  | [], _ => exact Ok.pure trivial
  | _ :: _ :: _, _ => exact Ok.pure trivial
  | [N], t2 =>
    simp only [List.map_cons, List.map_nil]
    have hne2 : s2.blocks.isEmpty = false := by
      have := t2.lt N.idx ((fIdx_single N).symm ▸ N.idx_mem)
      cases hb : s2.blocks with
      | nil => rw [hb] at this; cases this
      | cons _ _ => rfl
    obtain ⟨i0, b0, hbf, hi0f, hb0, hleaf0⟩ := bf_ok hinv s2.blocks
      (fun j hj hjf => t2.same j hj hjf) hne (2 * s2.blocks.length + 2) (by have := t2.lenLe; omega)
    have hrun : minHeightLeaf s2 = (.ok b0.node, s2) := by
      rw [minHeightLeaf_run, hne2, hbf]; rfl
    refine Ok.bind_eq hrun ?_
    obtain ⟨d0, n0⟩ := b0
    cases n0 with
    | internal _ _ _ _ => cases hleaf0
    | leaf oh op k0 ov => exact insertSubtreeAtKey_ok hinv hlen1 t2 i0 hi0f hb0

/-- an accepted insert leaves the items before it in the batch fresh: `Tree.fresh_after_insert` read off the caches -/
theorem CacheStep.fresh {s s' : Blob} {k : KeyId} {v : ValueId} {h : Hash} {r : List KVH} (c : CacheStep s s' k h)
    (hk : ((r ++ [(k, v, h)]).map (·.1)).Nodup) (hh : ((r ++ [(k, v, h)]).map (·.2.2)).Nodup)
    (hfr : ∀ e ∈ r ++ [(k, v, h)], mapGet s.k2i e.1 = none ∧ mapGet s.h2i e.2.2 = none) :
    (r.map (·.1)).Nodup ∧ (r.map (·.2.2)).Nodup
      ∧ ∀ e ∈ r, mapGet s'.k2i e.1 = none ∧ mapGet s'.h2i e.2.2 = none := by
  rw [List.map_append] at hk hh
  obtain ⟨hkr, _, hkd⟩ := nodup_append_disj hk
  obtain ⟨hhr, _, hhd⟩ := nodup_append_disj hh
  refine ⟨hkr, hhr, fun e he => ?_⟩
  have hf := hfr e (List.mem_append_left _ he)
  exact ⟨(c.1 e.1).mpr ⟨fun a => hkd _ (List.mem_map_of_mem he) (by rw [a]; simp), hf.1⟩,
    (c.2 e.2.2).mpr ⟨fun a => hhd _ (List.mem_map_of_mem he) (by rw [a]; simp), hf.2⟩⟩

theorem batchCommit_ok {s : Blob} (hinv : LInv s) (l : List KVH) (hv : batchValid s l [] [] = true) :
    Ok (batchCommit l) s (fun _ _ => True) := by
  obtain ⟨hall, hkn, hhn⟩ := batchValid_spec s l hv
  unfold batchCommit
  simp only [Ok, bind_run, M.get, ite_run]
  by_cases hle : s.k2i.length ≤ 1
  · rw [if_pos hle]
    cases hrev : l.reverse with
    | nil => exact ⟨(), s, rfl, trivial⟩
    | cons x1 r1 =>
      have hl : l = r1.reverse ++ [x1] := by
        have := congrArg List.reverse hrev; simpa using this
      obtain ⟨k1, v1, h1⟩ := x1
      subst hl
      have hx1 := hall (k1, v1, h1) (by simp)
      obtain ⟨a1, s1, e1, hinv1, c1⟩ := insert_auto_ok hinv k1 v1 h1 hx1.1 hx1.2
      obtain ⟨hkn1, hhn1, hall1⟩ := c1.fresh hkn hhn hall
      simp only [bind_run, e1]
      cases r1 with
      | nil => exact ⟨(), s1, rfl, trivial⟩
      | cons x2 r2 =>
        obtain ⟨k2, v2, h2⟩ := x2
        rw [List.reverse_cons] at hkn1 hhn1 hall1
        have hx2 := hall1 (k2, v2, h2) (by simp)
        obtain ⟨a2, s2, e2, hinv2, c2⟩ := insert_auto_ok hinv1 k2 v2 h2 hx2.1 hx2.2
        obtain ⟨hkn2, hhn2, hall2⟩ := c2.fresh hkn1 hhn1 hall1
        simp only [bind_run, e2]
        -- the caches of `s2` know `k1` and `k2`, which differ since `s1` knew `k1` and not `k2`
        have hk1_in : mapGet s2.k2i k1 ≠ none := fun hn => ((c1.1 k1).mp ((c2.1 k1).mp hn).2).1 rfl
        have hk2_in : mapGet s2.k2i k2 ≠ none := fun hn => ((c2.1 k2).mp hn).1 rfl
        have hlen2 : s2.k2i.length ≠ 1 := fun hl => by
          cases hg1 : mapGet s2.k2i k1 with
          | none => exact hk1_in hg1
          | some i1 =>
            cases hg2 : mapGet s2.k2i k2 with
            | none => exact hk2_in hg2
            | some i2 =>
              exact ((c1.1 k1).mp ((mapGet_single_eq s2.k2i hl hg2 hg1).1 ▸ hx2.1)).1 rfl
        exact batchRest_ok hinv2 hlen2 (hinv2.blocks_ne_nil k1 hk1_in) r2.reverse hall2 hkn2 hhn2
  · rw [if_neg hle]
    refine batchRest_ok hinv (by omega) (fun hb => hle ?_) l hall hkn hhn
    rw [hinv.empty_of_no_blocks hb]; exact Nat.zero_le _

theorem batchInsert_keepOrOk {s : Blob} (hinv : LInv s) (l : List KVH) : KeepOrOk (batchInsert l) s := by
  unfold batchInsert KeepOrOk Ok
  simp only [bind_run, M.get, ite_run]
  cases hv : batchValid s l [] [] with
  | false => exact Or.inl rfl
  | true => exact Or.inr (batchCommit_ok hinv l hv)

end ChiaModel.Blob
