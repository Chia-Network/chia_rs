import ChiaModel.Lemmas.BlobForest
import ChiaModel.Lemmas.BlobInsRef
import ChiaModel.Lemmas.BlobBfs
import ChiaModel.Lemmas.BlobBatchOk
/-
C18, per-operation refinement: `batch_insert`.  The subtree built in the allocation phase (BlobForest) is grafted to
the left of the minimum-height leaf (`insertSubtree_good`, `batchRest_good`).  Central: `batch_refines`.
-/
namespace ChiaModel.Blob
open List M

/-- `insert_subtree_at_key` after the allocation phase has built the subtree `N`.  Let `s1` be `s'` after the
allocation of `ni`.  (1) The run (`insertSubtree_run`) is four writes on `s1`, with the dirty-marking walk before the
last one.  (2) The state `sw` with all four writes done meets `GraftPost`: it stores the grafted tree and has the hash
invariant up to the hole at `opi`.  (3) The walk runs on `s4`, which differs from `sw` in the parent pointer of the
leaf block `idx` only; what it does to the flags reads the same from `sw` to the final state (`Marked.write`). -/
theorem insertSubtree_good {s s' : Blob} {t N : IT} (g : Good s t) (ft : FT s s' [N])
    {idx : Nat} {ok : KeyId} {ov : ValueId} {oh : Hash} {opi : Nat}
    (hleaf : (idx, ok, ov, oh) ∈ t.leaves) {C : List Frame} (ht : t = (IT.leaf idx ok ov oh).plug C)
    (hb : s.blocks[idx]? = some { dirty := false, node := .leaf oh (some opi) ok ov }) :
    ∃ S ni, insertSubtreeAtKey ok N.idx .left s' = (.ok (), S)
      ∧ Good S ((IT.joinI .left ni N (.leaf idx ok ov oh)).plug C)
      ∧ (LH s.blocks none t → LH S.blocks none ((IT.joinI .left ni N (.leaf idx ok ov oh)).plug C)) := by
  have hinv := g.linv
  have hlt : ∀ i ∈ s.free, i < s.blocks.length := hinv.freeLt
  have hidxm : idx ∈ t.indices := t.leaf_idx_mem _ hleaf
  have hlive := (g.live_iff idx).mpr hidxm
  obtain ⟨hof, d, hh, pp, pl, pr, hpb, hkid⟩ := hinv.parent_of hlive.2 hb rfl
  have hopil : opi < s.blocks.length := lt_of_block hpb
  have hopim : opi ∈ t.indices := (g.live_iff opi).mp ⟨hopil, hof⟩
  have hNF := fIdx_single N
  have hNL := fLeaves_single N
  have hrN := ft.rep N (by simp)
  have hNn : N.indices.Nodup := hNF ▸ ft.nodup
  have hNnew : ∀ j ∈ N.indices, j ∉ t.indices := fun j hj => g.not_mem_of_new (ft.new j (hNF ▸ hj))
  obtain ⟨ni, s1, e1, A⟩ := getNewIndex_alloc ft hlt
  have hniN : ni ∉ N.indices := hNF ▸ A.notIn
  have hnit : ni ∉ t.indices := g.not_mem_of_new A.fresh
  have old1 : ∀ j ∈ t.indices, s1.blocks[j]? = s.blocks[j]? := fun j hj =>
    (A.old ft ((g.live_iff j).mpr hj).1 ((g.live_iff j).mpr hj).2).1
  obtain ⟨hidx1, li, fi, n6, _⟩ := A.old ft hlive.1 hlive.2
  obtain ⟨ho1, lo, fo, n2, _⟩ := A.old ft hopil hof
  rw [hb] at hidx1
  rw [hpb] at ho1
  have new1 : ∀ j ∈ N.indices, s1.blocks[j]? = s'.blocks[j]? := fun j hj => A.same j (hrN.lt j hj)
  obtain ⟨bN, hbN, hbNp, hbNl⟩ := hrN.root_block
  have n1 : opi ≠ N.idx := fun e => hNnew _ N.idx_mem (e ▸ hopim)
  have n3 : N.idx ≠ ni := fun e => hniN (e ▸ N.idx_mem)
  have n4 : idx ≠ opi := (internal_ne_leaf hpb hb).symm
  have n5 : idx ≠ N.idx := fun e => hNnew _ N.idx_mem (e ▸ hidxm)
  have l1 : ni < s1.blocks.length := A.lt
  have lN : N.idx < s1.blocks.length := Nat.lt_of_lt_of_le (hrN.lt _ N.idx_mem) A.len
  have f1 : ni ∉ s1.free := fun hm => ((A.freeIff ni).mp hm).2.1 rfl
  have fN : N.idx ∉ s1.free := fun hm => ((A.freeIff _).mp hm).2.2 (by rw [hNF]; exact N.idx_mem)
  have lt1 : ∀ {x}, x < s.blocks.length → x < s1.blocks.length := fun h => Nat.lt_of_lt_of_le h (Nat.le_trans ft.lenLe A.len)
  have hk1 : mapGet s1.k2i ok = some idx :=
    (A.k2i ▸ ft.kc.trans g.kc).get (e := (idx, ok, ov, oh)) (List.mem_append.mpr (Or.inr hleaf))
  have hN1 : s1.blocks[N.idx]? = some bN := by rw [new1 _ N.idx_mem]; exact hbN
  -- (1) the run: three writes, the walk, then the leaf re-parented
  have hrun := insertSubtree_run e1 l1 hk1 hidx1 hN1 ho1 hkid n1 n2 n3
  -- The four writes: the new internal block `X` at `ni`, the re-parented root `Y` of `N`, the patched parent `Z`,
  -- the re-parented leaf `B`.  All are at live indexes of `s1` and keep length, free list, pointer range and
  -- caches.  The code marks the lineage dirty on `s4`, before the last write; `sw` is `s4` with that write done.
  generalize hX : ({ dirty := false, node := .internal (internalHash bN.node.hash oh) (some opi) N.idx idx } : Block) = X
    at hrun
  have k2 : Kept s1.blocks.length s1.free [] [] (N.leaves ++ t.leaves) (s1.write ni X) :=
    Kept.write ⟨rfl, rfl, A.range, by rw [← hNL, A.k2i]; exact ft.kc.trans g.kc, by rw [← hNL, A.h2i]; exact ft.hc.trans g.hc⟩ l1 f1
      (by rw [← hX]; intro p hp; cases hp; exact lo) (by rw [← hX]; intro h q k v hn; cases hn)
  generalize hs2 : s1.write ni X = s2 at k2 hrun
  have k3 := k2.setParent (x := bN) (some ni) lN fN (fun q e => by cases e; exact l1)
    fun h q k v hn => List.mem_append.mpr (Or.inl (hbNl h q k v hn))
  generalize hY : ({ bN with node := bN.node.setParent (some ni) } : Block) = Y at k3 hrun
  generalize hs3 : s2.write N.idx Y = s3 at k3 hrun
  generalize hZ : ({ dirty := d, node := .internal hh pp (if idx = pl then ni else pl) (if idx = pl then pr else ni) } : Block) = Z
    at hrun
  have k4 := k3.write (b := Z) lo fo (by rw [← hZ]; exact fun p hp => lt1 (g.range opi _ hpb p hp))
    (by rw [← hZ]; intro h q k v hn; cases hn)
  generalize hs4 : s3.write opi Z = s4 at k4 hrun
  generalize hBk : ({ dirty := false, node := .leaf oh (some ni) ok ov } : Block) = B
  have kw := k4.write (b := B) li fi (by rw [← hBk]; intro p hp; cases hp; exact l1)
    (by rw [← hBk]; intro h q k v hn; cases hn; exact List.mem_append.mpr (Or.inr hleaf))
  generalize hsw : s4.write idx B = sw at kw
  have len4 := k4.len
  have free4 := k4.free
  have r4 := k4.range
  have lenw := kw.len
  have freew := kw.free
  have eB : ∀ j, s4.blocks[j]? = if j = opi then some Z else if j = N.idx then some Y
      else if j = ni then some X else s1.blocks[j]? := by
    intro j
    rw [← hs4, write_get _ _ _ (by rw [k3.len]; exact lo), ← hs3, write_get _ _ _ (by rw [k2.len]; exact lN), ← hs2,
      write_get _ _ _ l1]
  have ew : ∀ j, sw.blocks[j]? = if j = idx then some B else s4.blocks[j]? := by
    intro j; rw [← hsw, write_get _ _ _ (by rw [len4]; exact li)]
  have hi4 : s4.blocks[idx]? = some { dirty := false, node := .leaf oh (some opi) ok ov } := by
    rw [eB idx, if_neg n4, if_neg n5, if_neg n6]; exact hidx1
  have hNo : ∀ j ∈ N.indices, j ≠ N.idx → sw.blocks[j]? = s'.blocks[j]? := fun j hj hjN => by
    have hjt := hNnew j hj
    rw [ew, if_neg (fun (e : j = idx) => hjt (e ▸ hidxm)), eB, if_neg (fun (e : j = opi) => hjt (e ▸ hopim)), if_neg hjN,
      if_neg (fun (e : j = ni) => hniN (e ▸ hj)), new1 j hj]
  -- (2) the state with all four writes done stores the grafted tree
  have GP : GraftPost s sw t N idx ni opi .left oh ok ov pp pl pr (if idx = pl then ni else pl) (if idx = pl then pr else ni) := by
    refine {
      good := g, leafMem := hleaf, leafB := hb, par := ⟨d, hh, hpb⟩, pkids := ?_, niNew := hnit, nNew := hNnew,
      niN := hniN, nNodup := hNn, repN := ?_, bNi := ?_, bIdx := ?_, bOpi := ?_, bOther := ?_, lenLe := ?_,
      newIdx := ?_, free := ?_, freeNodup := by rw [freew]; exact A.freeNodup,
      k2i := kw.kc.perm_nil.trans (by rw [List.map_append]; exact List.Perm.append_left _ g.k2i.symm),
      h2i := kw.hc.perm_nil.trans (by rw [List.map_append]; exact List.Perm.append_left _ g.h2i.symm),
      keys := by rw [← List.map_append]; exact kw.kc.nodup, hashes := by rw [← List.map_append]; exact kw.hc.nodup,
      range := kw.range }
    · by_cases h1 : idx = pl
      · rw [if_pos h1, if_pos h1]; exact Or.inl ⟨h1, rfl, rfl⟩
      · rw [if_neg h1, if_neg h1]; exact Or.inr ⟨hkid.resolve_left h1, h1, rfl, rfl⟩
    · refine hrN.reparent hNn (fun y hy => ?_) hNo
      rw [hbN] at hy
      cases hy
      rw [ew, if_neg (fun e => n5 e.symm), eB, if_neg (fun e => n1 e.symm), if_pos rfl, ← hY]
    · refine ⟨false, internalHash bN.node.hash oh, ?_⟩
      rw [ew, if_neg (fun e => n6 e.symm), eB, if_neg (fun e => n2 e.symm), if_neg (fun e => n3 e.symm), if_pos rfl, ← hX]
      rfl
    · rw [ew, if_pos rfl, ← hBk]
    · refine ⟨d, hh, ?_⟩
      rw [ew, if_neg (fun e => n4 e.symm), eB, if_pos rfl, ← hZ]
    · intro j hj h1 h2
      have a1 : j ≠ N.idx := fun e => hNnew _ N.idx_mem (e ▸ hj)
      have a2 : j ≠ ni := fun e => hnit (e ▸ hj)
      rw [ew, if_neg h1, eB, if_neg h2, if_neg a1, if_neg a2, old1 j hj]
    · rw [lenw]; exact Nat.le_trans ft.lenLe A.len
    · intro j h1 h2
      rw [lenw] at h2
      rw [← hNF]; exact A.newIdx j h1 h2
    · intro j
      rw [freew, A.freeIff j, hNF]
  have gsw := GP.good_after ht
  have hswi : sw.blocks[idx]? = some B := by rw [ew, if_pos rfl]
  -- (3) the walk on `s4`, which differs from `sw` in the parent pointer of the leaf block `idx` only
  have pi4 : PI s4 := by
    intro i hi d0 h0 q l r hbi
    have a1 : i ≠ idx := internal_ne_leaf hbi hi4
    have hswb : sw.blocks[i]? = some { dirty := d0, node := .internal h0 (some q) l r } := by
      rw [ew, if_neg a1]; exact hbi
    obtain ⟨hq, d', h', p', l', r', hqb⟩ := gsw.linv.pi i (by rw [freew, ← free4]; exact hi) d0 h0 q l r hswb
    have a2 : q ≠ idx := internal_ne_leaf hqb (hBk ▸ hswi)
    refine ⟨by rw [free4, ← freew]; exact hq, d', h', p', l', r', ?_⟩
    rw [ew, if_neg a2] at hqb; exact hqb
  have ho4 : ∃ d0 h0 p0 l0 r0, s4.blocks[opi]? = some { dirty := d0, node := .internal h0 p0 l0 r0 } :=
    ⟨_, _, _, _, _, by rw [eB, if_pos rfl, ← hZ]⟩
  obtain ⟨s5, e5, hss, hm⟩ := markLineageDirty_shape opi s4 pi4 r4 (by rw [free4]; exact fo) ho4
  have hi5 := hss.leaf hi4
  have hfin := hss.write idx B (by rw [len4]; exact li)
  have hmw := hm.write hss hi4 n4.symm (B := B) (by rw [← hBk])
  rw [hsw] at hfin hmw
  refine ⟨s5.write idx B, ni, ?_, gsw.sameShape hfin, fun hlh => LH.marked hmw gsw.rep ?_⟩
  · rw [hrun]
    simp only [bind_run, e5, updateParent_run idx (some ni) s5 _ hi5, pure_run, Node.setParent, hBk]
  have hswN : sw.blocks[N.idx]? = some Y := by
    rw [ew, if_neg (fun e => n5 e.symm), eB, if_neg (fun e => n1 e.symm), if_pos rfl]
  have hswni : sw.blocks[ni]? = some X := by
    rw [ew, if_neg (fun e => n6 e.symm), eB, if_neg (fun e => n2 e.symm), if_neg (fun e => n3 e.symm), if_pos rfl]
  have hswo : sw.blocks[opi]? = some Z := by
    rw [ew, if_neg (fun e => n4 e.symm), eB, if_pos rfl]
  -- the new subtree keeps its flags and hashes
  have hNsame : ∀ j ∈ N.indices, dirtyB sw.blocks j = dirtyB s'.blocks j ∧ hashB sw.blocks j = hashB s'.blocks j := by
    intro j hj
    by_cases e : j = N.idx
    · rw [e]; exact dh_setParent hbN (hY ▸ hswN)
    · exact dh_of_get (hNo j hj e)
  have lN := ft.lh N (by simp)
  refine GP.lh (LH.congr hNsame lN.1) (by rw [(hNsame _ N.idx_mem).1]; exact lN.2) ?_ ?_ ht hlh
  · show hashB sw.blocks ni = internalHash (hashB sw.blocks N.idx) (hashB sw.blocks idx)
    rw [hashB_get hswni, hashB_get hswN, hashB_get hswi, ← hX, ← hY, ← hBk]
    show internalHash bN.node.hash oh = internalHash (bN.node.setParent (some ni)).hash oh
    rw [Node.setParent_hash]
  · rw [dirtyB_get hswo, hashB_get hswo, dirtyB_get hpb, hashB_get hpb, ← hZ]
    exact ⟨rfl, rfl⟩

/-- the attach phase of `batch_insert`: the remaining items are built into one subtree that is
grafted to the left of the minimum-height leaf.  With at least two leaves the root is internal, so that leaf has a
parent, which `insert_subtree_at_key` needs. -/
theorem batchRest_good {s : Blob} {t : IT} (g : Good s t) (h2 : 2 ≤ t.leaves.length) (l : List KVH)
    (hfresh : ∀ e ∈ l, mapGet s.k2i e.1 = none ∧ mapGet s.h2i e.2.2 = none)
    (hk : (l.map (·.1)).Nodup) (hh : (l.map (·.2.2)).Nodup) :
    ∃ S t', batchRest l s = (.ok (), S) ∧ Good S t'
      ∧ Tree.attach l (some t.erase) = some (some t'.erase)
      ∧ (LH s.blocks none t → LH S.blocks none t') := by
  have hinv := g.linv
  have hlt : ∀ i ∈ s.free, i < s.blocks.length := hinv.freeLt
  cases hl : l with
  | nil => exact ⟨s, t, rfl, g, rfl, id⟩
  | cons x l' =>
    rw [← hl]
    have hne : l ≠ [] := by rw [hl]; simp
    -- the allocation loops build a forest that ends as one tree `N`, whose erasure is `T.ofBatch l`
    obtain ⟨idxs, s1, G, e1, hi1, he1, ft1⟩ := batchLeaves_ft hlt l (FT.refl g.freeNodup g.range)
      hk hh hfresh
    have ft1' : FT s s1 G := by simpa using ft1
    have hlen : idxs.length = l.length := by
      rw [hi1, List.length_map, ← List.length_map (f := IT.erase), he1, List.length_map]
    obtain ⟨idxs2, s2, Q, e2, hi2, he2, ft2⟩ := buildUp_ft hlt idxs.length G ft1'
    obtain ⟨sub, hsub, _⟩ := T.buildUp_single l.length (l.map fun e => T.leaf e.1 e.2.1 e.2.2)
      (by simpa using hne) (by simp)
    rw [he1, hlen, hsub] at he2
    obtain ⟨N, hQ, hNe⟩ : ∃ N, Q = [N] ∧ N.erase = sub := by
      cases Q with
      | nil => simp at he2
      | cons N Q' =>
        cases Q' with
        | nil => simp only [List.map_cons, List.map_nil, List.cons.injEq, and_true] at he2; exact ⟨N, rfl, he2⟩
        | cons _ _ => simp at he2
    subst hQ
    cases t with
    | leaf i k v h => simp [IT.leaves] at h2
    | node i0 a b =>
      -- the blocks of `t` are untouched (`ft2.same`), so the breadth-first search finds the leaf `T.minLeaf` names
      obtain ⟨⟨ok, ov, oh⟩, hme, _⟩ := T.minLeaf_some (IT.node i0 a b).erase
      have hsz : (IT.node i0 a b).erase.size ≤ 2 * s2.blocks.length + 2 := by
        rw [IT.erase_size]
        have := nodup_bound s.blocks.length _ g.nodup g.rep.lt
        have := ft2.lenLe
        omega
      have hrep2 : Rep s2.blocks none (IT.node i0 a b) :=
        g.rep.congr fun j hj => ft2.same j ((g.live_iff j).mpr hj).1 ((g.live_iff j).mpr hj).2
      obtain ⟨idx, p, hbf, hmem⟩ := bfAux_sim s2.blocks _ _ hsz [IT.node i0 a b] []
        (.single hrep2 g.nodup) hme
      have hroot : (IT.node i0 a b).idx = 0 := g.root
      simp only [List.map_cons, List.map_nil, hroot] at hbf
      rw [fLeaves_single] at hmem
      obtain ⟨C, hC⟩ := (IT.node i0 a b).leaf_plug hmem
      obtain ⟨opi, hb⟩ : ∃ opi, s.blocks[idx]? = some { dirty := false, node := .leaf oh (some opi) ok ov } := by
        cases C with
        | nil => cases hC
        | cons f C => exact ⟨f.idx, (hC ▸ g.rep).of_plug⟩
      obtain ⟨S, ni, erun, gS, hlhS⟩ := insertSubtree_good g ft2 hmem hC hb
      -- the run of `batchRest` is these three phases; `Tree.attach` is the graft with the indexes erased
      refine ⟨S, _, ?_, gS, ?_, hlhS⟩
      · unfold batchRest
        rw [← hi1] at e2
        simp only [bind_run, e1, e2, hi2, List.map_cons, List.map_nil]
        rw [minHeightLeaf_run]
        have hne2 : s2.blocks.isEmpty = false := by
          have h0 := (g.live_iff 0).mpr (by rw [← hroot]; exact IT.idx_mem _)
          have h3 : 0 < s2.blocks.length := Nat.lt_of_lt_of_le h0.1 ft2.lenLe
          cases hb2 : s2.blocks with
          | nil => rw [hb2] at h3; simp at h3
          | cons _ _ => rfl
        rw [hne2]
        simp only [Bool.false_eq_true, if_false, hbf]
        exact erun
      · have hge : (IT.node i0 a b).erase.mapLeaf ok (T.join .left N.erase)
            = ((IT.joinI .left ni N (.leaf idx ok ov oh)).plug C).erase := by
          have g' : Good s ((IT.leaf idx ok ov oh).plug C) := hC ▸ g
          rw [hC]
          exact IT.mapLeaf_plug g'.ctx_key_ne (by simp only [IT.erase, T.mapLeaf, if_true, IT.joinI_erase])
        rw [← hge, hNe]
        have hob : T.ofBatch l = some sub := T.ofBatch_of_buildUp hsub
        unfold Tree.attach
        simp only [hob]
        have hml : (IT.node i0 a b).erase.minLeaf = some (ok, ov, oh) := hme
        rw [hml]
        simp only [IT.erase]

/-- the validation loop computes the abstract freshness test -/
theorem batchValid_eq {s : Blob} {t : Option IT} (hs : SInv s t) (l : List KVH) :
    batchValid s l [] [] = Tree.batchFresh l (t.map IT.erase) := by
  rw [Bool.eq_iff_iff, batchValid_iff s _ _ hs.key_iff hs.hash_iff]
  constructor
  · rintro ⟨n1, n2, hall⟩
    simp only [Tree.batchFresh, Bool.and_eq_true, decide_eq_true_eq, List.all_eq_true]
    refine ⟨⟨n1, n2⟩, ?_⟩
    intro e he
    obtain ⟨k, v, h⟩ := e
    have := hall _ he
    exact ⟨this.1, this.2.1⟩
  · intro hf
    obtain ⟨n1, n2, hall⟩ := Tree.fresh_unpack hf
    exact ⟨n1, n2, fun e he => ⟨(hall e he).1, (hall e he).2, by simp, by simp⟩⟩

theorem ins_auto_step {s : Blob} {t : Option IT} (hs : SInv s t) (k : KeyId) (v : ValueId) (h : Hash)
    (hk : k ∉ Tree.keys (t.map IT.erase)) (hh : h ∉ Tree.hashes (t.map IT.erase)) :
    ∃ a s1 t1, insert k v h .auto s = (.ok a, s1) ∧ Good s1 t1
      ∧ Tree.insert k v h .auto (t.map IT.erase) = some (some t1.erase)
      ∧ (LHo s.blocks t → LH s1.blocks none t1) := by
  obtain ⟨T1, hT1, _⟩ := Tree.insert_auto_some k v h (t.map IT.erase) hk hh
  obtain ⟨t', hs', he, hsucc, hlh⟩ := ins_refines hs k v h .auto
  have hst : Tree.step (.ins k v h .auto) (t.map IT.erase) = (true, some T1) := by
    simp only [Tree.step, hT1, Tree.orKeep]
  rw [hst] at he hsucc
  have hstep : step (.ins k v h .auto) s = (do let _ ← insert k v h .auto; pure () : M Unit) s := rfl
  rw [hstep, discard_run] at hs' hsucc hlh
  cases hins : insert k v h .auto s with
  | mk r s1 =>
    rw [hins] at hs' hsucc hlh
    cases r with
    | error e => simp [errOf] at hsucc
    | ok a =>
      simp only at hs'
      cases t' with
      | none => simp at he
      | some t1 =>
        simp only [Option.map_some, Option.some.injEq] at he
        exact ⟨a, s1, t1, rfl, hs', by rw [hT1, he], hlh⟩

/-- a validated batch commits, and the result is the abstract one.  With at most one key the last two items go through
`insert` (`ins_auto_step`; each leaves the other items fresh, `fresh_after_insert`), after which the tree has two leaves
and the rest is attached (`batchRest_good`); otherwise everything is attached. -/
theorem batchCommit_good {s : Blob} {t : Option IT} (hs : SInv s t) (l : List KVH)
    (hf : Tree.batchFresh l (t.map IT.erase) = true) :
    ∃ S t', batchCommit l s = (.ok (), S) ∧ SInv S t'
      ∧ Tree.batchUnchecked l (t.map IT.erase) = (true, t'.map IT.erase)
      ∧ (LHo s.blocks t → LHo S.blocks t') := by
  obtain ⟨hkn, hhn, hfr⟩ := Tree.fresh_unpack hf
  unfold batchCommit Tree.batchUnchecked
  simp only [bind_run, M.get]
  rw [hs.k2i_len]
  by_cases hle : (Tree.keys (t.map IT.erase)).length ≤ 1
  · rw [if_pos hle, if_pos hle]
    cases hrev : l.reverse with
    | nil => exact ⟨s, t, rfl, hs, rfl, id⟩
    | cons x1 r1 =>
      have hl : l = r1.reverse ++ [x1] := by
        have := congrArg List.reverse hrev; simpa using this
      obtain ⟨k1, v1, h1⟩ := x1
      rw [hl] at hkn hhn hfr
      have hx1 := hfr (k1, v1, h1) (by simp)
      obtain ⟨a1, s1, t1, e1, g1, hi1, hlh1⟩ := ins_auto_step hs k1 v1 h1 hx1.1 hx1.2
      obtain ⟨hkn1, hhn1, hfr1⟩ := Tree.fresh_after_insert hs.keys_nodup hkn hhn hfr hi1
      simp only [bind_run, e1, hi1]
      cases r1 with
      | nil => exact ⟨s1, some t1, rfl, g1, rfl, hlh1⟩
      | cons x2 r2 =>
        obtain ⟨k2, v2, h2⟩ := x2
        have hs1 : SInv s1 (some t1) := g1
        rw [List.reverse_cons] at hkn1 hhn1 hfr1
        have hx2 := hfr1 (k2, v2, h2) (by simp)
        obtain ⟨a2, s2, t2, e2, g2, hi2, hlh2⟩ := ins_auto_step hs1 k2 v2 h2 hx2.1 hx2.2
        obtain ⟨hkn2, hhn2, hfr2⟩ := Tree.fresh_after_insert hs1.keys_nodup hkn1 hhn1 hfr1 hi2
        simp only [Option.map_some] at hi2
        simp only [bind_run, e2, hi2]
        have hlen2 : 2 ≤ t2.leaves.length := by
          have p1 := (Tree.insert_spec hs.keys_nodup hi1).1.length_eq
          have p2 := (Tree.insert_spec hs1.keys_nodup hi2).1.length_eq
          simp only [Option.map_some, Tree.entries, List.length_cons, IT.erase_entries, List.length_map] at p1 p2
          omega
        obtain ⟨S, t3, e3, g3, ha3, hl3⟩ := batchRest_good g2 hlen2 r2.reverse
          (fun e he => ⟨g2.fresh_key (hfr2 e he).1, g2.fresh_hash (hfr2 e he).2⟩) hkn2 hhn2
        refine ⟨S, some t3, e3, g3, ?_, fun h0 => hl3 (hlh2 (hlh1 h0))⟩
        simp only [ha3, Option.map_some]
  · rw [if_neg hle, if_neg hle]
    cases t with
    | none => simp [Tree.keys] at hle
    | some tt =>
      have g : Good s tt := hs
      have hlen2 : 2 ≤ tt.leaves.length := by
        rw [← IT.leaves_length_keys]
        simp only [Option.map_some, Tree.keys] at hle
        omega
      obtain ⟨S, t3, e3, g3, ha3, hl3⟩ := batchRest_good g hlen2 l
        (fun e he => ⟨g.fresh_key (hfr e he).1, g.fresh_hash (hfr e he).2⟩) hkn hhn
      refine ⟨S, some t3, e3, g3, ?_, hl3⟩
      simp only [Option.map_some, ha3]

theorem batch_refines {s : Blob} {t : Option IT} (hs : SInv s t) (l : List KVH) : Refines (.batch l) s t := by
  have hstep : step (.batch l) s = if batchValid s l [] [] then batchCommit l s else (.error .err, s) := by
    show batchInsert l s = _
    unfold batchInsert
    simp only [bind_run, M.get]
    split <;> rfl
  have hT : Tree.step (.batch l) (t.map IT.erase) = Tree.batch l (t.map IT.erase) := rfl
  rw [batchValid_eq hs] at hstep
  by_cases hf : Tree.batchFresh l (t.map IT.erase) = true
  · obtain ⟨S, t', e, hs', hb, hlh⟩ := batchCommit_good hs l hf
    exact Refines.of_ok (by rw [hstep, if_pos hf, e]) hs' (by rw [hT, Tree.batch, if_pos hf, hb]) hlh
  · exact Refines.of_fail hs (by rw [hstep, if_neg hf]) (by rw [hT, Tree.batch, if_neg hf])

end ChiaModel.Blob
