import ChiaModel.Lemmas.BlobRep
/-
C18, iterators on a stored tree: the two breadth-first iterators.  Their queue holds disjoint stored subtrees none
of which has been visited (`QOk`).  `bfAux_sim`: `get_min_height_leaf` finds the leaf `T.bfsLeaf` finds; `pfAux_sim`:
`ParentFirstIterator` yields the nodes in breadth-first order.
-/
namespace ChiaModel.Blob
open List M

theorem IT.queue_step_nodup {i : Nat} {l r : IT} {Q : List IT}
    (hn : (fIdx (IT.node i l r :: Q)).Nodup) :
    (fIdx (Q ++ [l, r])).Nodup ∧ i ∉ fIdx (Q ++ [l, r]) := by
  simp only [fIdx_cons, IT.indices, List.cons_append, List.nodup_cons] at hn
  have hperm : fIdx (Q ++ [l, r]) ~ (l.indices ++ r.indices) ++ fIdx Q := by
    rw [fIdx_append, fIdx_cons, fIdx_single]
    exact List.perm_append_comm
  exact ⟨hperm.nodup_iff.mpr hn.2, fun h => hn.1 (hperm.mem_iff.mp h)⟩

/-- `QOk` ("queue ok"): a queue of disjoint stored subtrees none of whose nodes is among the visited
indexes `q` -/
structure QOk (bl : List Block) (Q : List IT) (q : List Nat) : Prop where
  rep : ∀ c ∈ Q, ∃ p, Rep bl p c
  nodup : (fIdx Q).Nodup
  fresh : ∀ j ∈ fIdx Q, j ∉ q

namespace QOk
variable {bl : List Block} {Q : List IT} {q : List Nat}

/-- the queue at the start: one stored tree, nothing visited -/
theorem single {p : Option Nat} {t : IT} (h : Rep bl p t) (hn : t.indices.Nodup) : QOk bl [t] [] :=
  ⟨fun _ hc => ⟨p, List.mem_singleton.mp hc ▸ h⟩, (fIdx_single t).symm ▸ hn, fun _ _ => List.not_mem_nil⟩

theorem head_fresh {c : IT} (h : QOk bl (c :: Q) q) : c.idx ∉ q :=
  h.fresh _ (by rw [fIdx_cons]; exact List.mem_append_left _ c.idx_mem)

theorem tail {c : IT} (h : QOk bl (c :: Q) q) : QOk bl Q q :=
  ⟨fun c' hc => h.rep c' (List.mem_cons_of_mem _ hc), (nodup_append_disj (fIdx_cons _ _ ▸ h.nodup)).2.1,
    fun j hj => h.fresh j (by rw [fIdx_cons]; exact List.mem_append_right _ hj)⟩

theorem step {i : Nat} {l r : IT} (h : QOk bl (.node i l r :: Q) q) : QOk bl (Q ++ [l, r]) (i :: q) := by
  obtain ⟨p, hr⟩ := h.rep _ List.mem_cons_self
  simp only [Rep] at hr
  obtain ⟨hn, hi⟩ := IT.queue_step_nodup h.nodup
  refine ⟨?_, hn, ?_⟩
  · intro c hc
    rcases List.mem_append.mp hc with a | a
    · exact h.rep c (List.mem_cons_of_mem _ a)
    · simp only [List.mem_cons, List.not_mem_nil, or_false] at a
      rcases a with a | a
      · exact ⟨some i, a ▸ hr.2.1⟩
      · exact ⟨some i, a ▸ hr.2.2⟩
  · intro j hj hm
    rcases List.mem_cons.mp hm with a | a
    · exact hi (a ▸ hj)
    · refine h.fresh j ?_ a
      simp only [fIdx_append, fIdx_cons, fIdx_nil, List.append_nil, IT.indices, List.mem_append, List.mem_cons] at hj ⊢
      rcases hj with b | b | b
      · exact Or.inr b
      · exact Or.inl (Or.inr (Or.inl b))
      · exact Or.inl (Or.inr (Or.inr b))

end QOk

theorem bfAux_sim (bl : List Block) (f f' : Nat) (hff : f ≤ f') (Q : List IT) (q : List Nat) (hQ : QOk bl Q q)
    {k : KeyId} {v : ValueId} {h : Hash} (hb : T.bfsLeaf f (Q.map IT.erase) = some (k, v, h)) :
    ∃ i p, bfAux bl f' (Q.map IT.idx) q = some (i, { dirty := false, node := .leaf h p k v })
      ∧ (i, k, v, h) ∈ fLeaves Q := by
  induction f generalizing f' Q q with
  | zero => simp [T.bfsLeaf] at hb
  | succ f ih =>
    obtain ⟨f', rfl⟩ : ∃ g, f' = g + 1 := ⟨f' - 1, by omega⟩
    cases Q with
    | nil => simp [T.bfsLeaf] at hb
    | cons c rest =>
      obtain ⟨p, hr⟩ := hQ.rep c List.mem_cons_self
      cases c with
      | leaf i' k' v' h' =>
        simp only [List.map_cons, IT.erase, T.bfsLeaf, Option.some.injEq, Prod.mk.injEq] at hb
        obtain ⟨rfl, rfl, rfl⟩ := hb
        simp only [Rep] at hr
        exact ⟨i', p, by simp only [List.map_cons, IT.idx_leaf, bfAux, hr], by simp [fLeaves_cons, IT.leaves]⟩
      | node i' l r =>
        simp only [List.map_cons, IT.erase, T.bfsLeaf] at hb
        obtain ⟨⟨d, hh, hblk⟩, _, _⟩ := hr
        have hc : q.contains i' = false := by simpa [IT.idx] using hQ.head_fresh
        obtain ⟨i, p', hres, hm⟩ := ih f' (by omega) (rest ++ [l, r]) (i' :: q) hQ.step
          (by rw [List.map_append]; exact hb)
        refine ⟨i, p', ?_, ?_⟩
        · rw [List.map_append] at hres
          simp only [List.map_cons, IT.idx_node, bfAux, hblk, hc, Bool.false_eq_true, if_false]
          exact hres
        · simp only [fLeaves_append, fLeaves_cons, fLeaves_nil, List.append_nil, List.mem_append, IT.leaves] at hm ⊢
          rcases hm with a | a | a
          · exact Or.inr a
          · exact Or.inl (Or.inl a)
          · exact Or.inl (Or.inr a)

def sumOf (m : IT → Nat) (Q : List IT) : Nat := (Q.map m).sum

theorem sumOf_nil (m : IT → Nat) : sumOf m [] = 0 := rfl

theorem sumOf_cons (m : IT → Nat) (c : IT) (Q : List IT) : sumOf m (c :: Q) = m c + sumOf m Q := by
  simp [sumOf]

theorem sumOf_append (m : IT → Nat) (A B : List IT) : sumOf m (A ++ B) = sumOf m A + sumOf m B := by
  simp [sumOf]

def IT.bfsNodes : Nat → List IT → List IT
  | 0, _ => []
  | _+1, [] => []
  | f+1, .leaf i k v h :: rest => .leaf i k v h :: IT.bfsNodes f rest
  | f+1, .node i l r :: rest => .node i l r :: IT.bfsNodes f (rest ++ [l, r])

theorem pfAux_sim (bl : List Block) (f : Nat) :
    ∀ (Q : List IT) (q : List Nat) (acc : List (Nat × Block)),
    QOk bl Q q → sumOf (·.indices.length) Q < f →
    pfAux bl f (Q.map IT.idx) q acc
      = (acc.reverse ++ (IT.bfsNodes f Q).map (fun c => (c.idx, blockAt bl c.idx)), true) := by
  induction f with
  | zero => intro Q q acc _ h; omega
  | succ f ih =>
    intro Q q acc hQ hf
    cases Q with
    | nil => simp [pfAux, IT.bfsNodes]
    | cons c rest =>
      rw [sumOf_cons] at hf
      obtain ⟨p, hr⟩ := hQ.rep c List.mem_cons_self
      cases c with
      | leaf i k v h =>
        simp only [Rep] at hr
        have := ih rest q ((i, { dirty := false, node := .leaf h p k v }) :: acc) hQ.tail
          (by simp only [IT.indices, List.length_cons, List.length_nil] at hf; omega)
        simp only [List.map_cons, IT.idx_leaf, pfAux, hr, this, IT.bfsNodes, blockAt_of_get hr]
        simp
      | node i l r =>
        simp only [Rep] at hr
        obtain ⟨⟨d, hh, hblk⟩, _, _⟩ := hr
        have hc : q.contains i = false := by simpa [IT.idx] using hQ.head_fresh
        have := ih (rest ++ [l, r]) (i :: q) ((i, { dirty := d, node := .internal hh p l.idx r.idx }) :: acc) hQ.step
          (by
            simp only [sumOf_append, sumOf_cons, sumOf_nil, IT.indices, List.length_cons, List.length_append] at hf ⊢
            omega)
        simp only [List.map_append, List.map_cons, List.map_nil] at this
        simp only [List.map_cons, IT.idx_node, pfAux, hblk, hc, Bool.false_eq_true, if_false, this, IT.bfsNodes,
          blockAt_of_get hblk]
        simp

end ChiaModel.Blob
