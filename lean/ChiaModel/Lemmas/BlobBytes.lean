import ChiaModel.Lemmas.Ints
import ChiaModel.Model.Blob
/-
C18, byte format.  A block whose fields fit the format (`BlockOk`) round-trips through `encBlock` / `decBlock`,
and the bytes of a blob of such blocks split and decode back into its block list (`ofBytes_bytes`).
-/
namespace ChiaModel.Blob
open List

def ParentOk : Option Nat → Prop
  | none => True
  | some p => p < 256 ^ 4

/-- what the byte format can hold: 32-byte hash, u32 indexes, 64-bit key and value patterns -/
def NodeOk : Node → Prop
  | .internal h p l r => h.length = 32 ∧ ParentOk p ∧ l < 256 ^ 4 ∧ r < 256 ^ 4
  | .leaf h p k v => h.length = 32 ∧ ParentOk p ∧ k < 256 ^ 8 ∧ v < 256 ^ 8

def BlockOk (b : Block) : Prop := NodeOk b.node

instance : DecidablePred ParentOk := fun p => by unfold ParentOk; split <;> infer_instance
instance : DecidablePred NodeOk := fun n => by unfold NodeOk; split <;> infer_instance
instance : DecidablePred BlockOk := fun b => by unfold BlockOk; infer_instance

theorem encParent_length_le (p : Option Nat) : (encParent p).length ≤ 5 := by
  cases p <;> simp [encParent, be_length]

theorem decParent_enc (p : Option Nat) (hp : ParentOk p) (rest : Bytes) :
    decParent (encParent p ++ rest) = some (p, rest) := by
  cases p with
  | none => rfl
  | some q =>
    simp only [encParent, List.cons_append, decParent]
    have hl : (be 4 q).length = 4 := be_length 4 q
    rw [if_neg (by simp [hl])]
    rw [List.take_left' hl, List.drop_left' hl, beVal_be 4 q hp]

theorem zeros_length (n : Nat) : (zeros n).length = n := by simp [zeros]

theorem encNode_length (n : Node) (hn : NodeOk n) : (encNode n).length ≤ dataSize := by
  cases n with
  | internal h p l r =>
    have := encParent_length_le p
    simp only [encNode, List.length_append, be_length, hn.1, dataSize]; omega
  | leaf h p k v =>
    have := encParent_length_le p
    simp only [encNode, List.length_append, be_length, hn.1, dataSize]; omega

theorem padTo_length (n : Nat) (b : Bytes) (h : b.length ≤ n) : (padTo n b).length = n := by
  simp only [padTo, List.length_append, zeros_length]; omega

theorem encBlock_length (b : Block) (hb : BlockOk b) : (encBlock b).length = blockSize := by
  have := padTo_length _ _ (encNode_length b.node hb)
  simp only [encBlock, List.length_append, List.length_cons, List.length_nil, this]
  rfl

theorem decBlock_layout (ty : Nat) (dirty : Bool) (h : Hash) (p : Option Nat) (rest : Bytes)
    (hh : h.length = 32) (hp : ParentOk p) (hlen : (h ++ (encParent p ++ rest)).length = dataSize) :
    decBlock (ty :: (if dirty then 1 else 0) :: (h ++ (encParent p ++ rest))) =
      if ty = 0 then
        if rest.length < 8 then none
        else some { dirty, node := .internal h p (beVal (rest.take 4)) (beVal ((rest.drop 4).take 4)) }
      else if ty = 1 then
        if rest.length < 16 then none
        else some { dirty, node := .leaf h p (beVal (rest.take 8)) (beVal ((rest.drop 8).take 8)) }
      else none := by
  have hd : (if (if dirty = true then 1 else 0) = 0 then some false
      else if (if dirty = true then 1 else 0) = 1 then some true else none) = some dirty := by
    cases dirty <;> simp
  simp only [decBlock]
  rw [if_neg (by simpa using hlen)]
  simp only [hd, List.take_left' hh, List.drop_left' hh, decParent_enc p hp]

/-- `Block::from_bytes (Block::to_bytes b) = b` -/
theorem decBlock_encBlock (b : Block) (hb : BlockOk b) : decBlock (encBlock b) = some b := by
  obtain ⟨dirty, node⟩ := b
  have hlen := padTo_length _ _ (encNode_length node hb)
  cases node with
  | internal h p l r =>
    obtain ⟨hh, hp, hl, hr⟩ := hb
    have h4l : (be 4 l).length = 4 := be_length 4 l
    have h4r : (be 4 r).length = 4 := be_length 4 r
    simp only [encBlock, padTo, encNode, Node.isLeaf, List.append_assoc, List.cons_append, List.nil_append,
      Bool.false_eq_true, if_false] at hlen ⊢
    rw [decBlock_layout 0 dirty h p _ hh hp hlen, if_pos rfl, List.take_left' h4l, List.drop_left' h4l,
      List.take_left' h4r, beVal_be 4 l hl, beVal_be 4 r hr, if_neg]
    simp only [List.length_append, h4l, h4r]; omega
  | leaf h p k v =>
    obtain ⟨hh, hp, hk, hv⟩ := hb
    have h8k : (be 8 k).length = 8 := be_length 8 k
    have h8v : (be 8 v).length = 8 := be_length 8 v
    simp only [encBlock, padTo, encNode, Node.isLeaf, List.append_assoc, List.cons_append, List.nil_append,
      if_true] at hlen ⊢
    rw [decBlock_layout 1 dirty h p _ hh hp hlen, if_neg (by decide), if_pos rfl, List.take_left' h8k,
      List.drop_left' h8k, List.take_left' h8v, beVal_be 8 k hk, beVal_be 8 v hv, if_neg]
    simp only [List.length_append, h8k, h8v]; omega

theorem bytes_length (bs : List Block) (h : ∀ b ∈ bs, BlockOk b) :
    (bs.flatMap encBlock).length = blockSize * bs.length := by
  induction bs with
  | nil => rfl
  | cons b bs ih =>
    simp only [List.flatMap_cons, List.length_append, List.length_cons,
      encBlock_length b (h b (by simp)), ih (fun x hx => h x (by simp [hx]))]
    simp only [blockSize]; omega

theorem chunks_bytes (bs : List Block) (h : ∀ b ∈ bs, BlockOk b) :
    chunks blockSize bs.length (bs.flatMap encBlock) = bs.map encBlock := by
  induction bs with
  | nil => rfl
  | cons b bs ih =>
    have hl := encBlock_length b (h b (by simp))
    simp only [List.flatMap_cons, List.length_cons, chunks, List.map_cons]
    rw [if_neg]
    · rw [List.take_left' hl, List.drop_left' hl, ih (fun x hx => h x (by simp [hx]))]
    · simp only [List.isEmpty_iff, List.append_eq_nil_iff, not_and]
      intro e; rw [e] at hl; simp [blockSize] at hl

theorem decodeAll_enc (bs : List Block) (h : ∀ b ∈ bs, BlockOk b) :
    decodeAll (bs.map encBlock) = some bs := by
  induction bs with
  | nil => rfl
  | cons b bs ih =>
    simp only [List.map_cons, decodeAll, decBlock_encBlock b (h b (by simp)),
      ih (fun x hx => h x (by simp [hx]))]

theorem ofBytes_bytes (s : Blob) (h : ∀ b ∈ s.blocks, BlockOk b) :
    Blob.ofBytes s.bytes = ofBlocks s.blocks := by
  have hl := bytes_length s.blocks h
  simp only [Blob.ofBytes, Blob.bytes, hl]
  rw [if_neg (by simp [blockSize])]
  have : blockSize * s.blocks.length / blockSize = s.blocks.length := by
    simp [blockSize]
  rw [this, chunks_bytes s.blocks h, decodeAll_enc s.blocks h]

end ChiaModel.Blob
