import ChiaModel.Lemmas.BlobLH
/-
C18, representation: replacing a subtree of the stored tree.  A tree is split into a subtree and its context (the
frames from the subtree up to the root); an operation rewrites the subtree and leaves the context alone.  The
structural invariant and the hash invariant are transported once, for any such replacement that keeps the subtree's
root index (`Good.plug`, `LH.plug`); on the L1 side `T.mapLeaf` acts in the hole that holds the key (`mapLeaf_plug`),
and so does `T.del`: one level up the leaf's sibling takes the parent's place, and the frames above are kept
(`del_leaf_plug`).
-/
namespace ChiaModel.Blob
open List

theorem side_mem (sd : Side) (a b : Nat) : a = sideL sd a b ∨ a = sideR sd a b := by
  cases sd
  · exact Or.inl rfl
  · exact Or.inr rfl

/-- the sibling as `delete` computes it -/
theorem side_sib (sd : Side) {a b : Nat} (h : a ≠ b) : (if a = sideR sd a b then sideL sd a b else sideR sd a b) = b := by
  cases sd
  · exact if_neg h
  · exact if_pos rfl

/-- the children after one is replaced, in the form `deleteAt_splice_run` has them -/
theorem side_repl (sd : Side) {a y : Nat} (b : Nat) (h : a ≠ y) :
    (if a = sideL sd a y then b else sideL sd a y) = sideL sd b y
      ∧ (if a = sideL sd a y then sideR sd a y else b) = sideR sd b y := by
  cases sd
  · exact ⟨if_pos rfl, if_pos rfl⟩
  · exact ⟨if_neg h, if_neg h⟩

namespace IT

def joinI (side : Side) (ni : Nat) (N old : IT) : IT :=
  match side with
  | .left => node ni N old
  | .right => node ni old N

theorem joinI_idx (side : Side) (ni : Nat) (N old : IT) : (joinI side ni N old).idx = ni := by
  cases side <;> rfl

theorem joinI_leaves (side : Side) (ni : Nat) (N old : IT) : (joinI side ni N old).leaves ~ N.leaves ++ old.leaves := by
  cases side
  · exact List.Perm.refl _
  · exact List.perm_append_comm

theorem joinI_indices (side : Side) (ni : Nat) (N old : IT) :
    (joinI side ni N old).indices ~ ni :: (N.indices ++ old.indices) := by
  cases side
  · exact List.Perm.refl _
  · exact List.Perm.cons _ List.perm_append_comm

theorem joinI_erase (side : Side) (ni : Nat) (N old : IT) :
    (joinI side ni N old).erase = T.join side N.erase old.erase := by
  cases side <;> rfl

theorem mem_joinI {sd : Side} {j : Nat} {a b : IT} {x : Nat} :
    x ∈ (joinI sd j a b).indices ↔ x = j ∨ x ∈ a.indices ∨ x ∈ b.indices := by
  rw [(joinI_indices sd j a b).mem_iff, List.mem_cons, List.mem_append]

theorem nodup_joinI {sd : Side} {j : Nat} {a b : IT} :
    (joinI sd j a b).indices.Nodup ↔ (j ∉ a.indices ∧ j ∉ b.indices) ∧ a.indices.Nodup ∧ b.indices.Nodup
      ∧ ∀ x ∈ a.indices, ∀ y ∈ b.indices, x ≠ y := by
  rw [(joinI_indices sd j a b).nodup_iff, List.nodup_cons, List.nodup_append, List.mem_append, not_or]

end IT

theorem Rep.joinI {bl : List Block} {p : Option Nat} {sd : Side} {j : Nat} {a b : IT} :
    Rep bl p (IT.joinI sd j a b) ↔
      (∃ d hh, bl[j]? = some { dirty := d, node := .internal hh p (sideL sd a.idx b.idx) (sideR sd a.idx b.idx) })
        ∧ Rep bl (some j) a ∧ Rep bl (some j) b := by
  cases sd
  · exact Iff.rfl
  · exact ⟨fun ⟨x, y, z⟩ => ⟨x, z, y⟩, fun ⟨x, y, z⟩ => ⟨x, z, y⟩⟩

theorem LH.joinI {bl : List Block} {hole : Option Nat} {sd : Side} {j : Nat} {a b : IT} :
    LH bl hole (IT.joinI sd j a b) ↔ LH bl hole a ∧ LH bl hole b ∧
      (some j ≠ hole → dirtyB bl j = false → dirtyB bl a.idx = false ∧ dirtyB bl b.idx = false
        ∧ hashB bl j = internalHash (hashB bl (sideL sd a.idx b.idx)) (hashB bl (sideR sd a.idx b.idx))) := by
  cases sd
  · exact Iff.rfl
  · exact ⟨fun ⟨x, y, z⟩ => ⟨y, x, fun h1 h2 => ⟨(z h1 h2).2.1, (z h1 h2).1, (z h1 h2).2.2⟩⟩,
      fun ⟨x, y, z⟩ => ⟨y, x, fun h1 h2 => ⟨(z h1 h2).2.1, (z h1 h2).1, (z h1 h2).2.2⟩⟩⟩

/-- one step from a subtree up to its parent `idx`: the subtree is the child on `side`, `sib` the other one -/
structure Frame where
  side : Side
  idx : Nat
  sib : IT

/-- an abbreviation, so that what is stated of `joinI` (`Rep.joinI`, `LH.joinI`, `mem_joinI`, `nodup_joinI`) applies to
a filled frame as it stands -/
abbrev Frame.fill (f : Frame) (c : IT) : IT := IT.joinI f.side f.idx c f.sib

theorem Frame.fill_idx (f : Frame) (c : IT) : (f.fill c).idx = f.idx := IT.joinI_idx _ _ _ _

theorem Frame.fill_indices (f : Frame) {a a' : IT} {A : List Nat} (h : a.indices ~ A ++ a'.indices) :
    (f.fill a).indices ~ A ++ (f.fill a').indices :=
  ((IT.joinI_indices ..).trans (List.Perm.cons _ ((List.Perm.append_right _ h).trans (by rw [List.append_assoc])))).trans
    (List.perm_middle.symm.trans (List.Perm.append_left _ (IT.joinI_indices ..).symm))

theorem Frame.fill_leaves (f : Frame) {a a' : IT} {A : List (Nat × KVH)} (h : a.leaves ~ A ++ a'.leaves) :
    (f.fill a).leaves ~ A ++ (f.fill a').leaves :=
  ((IT.joinI_leaves ..).trans ((List.Perm.append_right _ h).trans (by rw [List.append_assoc]))).trans
    (List.Perm.append_left _ (IT.joinI_leaves ..).symm)

/-- `c.plug C`: the tree with `c` in the hole of the context `C`, the frames from the hole up to the root -/
def IT.plug (c : IT) : List Frame → IT
  | [] => c
  | f :: C => (f.fill c).plug C

/-- the indexes of a context (each frame's node and its sibling subtree) and its leaves (those of the siblings): what
`c.plug C` has besides `c` (`plug_indices`, `plug_leaves`) -/
def ctxIdx (C : List Frame) : List Nat := C.flatMap fun f => f.idx :: f.sib.indices
def ctxLeaves (C : List Frame) : List (Nat × KVH) := C.flatMap fun f => f.sib.leaves

/-- the parent pointer of the subtree in the hole, when that of the whole tree is `p`: the index of the innermost
frame, or `p` itself in the empty context -/
def parC (p : Option Nat) : List Frame → Option Nat
  | [] => p
  | f :: _ => some f.idx

variable {bl bl' : List Block} {p : Option Nat} {c u : IT} {C : List Frame}

theorem ctxIdx_nil : ctxIdx [] = [] := rfl
theorem ctxLeaves_nil : ctxLeaves [] = [] := rfl
theorem ctxIdx_cons (f : Frame) (C : List Frame) : ctxIdx (f :: C) = f.idx :: (f.sib.indices ++ ctxIdx C) := rfl
theorem ctxLeaves_cons (f : Frame) (C : List Frame) : ctxLeaves (f :: C) = f.sib.leaves ++ ctxLeaves C := rfl

theorem mem_ctxIdx_cons {f : Frame} {x : Nat} :
    x ∈ ctxIdx (f :: C) ↔ x = f.idx ∨ x ∈ f.sib.indices ∨ x ∈ ctxIdx C := by
  rw [ctxIdx_cons, List.mem_cons, List.mem_append]

namespace IT

theorem plug_append (c : IT) (C D : List Frame) : c.plug (C ++ D) = (c.plug C).plug D := by
  induction C generalizing c with
  | nil => rfl
  | cons f C ih => exact ih _

theorem plug_idx (C : List Frame) (h : u.idx = c.idx) : (u.plug C).idx = (c.plug C).idx := by
  induction C generalizing c u with
  | nil => exact h
  | cons f C ih => exact ih (by rw [Frame.fill_idx, Frame.fill_idx])

theorem plug_indices (c : IT) (C : List Frame) : (c.plug C).indices ~ c.indices ++ ctxIdx C := by
  induction C generalizing c with
  | nil => rw [plug, ctxIdx_nil, List.append_nil]
  | cons f C ih =>
    refine (ih _).trans ((List.Perm.append_right _ (joinI_indices _ _ _ _)).trans ?_)
    rw [ctxIdx_cons, List.cons_append, List.append_assoc]
    exact List.perm_middle.symm

theorem plug_leaves (c : IT) (C : List Frame) : (c.plug C).leaves ~ c.leaves ++ ctxLeaves C := by
  induction C generalizing c with
  | nil => rw [plug, ctxLeaves_nil, List.append_nil]
  | cons f C ih =>
    refine (ih _).trans ((List.Perm.append_right _ (joinI_leaves _ _ _ _)).trans ?_)
    rw [ctxLeaves_cons, List.append_assoc]

theorem mem_plug {x : Nat} : x ∈ (c.plug C).indices ↔ x ∈ c.indices ∨ x ∈ ctxIdx C := by
  rw [(plug_indices c C).mem_iff, List.mem_append]

theorem nodup_plug :
    (c.plug C).indices.Nodup ↔ c.indices.Nodup ∧ (ctxIdx C).Nodup ∧ ∀ x ∈ c.indices, ∀ y ∈ ctxIdx C, x ≠ y := by
  rw [(plug_indices c C).nodup_iff, List.nodup_append]

theorem leaf_plug (t : IT) {i : Nat} {k : KeyId} {v : ValueId} {h : Hash} (he : (i, k, v, h) ∈ t.leaves) :
    ∃ C, t = (leaf i k v h).plug C := by
  induction t with
  | leaf i' k' v' h' =>
    simp only [leaves, List.mem_singleton] at he
    cases he
    exact ⟨[], rfl⟩
  | node j l r ihl ihr =>
    simp only [leaves, List.mem_append] at he
    rcases he with he | he
    · obtain ⟨C, hC⟩ := ihl he
      exact ⟨C ++ [⟨.left, j, r⟩], by rw [plug_append, ← hC]; rfl⟩
    · obtain ⟨C, hC⟩ := ihr he
      exact ⟨C ++ [⟨.right, j, l⟩], by rw [plug_append, ← hC]; rfl⟩

theorem mapLeaf_plug {key : KeyId} {g : T → T} {x x' : IT} (hk : ∀ e ∈ ctxLeaves C, e.2.1 ≠ key)
    (hx : x.erase.mapLeaf key g = x'.erase) : (x.plug C).erase.mapLeaf key g = (x'.plug C).erase := by
  induction C generalizing x x' with
  | nil => exact hx
  | cons f C ih =>
    refine ih (fun e he => hk e (List.mem_append.mpr (Or.inr he))) ?_
    have hs : f.sib.erase.mapLeaf key g = f.sib.erase := T.mapLeaf_not_mem _ _ _ fun hm => by
      rw [erase_keys] at hm
      obtain ⟨e, he, hek⟩ := List.mem_map.mp hm
      exact hk e (List.mem_append.mpr (Or.inl he)) hek
    cases hsd : f.side <;> simp only [Frame.fill, hsd, joinI, erase, T.mapLeaf, hx, hs]

def isLeafAt (idx : Nat) : IT → Bool
  | leaf i _ _ _ => i == idx
  | node _ _ _ => false

theorem isLeafAt_false_of_not_mem (idx : Nat) (t : IT) (h : idx ∉ t.indices) : isLeafAt idx t = false := by
  cases t with
  | leaf i k v hh => exact beq_false_of_ne fun e => h (by simp [indices, e])
  | node i l r => rfl

/-- one frame: `o` is what `T.del` leaves of the subtree in the hole (`none`: it was the leaf `k`) -/
theorem del_fill {k : KeyId} {f : Frame} (hk : ∀ e ∈ f.sib.leaves, e.2.1 ≠ k) {x : IT} {o : Option IT}
    (hx : x.erase.del k = o.map erase) :
    (f.fill x).erase.del k = some (match o with | none => f.sib | some x' => f.fill x').erase := by
  have hs : f.sib.erase.del k = some f.sib.erase := T.del_not_mem k _ fun hm => by
    rw [erase_keys] at hm
    obtain ⟨e, he, hek⟩ := List.mem_map.mp hm
    exact hk e he hek
  cases o <;> cases hsd : f.side <;> simp only [Frame.fill, hsd, joinI, erase, T.del, hx, hs, Option.map]

theorem del_plug {k : KeyId} {x x' : IT} {C : List Frame} (hk : ∀ e ∈ ctxLeaves C, e.2.1 ≠ k)
    (hx : x.erase.del k = some x'.erase) : (x.plug C).erase.del k = some (x'.plug C).erase := by
  induction C generalizing x x' with
  | nil => exact hx
  | cons f C ih =>
    exact ih (fun e he => hk e (List.mem_append.mpr (Or.inr he)))
      (del_fill (o := some x') (fun e he => hk e (List.mem_append.mpr (Or.inl he))) hx)

theorem del_leaf_plug {idx : Nat} {k : KeyId} {v : ValueId} {h : Hash} {f : Frame} {C : List Frame}
    (hk : ∀ e ∈ ctxLeaves (f :: C), e.2.1 ≠ k) :
    ((leaf idx k v h).plug (f :: C)).erase.del k = some (f.sib.plug C).erase :=
  del_plug (x := f.fill (leaf idx k v h)) (fun e he => hk e (List.mem_append.mpr (Or.inr he)))
    (del_fill (o := none) (fun e he => hk e (List.mem_append.mpr (Or.inl he))) (by simp only [erase, T.del, if_true]; rfl))

end IT

theorem Rep.of_plug (h : Rep bl p (c.plug C)) :
    Rep bl (parC p C) c := by
  induction C generalizing c with
  | nil => exact h
  | cons f C ih => exact (Rep.joinI.mp (ih h)).2.1

theorem Rep.plug (h : Rep bl p (c.plug C))
    (hi : u.idx = c.idx) (hC : ∀ j ∈ ctxIdx C, bl'[j]? = bl[j]?) (hu : Rep bl' (parC p C) u) :
    Rep bl' p (u.plug C) := by
  induction C generalizing c u with
  | nil => exact hu
  | cons f C ih =>
    obtain ⟨⟨d, hh, hb⟩, _, hs⟩ := Rep.joinI.mp (Rep.of_plug (C := C) (c := f.fill c) h)
    refine ih h (by rw [Frame.fill_idx, Frame.fill_idx]) (fun j hj => hC j (mem_ctxIdx_cons.mpr (Or.inr (Or.inr hj))))
      (Rep.joinI.mpr ⟨⟨d, hh, ?_⟩, hu, ?_⟩)
    · rw [hC f.idx (mem_ctxIdx_cons.mpr (Or.inl rfl)), hi]; exact hb
    · exact hs.congr fun j hj => hC j (mem_ctxIdx_cons.mpr (Or.inr (Or.inl hj)))

theorem LH.plug {hole : Option Nat} (h : LH bl none (c.plug C))
    (hi : u.idx = c.idx) (hC : ∀ j ∈ ctxIdx C, dirtyB bl' j = dirtyB bl j ∧ hashB bl' j = hashB bl j)
    (hc : dirtyB bl' c.idx = dirtyB bl c.idx ∧ hashB bl' c.idx = hashB bl c.idx)
    (hu : LH bl none c → LH bl' hole u) : LH bl' hole (u.plug C) := by
  induction C generalizing c u with
  | nil => exact hu h
  | cons f C ih =>
    have hf := hC f.idx (mem_ctxIdx_cons.mpr (Or.inl rfl))
    have hs := fun j hj => hC j (mem_ctxIdx_cons.mpr (Or.inr (Or.inl hj)))
    refine ih h (by rw [Frame.fill_idx, Frame.fill_idx]) (fun j hj => hC j (mem_ctxIdx_cons.mpr (Or.inr (Or.inr hj))))
      (by rw [Frame.fill_idx]; exact hf) fun h0 => ?_
    obtain ⟨hc0, hs0, cl⟩ := LH.joinI.mp h0
    refine LH.joinI.mpr ⟨hu hc0, (LH.congr hs hs0).weaken _, fun _ hd => ?_⟩
    have hsi := hs _ f.sib.idx_mem
    rw [hf.1] at hd
    have hL : hashB bl' (sideL f.side c.idx f.sib.idx) = hashB bl (sideL f.side c.idx f.sib.idx) := by
      cases f.side
      · exact hc.2
      · exact hsi.2
    have hR : hashB bl' (sideR f.side c.idx f.sib.idx) = hashB bl (sideR f.side c.idx f.sib.idx) := by
      cases f.side
      · exact hsi.2
      · exact hc.2
    rw [hi, hc.1, hsi.1, hf.2, hL, hR]
    exact cl (by simp) hd

/-- `s` stores `c` in the context `C`.  In `S` the context's blocks are as in `s` (`hC`),
and a tree `u` with the same root index stands in the hole (`hi`, `hrep`).  Of the indexes of `c`, `u` keeps `K`
and releases `B`, which go to the free list (`pc`, `hfree`); `A` are the new indexes of `u`, taken from the free
list or appended to the blob (`pu`, `hA`, `hnew`, `hfree`).  The caches hold the leaves of `u` and of the context. -/
theorem Good.plug {s S : Blob} {A B K : List Nat} (g : Good s (c.plug C))
    (hi : u.idx = c.idx) (hrep : Rep S.blocks (parC none C) u) (hC : ∀ j ∈ ctxIdx C, S.blocks[j]? = s.blocks[j]?)
    (pc : c.indices ~ B ++ K) (pu : u.indices ~ A ++ K) (hAn : A.Nodup) (hA : ∀ j ∈ A, j ∉ (c.plug C).indices)
    (hlen : s.blocks.length ≤ S.blocks.length) (hnew : ∀ j, s.blocks.length ≤ j → j < S.blocks.length → j ∈ A)
    (hfn : S.free.Nodup) (hfree : ∀ j, j ∈ S.free ↔ (j ∈ s.free ∧ j ∉ A) ∨ j ∈ B)
    (hk : Cache (·.2.1) [] S.k2i (u.leaves ++ ctxLeaves C)) (hh : Cache (·.2.2.2) [] S.h2i (u.leaves ++ ctxLeaves C))
    (hr : RangeP S) : Good S (u.plug C) := by
  have pt := (IT.plug_indices c C).trans (List.Perm.append_right _ pc)
  have pT := (IT.plug_indices u C).trans (List.Perm.append_right _ pu)
  have pl := (IT.plug_leaves u C).symm
  obtain ⟨hBK, hCn, hd⟩ := List.nodup_append.mp (pt.nodup_iff.mp g.nodup)
  obtain ⟨_, hKn, hBd⟩ := List.nodup_append.mp hBK
  have mt : ∀ j, j ∈ (c.plug C).indices ↔ (j ∈ B ∨ j ∈ K) ∨ j ∈ ctxIdx C := fun j => by
    rw [pt.mem_iff, List.mem_append, List.mem_append]
  have kc := hk.congr (List.Perm.refl _) pl
  have hc := hh.congr (List.Perm.refl _) pl
  refine ⟨g.rep.plug hi hC hrep, (IT.plug_idx C hi).trans g.root, pT.nodup_iff.mpr ?_, hfn, fun j => ?_, kc.perm_nil,
    hc.perm_nil, kc.nodup, hc.nodup, hr⟩
  · refine List.nodup_append.mpr ⟨List.nodup_append.mpr ⟨hAn, hKn, fun a ha b hb e => ?_⟩, hCn, fun a ha b hb e => ?_⟩
    · exact hA a ha ((mt a).mpr (Or.inl (Or.inr (e ▸ hb))))
    · rcases List.mem_append.mp ha with ha | ha
      · exact hA a ha ((mt a).mpr (Or.inr (e ▸ hb)))
      · exact hd a (List.mem_append.mpr (Or.inr ha)) b hb e
  · rw [hfree j, g.free j, mt j, pT.mem_iff, List.mem_append, List.mem_append]
    constructor
    · rintro (⟨⟨h1, h2⟩, h3⟩ | h1)
      · exact ⟨Nat.lt_of_lt_of_le h1 hlen, fun h => h.elim (fun h => h.elim h3 fun h => h2 (Or.inl (Or.inr h)))
          fun h => h2 (Or.inr h)⟩
      · have hm := (mt j).mpr (Or.inl (Or.inl h1))
        exact ⟨Nat.lt_of_lt_of_le (g.rep.lt j hm) hlen, fun h => h.elim (fun h => h.elim (fun h => hA j h hm)
          fun h => hBd j h1 j h rfl) fun h => hd j (List.mem_append.mpr (Or.inl h1)) j h rfl⟩
    · rintro ⟨h1, h2⟩
      by_cases hB : j ∈ B
      · exact Or.inr hB
      · have hjA : j ∉ A := fun h => h2 (Or.inl (Or.inl h))
        refine Or.inl ⟨⟨Nat.lt_of_not_le fun h => hjA (hnew j h h1), fun h => h.elim (fun h => h.elim hB fun h => ?_)
          fun h => h2 (Or.inr h)⟩, hjA⟩
        exact h2 (Or.inl (Or.inr h))

theorem Good.ctx_key_ne {s : Blob} {idx : Nat} {k : KeyId} {v : ValueId} {h : Hash}
    (g : Good s ((IT.leaf idx k v h).plug C)) : ∀ e ∈ ctxLeaves C, e.2.1 ≠ k := fun e he hek =>
  have hn : (k :: (ctxLeaves C).map (·.2.1)).Nodup :=
    ((IT.plug_leaves (IT.leaf idx k v h) C).map fun e : Nat × KVH => e.2.1).nodup_iff.mp g.keys
  (List.nodup_cons.mp hn).1 (List.mem_map.mpr ⟨e, he, hek⟩)

end ChiaModel.Blob
