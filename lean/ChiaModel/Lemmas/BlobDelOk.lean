import ChiaModel.Lemmas.BlobL2
/-
C18, block array: the runs of `delete`, case by case, from what the blocks say at the leaf, its parent, its
sibling and its grandparent (`delete_start_run`, `deleteAt_splice_run`, `delete_promote_leaf_run`,
`delete_promote_node_run`).  Under `LInv` those blocks are as the runs need them, so once the leaf is found nothing
can fail (`delete_keepOrOk`); BlobDelRef reads the final state off the same runs.  There is no `LInv` afterwards here, as
there is for insert and upsert: `LInv` is not inductive for `delete`, since it allows a locally consistent component
detached from the root, and on such a blob a delete can break it.  What holds afterwards is shown under `Good`.
-/
namespace ChiaModel.Blob
open M

theorem delete_absent_run (key : KeyId) (s : Blob) (hg : mapGet s.k2i key = none) :
    delete key s = (.error .err, s) := by
  unfold delete
  show (getLeafByKey key >>= _) s = _
  rw [bind_run, getLeafByKey_run, hg]

theorem delete_start_run (key : KeyId) (s : Blob) (idx : Nat) (d : Bool) (oh : Hash) (p : Option Nat) (v0 : ValueId)
    (hg : mapGet s.k2i key = some idx) (hb : s.blocks[idx]? = some { dirty := d, node := .leaf oh p key v0 }) :
    delete key s = deleteAt idx p
      ({ s with k2i := mapErase s.k2i key, h2i := mapErase s.h2i oh, free := freeInsert s.free idx } : Blob) := by
  unfold delete
  show (getLeafByKey key >>= fun x => removeLeaf key x.2.hash >>= fun _ => deleteAt x.1 x.2.parent) s = _
  rw [bind_run, getLeafByKey_run, hg]
  simp only [hb, bind_run, removeLeaf_run, hg, Node.hash, Node.parent]

/-- `deleteAt` up to the choice of the case: the parent block is read, the sibling is picked and its block read; what
follows depends on whether the parent has a parent -/
theorem deleteAt_run (s0 : Blob) (idx pi : Nat) {dp : Bool} {ph : Hash} {pp : Option Nat} {pl pr : Nat}
    (hpb : s0.blocks[pi]? = some { dirty := dp, node := .internal ph pp pl pr })
    (hch : idx = pl ∨ idx = pr) {sib : Block} (hsb : s0.blocks[if idx = pr then pl else pr]? = some sib) :
    deleteAt idx (some pi) s0 = (match pp with
      | none => deletePromoteRoot (if idx = pr then pl else pr) sib
      | some gi => deleteSplice pi gi (if idx = pr then pl else pr) sib) s0 := by
  have hcond : ¬ (idx ≠ pr ∧ idx ≠ pl) := fun ⟨a, b⟩ => hch.elim b a
  unfold deleteAt
  simp only [bind_run, getNode, getBlock_run, hpb, pure_run]
  rw [if_neg hcond]
  simp only [bind_run, getBlock_run, hsb]
  cases pp <;> rfl

theorem deleteAt_splice_run (s0 : Blob) (idx pi gi : Nat) (dp : Bool) (ph : Hash) (pl pr : Nat)
    (hpb : s0.blocks[pi]? = some { dirty := dp, node := .internal ph (some gi) pl pr })
    (hch : idx = pl ∨ idx = pr) (sib : Block) (hsb : s0.blocks[if idx = pr then pl else pr]? = some sib)
    (dg : Bool) (gh : Hash) (gp : Option Nat) (gl gr : Nat)
    (hgb : s0.blocks[gi]? = some { dirty := dg, node := .internal gh gp gl gr }) (hgc : pi = gl ∨ pi = gr) :
    deleteAt idx (some pi) s0 = markLineageDirty gi
      ((({ s0 with free := freeInsert s0.free pi } : Blob).write (if idx = pr then pl else pr)
          { sib with node := sib.node.setParent (some gi) }).write gi
          { dirty := dg, node := .internal gh gp (if pi = gl then (if idx = pr then pl else pr) else gl)
              (if pi = gl then gr else (if idx = pr then pl else pr)) }) := by
  have hsl : (if idx = pr then pl else pr) < s0.blocks.length := lt_of_block hsb
  have hgl : gi < s0.blocks.length := lt_of_block hgb
  rw [deleteAt_run s0 idx pi hpb hch hsb]
  unfold deleteSplice
  simp only [bind_run, removeInternal_run, getBlock_run]
  have hgb1 : ({ s0 with free := freeInsert s0.free pi } : Blob).blocks[gi]?
      = some { dirty := dg, node := .internal gh gp gl gr } := hgb
  rw [hgb1]
  simp only [writeBlock_run]
  rw [if_neg (by simp only [gt_iff_lt, Nat.not_lt]; exact Nat.le_of_lt hsl)]
  simp only
  have hl2 : gi < (({ s0 with free := freeInsert s0.free pi } : Blob).write (if idx = pr then pl else pr)
      { sib with node := sib.node.setParent (some gi) }).blocks.length := by
    rw [write_len _ _ _ (by exact hsl)]; exact hgl
  by_cases h1 : pi = gl
  · simp only [if_pos h1, bind_run, writeBlock_run]
    rw [if_neg (by simp only [gt_iff_lt, Nat.not_lt]; exact Nat.le_of_lt hl2)]
  · have h2 : pi = gr := hgc.resolve_left h1
    simp only [if_neg h1, if_pos h2, bind_run, writeBlock_run]
    rw [if_neg (by simp only [gt_iff_lt, Nat.not_lt]; exact Nat.le_of_lt hl2)]

theorem delete_promote_leaf_run (s0 : Blob) (idx pi : Nat) (dp : Bool) (ph : Hash) (pl pr : Nat)
    (hpb : s0.blocks[pi]? = some { dirty := dp, node := .internal ph none pl pr })
    (hch : idx = pl ∨ idx = pr) (ds : Bool) (hs : Hash) (ps : Option Nat) (ks : KeyId) (vs : ValueId)
    (hsb : s0.blocks[if idx = pr then pl else pr]? = some { dirty := ds, node := .leaf hs ps ks vs })
    (hsf : (if idx = pr then pl else pr) ∉ (s0.write 0 { dirty := ds, node := .leaf hs none ks vs }).free)
    (h0f : 0 ∉ (s0.write 0 { dirty := ds, node := .leaf hs none ks vs }).free) :
    deleteAt idx (some pi) s0 = (.ok (),
      { (s0.write 0 { dirty := ds, node := .leaf hs none ks vs }) with
        free := freeInsert (s0.write 0 { dirty := ds, node := .leaf hs none ks vs }).free (if idx = pr then pl else pr) }) := by
  rw [deleteAt_run s0 idx pi hpb hch hsb]
  unfold deletePromoteRoot
  simp only [Node.setParent, bind_run, pure_run, writeBlock_run]
  rw [if_neg (by simp only [gt_iff_lt, Nat.not_lt]; exact Nat.zero_le _)]
  simp only [moveIndex_run]
  rw [if_neg hsf, if_neg h0f]

/-- the sibling is internal: its two children are re-parented to index 0 and its block is copied there, which are
the three steps `e1`, `e2`, `e3` (on a stored tree `adopt` of BlobRep gives them) -/
theorem delete_promote_node_run (s0 : Blob) (idx pi : Nat) (dp : Bool) (ph : Hash) (pl pr : Nat)
    (hpb : s0.blocks[pi]? = some { dirty := dp, node := .internal ph none pl pr })
    (hch : idx = pl ∨ idx = pr) (ds : Bool) (hs : Hash) (ps : Option Nat) (l r : Nat)
    (hsb : s0.blocks[if idx = pr then pl else pr]? = some { dirty := ds, node := .internal hs ps l r })
    {b1 b2 : Block} {X1 X2 F : Blob} (e1 : updateParent l (some 0) s0 = (.ok b1, X1))
    (e2 : updateParent r (some 0) X1 = (.ok b2, X2))
    (e3 : writeBlock 0 { dirty := ds, node := .internal hs none l r } X2 = (.ok (), F))
    (hsf : (if idx = pr then pl else pr) ∉ F.free) (h0f : 0 ∉ F.free) :
    deleteAt idx (some pi) s0 = (.ok (), { F with free := freeInsert F.free (if idx = pr then pl else pr) }) := by
  rw [deleteAt_run s0 idx pi hpb hch hsb]
  unfold deletePromoteRoot
  simp only [Node.setParent, bind_run, pure_run, e1, e2, e3, moveIndex_run]
  rw [if_neg hsf, if_neg h0f]

/-- `delete` after the cache entry is removed (`s0`: the blocks of `s`, the leaf `i` freed) cannot fail on a locally
well-formed state.  By the parent of the leaf.  None: `clear`.  The parent is the root: the sibling is promoted to index
0, in one write if it is a leaf, after re-parenting its two children if it is internal; `moveIndex` then wants the
sibling and index 0 off the free list, and freeing `i` has not put them there (`live0`).  The parent has a parent:
the two writes of the splice are at indexes of the blob, and the walk from the grandparent needs only `RangeP`
(`markLineageDirty_ok`), which the writes keep. -/
theorem deleteAt_ok {s : Blob} (hinv : LInv s) (i : Nat) {d : Bool} {hh : Hash} {p : Option Nat}
    {k : KeyId} {v : ValueId} (hi : i ∉ s.free)
    (hb : s.blocks[i]? = some { dirty := d, node := .leaf hh p k v })
    (s0 : Blob) (hbl : s0.blocks = s.blocks) (hfr : s0.free = freeInsert s.free i) :
    Ok (deleteAt i p) s0 (fun _ _ => True) := by
  have hil : i < s.blocks.length := lt_of_block hb
  have hr0 : RangeP s0 := hinv.rangeP.congr hbl.symm
  cases p with
  | none => exact ⟨(), Blob.empty, rfl, trivial⟩
  | some pi =>
    obtain ⟨hpf, d', ph, pp, pl, pr, hpb, hch⟩ := hinv.parent_of hi hb rfl
    obtain ⟨hpl, hpr, hplf, hprf, hne, _, _⟩ := hinv.children hpf hpb
    have hsib : (if i = pr then pl else pr) < s.blocks.length ∧ (if i = pr then pl else pr) ∉ s.free
        ∧ (if i = pr then pl else pr) ≠ i := by
      by_cases e : i = pr
      · rw [if_pos e]; exact ⟨hpl, hplf, fun e2 => hne (e2.trans e)⟩
      · rw [if_neg e]; exact ⟨hpr, hprf, fun e2 => e e2.symm⟩
    obtain ⟨hsl, hsf, hsne⟩ := hsib
    obtain ⟨sib, hsb⟩ := exists_block hsl
    have live0 : ∀ x, x ∉ s.free → x ≠ i → x ∉ s0.free := fun x hx hxi hm => by
      rw [hfr, mem_freeInsert] at hm; exact hm.elim hx hxi
    rw [← hbl] at hpb hsb
    cases pp with
    | none =>
      have h0 : 0 < s.blocks.length := Nat.lt_of_le_of_lt (Nat.zero_le _) hil
      obtain ⟨hr1, hr2⟩ := hinv.root_live h0
      have h0i : (0 : Nat) ≠ i := fun e => by
        rw [← e] at hb; rw [parentOf_block hb] at hr2; cases hr2
      obtain ⟨ds, n⟩ := sib
      cases n with
      | leaf hs ps ks vs =>
        exact ⟨(), _, delete_promote_leaf_run s0 i pi d' ph pl pr hpb hch ds hs ps ks vs hsb
          (fun hm => live0 _ hsf hsne (List.mem_of_mem_erase (write_free .. ▸ hm)))
          (fun hm => live0 _ hr1 h0i (List.mem_of_mem_erase (write_free .. ▸ hm))), trivial⟩
      | internal hs ps l r =>
        obtain ⟨hl, hrr, _⟩ := hinv.children hsf (hbl ▸ hsb)
        obtain ⟨bl, hbl'⟩ := exists_block (s := s0) (i := l) (hbl ▸ hl)
        obtain ⟨br, hbr⟩ := exists_block (s := s0.write l { bl with node := bl.node.setParent (some 0) }) (i := r)
          (by rw [write_len _ _ _ (lt_of_block hbl'), hbl]; exact hrr)
        have sub : ∀ x, x ∈ (((s0.write l { bl with node := bl.node.setParent (some 0) }).write r
            { br with node := br.node.setParent (some 0) }).write 0 { dirty := ds, node := .internal hs none l r }).free →
            x ∈ s0.free := fun x hm => by
          rw [write_free, write_free, write_free] at hm
          exact List.mem_of_mem_erase (List.mem_of_mem_erase (List.mem_of_mem_erase hm))
        exact ⟨(), _, delete_promote_node_run s0 i pi d' ph pl pr hpb hch ds hs ps l r hsb
          (updateParent_run l (some 0) s0 bl hbl') (updateParent_run r (some 0) _ br hbr)
          (writeBlock_run_le 0 _ _ (Nat.zero_le _))
          (fun hm => live0 _ hsf hsne (sub _ hm)) (fun hm => live0 _ hr1 h0i (sub _ hm)), trivial⟩
    | some gi =>
      obtain ⟨_, dg, gh, gp, gl, gr, hgb, hgc⟩ := hinv.parent_of hpf (hbl ▸ hpb) rfl
      rw [← hbl] at hgb
      have hgi : gi < s0.blocks.length := lt_of_block hgb
      unfold Ok
      rw [deleteAt_splice_run s0 i pi gi d' ph pl pr hpb hch sib hsb dg gh gp gl gr hgb hgc]
      have hsl0 : (if i = pr then pl else pr) < s0.blocks.length := lt_of_block hsb
      have r1 := RangeP.write (s := { s0 with free := freeInsert s0.free pi }) (hr0.congr rfl)
        (b := { sib with node := sib.node.setParent (some gi) }) hsl0
        fun q hq => by rw [Node.setParent_parent] at hq; cases hq; exact hgi
      have l1 := write_len ({ s0 with free := freeInsert s0.free pi } : Blob) _
        { sib with node := sib.node.setParent (some gi) } hsl0
      exact markLineageDirty_ok gi _ (r1.write (l1 ▸ hgi) fun q hq => by rw [l1]; exact hr0 gi _ hgb q hq)
        (by rw [write_len _ _ _ (l1 ▸ hgi), l1]; exact hgi)

theorem delete_keepOrOk {s : Blob} (hinv : LInv s) (key : KeyId) : KeepOrOk (delete key) s := by
  cases hg : mapGet s.k2i key with
  | none => exact Or.inl (by rw [delete_absent_run key s hg])
  | some i =>
    obtain ⟨hif, d, hh, p, v, hb⟩ := hinv.key_leaf hg
    refine Or.inr ?_
    unfold Ok
    rw [delete_start_run key s i d hh p v hg hb]
    exact deleteAt_ok hinv i hif hb _ rfl rfl

end ChiaModel.Blob
