import ChiaModel.Lemmas.BlobCtx
import ChiaModel.Lemmas.BlobDelOk
import ChiaModel.Lemmas.BlobRefines
/-
C18, per-operation refinement: `delete`, from the runs of BlobDelOk.  Three cases: the leaf is the root, its parent
is the root (the sibling is promoted to index 0, `delete_promote_good`), its parent has a parent (the sibling takes
the parent's place, `delete_splice_good`).  Central: `del_refines`.
-/
namespace ChiaModel.Blob
open List M

/-- the blob after the structural writes of `delete` when the leaf's parent `pi` has a parent `gi` -/
def spliceState (s : Blob) (idx : Nat) (key : KeyId) (oh : Hash) (pi gi sibIdx : Nat) (sib gb' : Block) : Blob :=
  ((({ s with k2i := mapErase s.k2i key, h2i := mapErase s.h2i oh,
              free := freeInsert (freeInsert s.free idx) pi } : Blob).write sibIdx
      { sib with node := sib.node.setParent (some gi) }).write gi gb')

theorem spliceState_get {s : Blob} {idx pi gi X : Nat} {key : KeyId} {oh : Hash} {sib gb : Block}
    (hX : X < s.blocks.length) (hg : gi < s.blocks.length) (j : Nat) :
    (spliceState s idx key oh pi gi X sib gb).blocks[j]? = if j = gi then some gb
      else if j = X then some { sib with node := sib.node.setParent (some gi) } else s.blocks[j]? := by
  unfold spliceState
  rw [write_get _ _ _ (by rw [write_len _ _ _ (by exact hX)]; exact hg), write_get _ _ _ (by exact hX)]

/-- the two writes of `spliceState` are at live indexes -/
theorem spliceState_kept {s : Blob} {idx pi gi X : Nat} {key : KeyId} {oh : Hash} {sib : Block} {dg : Bool} {gh : Hash}
    {gp : Option Nat} {l r : Nat} {L : List (Nat × KVH)} (hr : RangeP s) (ck : Cache (·.2.1) [] (mapErase s.k2i key) L)
    (ch : Cache (·.2.2.2) [] (mapErase s.h2i oh) L) (hX : X < s.blocks.length) (hg : gi < s.blocks.length)
    (hXf : X ∉ freeInsert (freeInsert s.free idx) pi) (hgf : gi ∉ freeInsert (freeInsert s.free idx) pi)
    (hp : ∀ p, gp = some p → p < s.blocks.length) (hs : ∀ h q k v, sib.node = .leaf h q k v → (X, k, v, h) ∈ L) :
    Kept s.blocks.length (freeInsert (freeInsert s.free idx) pi) [] [] L
      (spliceState s idx key oh pi gi X sib { dirty := dg, node := .internal gh gp l r }) := by
  have k0 : Kept s.blocks.length (freeInsert (freeInsert s.free idx) pi) [] [] L
      { s with k2i := mapErase s.k2i key, h2i := mapErase s.h2i oh, free := freeInsert (freeInsert s.free idx) pi } :=
    ⟨rfl, rfl, hr.congr rfl, ck, ch⟩
  exact (k0.setParent (some gi) hX hXf (fun q e => by cases e; exact hg) hs).write hg hgf hp
    (fun _ _ _ _ hn => by cases hn)

/-- the run of `delete` when the leaf `idx` has the parent `pi` and the grandparent `gi`: `X` is the sibling of the leaf
(the other child of `pi`, the leaf being on side `sd1`), `Y` the other child of `gi` (`pi` being on side `sd2`) -/
theorem delete_splice_run {s : Blob} {key : KeyId} {idx pi gi X Y : Nat} {sd1 sd2 : Side} {d dp dg : Bool}
    {oh ph gh : Hash} {v0 : ValueId} {gp : Option Nat} {sib : Block} (hg : mapGet s.k2i key = some idx)
    (hb : s.blocks[idx]? = some { dirty := d, node := .leaf oh (some pi) key v0 })
    (hpb : s.blocks[pi]? = some { dirty := dp, node := .internal ph (some gi) (sideL sd1 idx X) (sideR sd1 idx X) })
    (hX : idx ≠ X) (hsb : s.blocks[X]? = some sib)
    (hgb : s.blocks[gi]? = some { dirty := dg, node := .internal gh gp (sideL sd2 pi Y) (sideR sd2 pi Y) })
    (hY : pi ≠ Y) :
    delete key s = markLineageDirty gi (spliceState s idx key oh pi gi X sib
      { dirty := dg, node := .internal gh gp (sideL sd2 X Y) (sideR sd2 X Y) }) := by
  have h2 := deleteAt_splice_run
    ({ s with k2i := mapErase s.k2i key, h2i := mapErase s.h2i oh, free := freeInsert s.free idx } : Blob)
    idx pi gi dp ph _ _ hpb (side_mem _ _ _) sib (by rw [side_sib _ hX]; exact hsb) dg gh _ _ _ hgb (side_mem _ _ _)
  rw [side_sib _ hX, (side_repl sd2 X hY).1, (side_repl sd2 X hY).2] at h2
  rw [delete_start_run key s idx d oh (some pi) v0 hg hb, h2]
  rfl

/-- `delete` when the leaf's parent has a parent: the sibling subtree takes the parent's place.  The tree is
`(leaf idx).plug (f1 :: f2 :: C)`: `f1.idx` is the parent, `f1.sib` the sibling subtree, `f2.idx` the grandparent.
The run is the two writes of `spliceState` (the sibling's root re-parented to the grandparent, the grandparent's
child pointer patched) and the walk from the grandparent.  `Good.plug` in the context `C` replaces
`f2.fill (f1.fill leaf)` by `f2.fill f1.sib` and releases `idx` and `f1.idx`; `LH.plug` leaves a hole at the
grandparent, which the walk closes. -/
theorem delete_splice_good {s : Blob} {idx : Nat} {key : KeyId} {v0 : ValueId} {oh : Hash} {f1 f2 : Frame} {C : List Frame}
    (g : Good s ((IT.leaf idx key v0 oh).plug (f1 :: f2 :: C))) :
    ∃ S, delete key s = (.ok (), S) ∧ Good S (f1.sib.plug (f2 :: C))
      ∧ (LH s.blocks none ((IT.leaf idx key v0 oh).plug (f1 :: f2 :: C)) → LH S.blocks none (f1.sib.plug (f2 :: C))) := by
  have hleaf : (idx, key, v0, oh) ∈ ((IT.leaf idx key v0 oh).plug (f1 :: f2 :: C)).leaves :=
    (IT.plug_leaves _ _).mem_iff.mpr (List.mem_append.mpr (Or.inl (by simp [IT.leaves])))
  have hb : s.blocks[idx]? = some { dirty := false, node := .leaf oh (some f1.idx) key v0 } := g.rep.of_plug
  obtain ⟨⟨dp, ph, hpb'⟩, _, rX⟩ := Rep.joinI.mp (g.rep.of_plug (C := f2 :: C) (c := f1.fill _))
  obtain ⟨⟨d2, h2, b2⟩, _, rY⟩ := Rep.joinI.mp (g.rep.of_plug (C := C) (c := f2.fill (f1.fill _)))
  rw [Frame.fill_idx] at b2
  have hn : ((f2.fill (f1.fill (IT.leaf idx key v0 oh))).plug C).indices.Nodup := g.nodup
  obtain ⟨hcn, _, hcC⟩ := IT.nodup_plug.mp hn
  obtain ⟨⟨g1, g2⟩, hpn, hYn, hpY⟩ := IT.nodup_joinI.mp hcn
  obtain ⟨⟨p1, p2⟩, _, hXn, hlX⟩ := IT.nodup_joinI.mp hpn
  simp only [IT.mem_joinI, IT.indices, List.mem_singleton, not_or] at g1 hpY hcC hlX p1
  have hXi : f1.sib.idx ≠ idx := fun e => hlX idx rfl _ f1.sib.idx_mem e.symm
  have hXp : f1.sib.idx ≠ f1.idx := fun e => p2 (e ▸ f1.sib.idx_mem)
  have hXg : f1.sib.idx ≠ f2.idx := fun e => g1.2.2 (e ▸ f1.sib.idx_mem)
  have hpY' : f1.idx ≠ f2.sib.idx := hpY _ (Or.inl rfl) _ f2.sib.idx_mem
  obtain ⟨sib, hsb, hsp, hsl⟩ := rX.root_block
  have hXl := rX.lt _ f1.sib.idx_mem
  have hgl : f2.idx < s.blocks.length := lt_of_block b2
  rw [delete_splice_run (g.kc.get hleaf) hb hpb' (Ne.symm hXi) hsb b2 hpY']
  generalize hsw : spliceState s idx key oh f1.idx f2.idx f1.sib.idx sib { dirty := d2, node := .internal h2 (parC none C) (sideL f2.side f1.sib.idx f2.sib.idx) (sideR f2.side f1.sib.idx f2.sib.idx) } = sw
  have eB : ∀ j, sw.blocks[j]? = _ := fun j => hsw ▸ spliceState_get hXl hgl j
  have hcm : ∀ {j}, j ∈ f1.sib.indices ∨ j ∈ f2.sib.indices ∨ j ∈ ctxIdx C → j ≠ f2.idx := by
    rintro j (h | h | h) e
    · exact g1.2.2 (e ▸ h)
    · exact g2 (e ▸ h)
    · exact hcC _ (Or.inl rfl) j h e.symm
  have hXo : ∀ {j}, j ∈ f2.sib.indices ∨ j ∈ ctxIdx C → j ≠ f1.sib.idx := by
    rintro j (h | h) e
    · exact hpY _ (Or.inr (Or.inr f1.sib.idx_mem)) j h e.symm
    · exact hcC _ (Or.inr (Or.inl (Or.inr (Or.inr f1.sib.idx_mem)))) j h e.symm
  have same : ∀ j, dirtyB sw.blocks j = dirtyB s.blocks j ∧ hashB sw.blocks j = hashB s.blocks j := by
    intro j
    by_cases h1 : j = f2.idx
    · have hg := (eB f2.idx).trans (if_pos rfl)
      rw [h1]
      exact ⟨(dirtyB_get hg).trans (dirtyB_get b2).symm, (hashB_get hg).trans (hashB_get b2).symm⟩
    · by_cases h2 : j = f1.sib.idx
      · rw [h2]; exact dh_setParent hsb (by rw [eB, if_neg hXg, if_pos rfl])
      · exact dh_of_get (by rw [eB, if_neg h1, if_neg h2])
  have gsw : Good sw (f1.sib.plug (f2 :: C)) := by
    have pc : (f2.fill (f1.fill (IT.leaf idx key v0 oh))).indices ~ [f1.idx, idx] ++ (f2.fill f1.sib).indices :=
      ((IT.joinI_indices ..).trans (List.Perm.cons _ (List.Perm.append_right _ (IT.joinI_indices ..)))).trans
        ((List.perm_middle (l₁ := [f1.idx, idx])).symm.trans
          (List.Perm.cons _ (List.Perm.cons _ (IT.joinI_indices ..).symm)))
    have p1 : (f1.fill (IT.leaf idx key v0 oh)).leaves ~ (idx, key, v0, oh) :: f1.sib.leaves := IT.joinI_leaves ..
    have pl : ((IT.leaf idx key v0 oh).plug (f1 :: f2 :: C)).leaves
        ~ (idx, key, v0, oh) :: ((f2.fill f1.sib).leaves ++ ctxLeaves C) :=
      (IT.plug_leaves (f2.fill (f1.fill (IT.leaf idx key v0 oh))) C).trans (List.Perm.append_right _
        ((IT.joinI_leaves ..).trans ((List.Perm.append_right _ p1).trans (List.Perm.cons _ (IT.joinI_leaves ..).symm))))
    have hin : ∀ {x}, x ∈ ctxIdx (f1 :: f2 :: C) → x ∉ s.free :=
      fun hx hf => ((g.free _).mp hf).2 (IT.mem_plug.mpr (Or.inr hx))
    -- the sibling's root and the grandparent are live and are neither the leaf nor its parent
    have live : ∀ x, x ∉ s.free → x ≠ idx → x ≠ f1.idx → x ∉ freeInsert (freeInsert s.free idx) f1.idx := by
      intro x h1 h2 h3 hm
      rw [mem_freeInsert, mem_freeInsert] at hm
      exact hm.elim (fun h => h.elim h1 h2) h3
    have ksw := hsw ▸ spliceState_kept (idx := idx) (pi := f1.idx) g.range (g.kc.congr (List.Perm.refl _) pl).erase
      (g.hc.congr (List.Perm.refl _) pl).erase hXl hgl
      (live _ (hin (mem_ctxIdx_cons.mpr (Or.inr (Or.inl f1.sib.idx_mem)))) hXi hXp)
      (live _ (hin (mem_ctxIdx_cons.mpr (Or.inr (Or.inr (mem_ctxIdx_cons.mpr (Or.inl rfl)))))) g1.2.1 g1.1)
      (fun p hp => g.range _ _ b2 p (by rw [← hp]; rfl))
      fun h q k v hn => List.mem_append.mpr (Or.inl ((IT.joinI_leaves ..).mem_iff.mpr
        (List.mem_append.mpr (Or.inl (hsl h q k v hn)))))
    refine Good.plug (C := C) (c := f2.fill (f1.fill (IT.leaf idx key v0 oh))) (u := f2.fill f1.sib) (A := []) g (by rw [Frame.fill_idx, Frame.fill_idx])
      (Rep.joinI.mpr ⟨⟨d2, h2, by rw [eB, if_pos rfl]⟩, ?_, ?_⟩) ?_ pc (List.Perm.refl _) List.nodup_nil (by simp)
      (Nat.le_of_eq ksw.len.symm) (fun j h1 h2 => absurd (ksw.len ▸ h2) (Nat.not_lt.mpr h1))
      (ksw.free ▸ freeInsert_nodup _ _ (freeInsert_nodup _ _ g.freeNodup)) ?_ ksw.kc ksw.hc ksw.range
    · refine rX.reparent hXn (fun b hb' => ?_) fun j hj hjX => ?_
      · rw [hsb] at hb'
        cases hb'
        rw [eB, if_neg hXg, if_pos rfl]
      · rw [eB, if_neg (hcm (Or.inl hj)), if_neg hjX]
    · exact rY.congr fun j hj => by rw [eB, if_neg (hcm (Or.inr (Or.inl hj))), if_neg (hXo (Or.inl hj))]
    · exact fun j hj => by rw [eB, if_neg (hcm (Or.inr (Or.inr hj))), if_neg (hXo (Or.inr hj))]
    · intro j
      rw [ksw.free, mem_freeInsert, mem_freeInsert]
      constructor
      · rintro ((h | h) | h)
        · exact Or.inl ⟨h, List.not_mem_nil⟩
        · exact Or.inr (by simp [h])
        · exact Or.inr (by simp [h])
      · rintro (⟨h, _⟩ | h)
        · exact Or.inl (Or.inl h)
        · simp only [List.mem_cons, List.not_mem_nil, or_false] at h
          exact h.elim Or.inr fun h => Or.inl (Or.inr h)
  obtain ⟨S, eS, gS, hS⟩ := gsw.markLineageDirty (i := f2.idx)
    ((gsw.live_iff _).mpr (IT.mem_plug.mpr (Or.inr (mem_ctxIdx_cons.mpr (Or.inl rfl))))).2
    ⟨_, _, _, _, _, by rw [eB, if_pos rfl]⟩
  refine ⟨S, eS, gS, fun hl => hS ?_⟩
  refine LH.plug (C := C) (c := f2.fill (f1.fill (IT.leaf idx key v0 oh))) (u := f2.fill f1.sib) hl
    (by rw [Frame.fill_idx, Frame.fill_idx]) (fun j _ => same j) (same _) fun h0 => ?_
  obtain ⟨h1, hY, _⟩ := LH.joinI.mp h0
  obtain ⟨_, hX, _⟩ := LH.joinI.mp h1
  exact LH.joinI.mpr ⟨(LH.congr (fun j _ => same j) hX).weaken _, (LH.congr (fun j _ => same j) hY).weaken _,
    fun hne => absurd rfl hne⟩

namespace IT
def setRoot (j : Nat) : IT → IT
  | leaf _ k v h => leaf j k v h
  | node _ l r => node j l r

theorem setRoot_erase (j : Nat) (t : IT) : (setRoot j t).erase = t.erase := by cases t <;> rfl
theorem setRoot_idx (j : Nat) (t : IT) : (setRoot j t).idx = j := by cases t <;> rfl
end IT

/-- `delete` when the leaf's parent is the root: the sibling subtree is promoted to index 0.  The tree is
`joinI sd 0 (leaf idx) X`.  After the cache entry is removed (`s0`), `deletePromoteRoot` copies the root block of
`X` to index 0, re-parenting its two children first when it is internal, and frees the index it had.  The result
stores `X` with its root moved to 0: `Good.plug` with the empty context releases `idx` and `X.idx` and keeps the
other indexes.  The root has no ancestors, so there is no walk; flags and hashes below it are untouched (`same`). -/
theorem delete_promote_good {s : Blob} {idx : Nat} {key : KeyId} {v0 : ValueId} {oh : Hash} {f : Frame}
    (g : Good s ((IT.leaf idx key v0 oh).plug [f])) :
    ∃ S, delete key s = (.ok (), S) ∧ Good S (f.sib.setRoot 0)
      ∧ (LH s.blocks none ((IT.leaf idx key v0 oh).plug [f]) → LH S.blocks none (f.sib.setRoot 0)) := by
  obtain ⟨sd, r, X⟩ := f
  have hleaf : (idx, key, v0, oh) ∈ ((IT.leaf idx key v0 oh).plug [⟨sd, r, X⟩]).leaves :=
    (IT.joinI_leaves ..).mem_iff.mpr (List.mem_append.mpr (Or.inl (by simp [IT.leaves])))
  have h0 : r = 0 := (IT.joinI_idx sd r _ X).symm.trans g.root
  subst h0
  have hb : s.blocks[idx]? = some { dirty := false, node := .leaf oh (some 0) key v0 } := g.rep.of_plug (C := [⟨sd, 0, X⟩])
  obtain ⟨⟨dp, ph, hpb⟩, _, rX⟩ := Rep.joinI.mp (g.rep : Rep s.blocks none (IT.joinI sd 0 (IT.leaf idx key v0 oh) X))
  obtain ⟨⟨p1, p2⟩, _, hXn, hlX⟩ := IT.nodup_joinI.mp (g.nodup : (IT.joinI sd 0 (IT.leaf idx key v0 oh) X).indices.Nodup)
  have h0i : (0 : Nat) ≠ idx := fun e => p1 (by simp [IT.indices, e])
  have hXi : ∀ j ∈ X.indices, j ≠ idx := fun j hj e => hlX idx (by simp [IT.indices]) j hj e.symm
  have hX0 : ∀ j ∈ X.indices, j ≠ 0 := fun j hj e => p2 (e ▸ hj)
  have live : ∀ j, j = 0 ∨ j ∈ (IT.leaf idx key v0 oh).indices ∨ j ∈ X.indices → j < s.blocks.length ∧ j ∉ s.free :=
    fun j hj => (g.live_iff j).mpr (IT.mem_joinI.mpr hj)
  have pl : ((IT.leaf idx key v0 oh).plug [⟨sd, 0, X⟩]).leaves ~ (idx, key, v0, oh) :: X.leaves := IT.joinI_leaves ..
  -- `s0`: the cache entries of the leaf removed, `idx` on the free list; the blocks are those of `s`
  rw [delete_start_run key s idx false oh (some 0) v0 (g.kc.get hleaf) hb]
  generalize hs0 : ({ s with k2i := mapErase s.k2i key, h2i := mapErase s.h2i oh, free := freeInsert s.free idx } : Blob) = s0
  have hs0b : s0.blocks = s.blocks := by rw [← hs0]
  have hs0f : s0.free = freeInsert s.free idx := by rw [← hs0]
  have ck : Cache (·.2.1) [] s0.k2i X.leaves := by rw [← hs0]; exact (g.kc.congr (List.Perm.refl _) pl).erase
  have ch : Cache (·.2.2.2) [] s0.h2i X.leaves := by rw [← hs0]; exact (g.hc.congr (List.Perm.refl _) pl).erase
  have h0l : 0 < s0.blocks.length := by rw [hs0b]; exact (live 0 (Or.inl rfl)).1
  have r0 : RangeP s0 := g.range.congr hs0b.symm
  -- what both cases need of a final state `F` whose free list is that of `s0`, once `moveIndex` has freed `X.idx`
  have hfN : ∀ (F : Blob) (x : Nat), F.free = freeInsert s.free idx → (freeInsert F.free x).Nodup :=
    fun F x e => freeInsert_nodup _ _ (e ▸ freeInsert_nodup _ _ g.freeNodup)
  have hfree : ∀ (F : Blob), F.free = freeInsert s.free idx → ∀ j, j ∈ freeInsert F.free X.idx ↔
      (j ∈ s.free ∧ j ∉ ([] : List Nat)) ∨ j ∈ [idx, X.idx] := by
    intro F e j
    rw [e, mem_freeInsert, mem_freeInsert]
    simp only [List.not_mem_nil, not_false_eq_true, and_true, List.mem_cons, or_false, or_assoc]
  have notFree : ∀ j, j = 0 ∨ j ∈ X.indices → j ∉ freeInsert s.free idx := by
    intro j hj hm
    rcases (mem_freeInsert _ _ _).mp hm with h | h
    · exact (live j (hj.elim Or.inl fun h => Or.inr (Or.inr h))).2 h
    · exact hj.elim (fun e => h0i (e ▸ h)) fun h' => hXi j h' h
  have hsX : idx ≠ X.idx := fun e => hXi _ X.idx_mem e.symm
  cases X with
  | leaf j ks vs hs =>
    -- the sibling is a leaf: one write, its block at index 0 without a parent; its cache entries move from `j` to 0
    have hsX : idx ≠ j := hsX
    have hsb : s0.blocks[if idx = sideR sd idx j then sideL sd idx j else sideR sd idx j]? =
        some { dirty := false, node := .leaf hs (some 0) ks vs } := by rw [side_sib sd hsX, hs0b]; exact rX
    have eF : (s0.write 0 { dirty := false, node := .leaf hs none ks vs }).free = freeInsert s.free idx := by
      rw [write_free, hs0f, List.erase_of_not_mem (notFree 0 (Or.inl rfl))]
    have eL : (s0.write 0 { dirty := false, node := .leaf hs none ks vs }).blocks.length = s.blocks.length := by
      rw [write_len _ _ _ h0l, hs0b]
    rw [delete_promote_leaf_run s0 idx 0 dp ph _ _ (hs0b ▸ hpb) (side_mem _ _ _) false hs (some 0) ks vs hsb
      (by rw [side_sib sd hsX, eF]; exact notFree j (Or.inr (by simp [IT.indices])))
      (by rw [eF]; exact notFree 0 (Or.inl rfl)), side_sib sd hsX]
    refine ⟨_, rfl, ?_, fun _ => trivial⟩
    refine Good.plug (C := []) (c := IT.joinI sd 0 (IT.leaf idx key v0 oh) (IT.leaf j ks vs hs)) (u := IT.leaf 0 ks vs hs)
      (A := []) (B := [idx, j]) (K := [0]) g (IT.joinI_idx ..).symm ?_ (fun _ h => absurd h List.not_mem_nil)
      ((IT.joinI_indices ..).trans (List.perm_append_comm (l₁ := [0]))) (List.Perm.refl _) List.nodup_nil (by simp)
      (Nat.le_of_eq ?_) (fun x h1 h2 => ?_) (hfN _ _ eF) (hfree _ eF) (ck.reinsert (0, ks, vs, hs) rfl)
      (ch.reinsert (0, ks, vs, hs) rfl) (RangeP.congr rfl (RangeP.write r0 h0l (by simp [Node.parent])))
    · show (s0.write 0 _).blocks[0]? = _
      rw [write_get _ _ _ h0l, if_pos rfl]
      rfl
    · exact eL.symm
    · exact absurd (eL ▸ h2) (Nat.not_lt.mpr h1)
  | node j a b =>
    have hsX : idx ≠ j := hsX
    obtain ⟨⟨ds, hs, hjb⟩, ra, rb⟩ := rX
    have ma : ∀ x ∈ a.indices, x ∈ (IT.node j a b).indices := fun x hx => by simp [IT.indices, hx]
    have mb : ∀ x ∈ b.indices, x ∈ (IT.node j a b).indices := fun x hx => by simp [IT.indices, hx]
    obtain ⟨ba, hba, _, _⟩ := ra.root_block
    obtain ⟨bb, hbb, _, _⟩ := rb.root_block
    -- `deletePromoteRoot`: the children `a`, `b` of the sibling get the parent 0, where the sibling's block is copied
    obtain ⟨X1, X2, F, e1, e2, e3, kF, eB, rF, same⟩ := adopt (s := s0) (L := a.leaves ++ b.leaves) (i := 0)
      ⟨congrArg _ hs0b, hs0f, r0, ck, ch⟩ (pa := some j) (pb := some j) (by rw [hs0b]; exact ra) (by rw [hs0b]; exact rb)
      (List.nodup_cons.mpr ⟨fun h => (List.mem_append.mp h).elim (fun h => hX0 _ (ma _ h) rfl) fun h => hX0 _ (mb _ h) rfl,
        (List.nodup_cons.mp hXn).2⟩)
      (live 0 (Or.inl rfl)).1 (notFree 0 (Or.inl rfl)) (notFree _ (Or.inr (ma _ a.idx_mem)))
      (notFree _ (Or.inr (mb _ b.idx_mem))) (fun e he => List.mem_append.mpr he) (ba := ba) (bb := bb)
      (by rw [hs0b]; exact hba) (by rw [hs0b]; exact hbb) ds hs none (fun _ hq => by cases hq)
    rw [hs0b] at same
    have eL := kF.len
    have eF := kF.free
    have hsb : s0.blocks[if idx = sideR sd idx j then sideL sd idx j else sideR sd idx j]? =
        some { dirty := ds, node := .internal hs (some 0) a.idx b.idx } := by rw [side_sib sd hsX, hs0b]; exact hjb
    rw [delete_promote_node_run s0 idx 0 dp ph _ _ (hs0b ▸ hpb) (side_mem _ _ _) ds hs (some 0) a.idx b.idx hsb e1 e2 e3
      (by rw [side_sib sd hsX, eF]; exact notFree j (Or.inr (by simp [IT.indices])))
      (by rw [eF]; exact notFree 0 (Or.inl rfl)), side_sib sd hsX]
    refine ⟨_, rfl, ?_, fun hl => ?_⟩
    · exact Good.plug (C := []) (c := IT.joinI sd 0 (IT.leaf idx key v0 oh) (IT.node j a b)) (u := IT.node 0 a b)
        (A := []) (B := [idx, j]) (K := 0 :: (a.indices ++ b.indices)) g (IT.joinI_idx ..).symm
        rF (fun _ h => absurd h List.not_mem_nil)
        ((IT.joinI_indices ..).trans (List.perm_middle (l₁ := [idx, j])).symm) (List.Perm.refl _) List.nodup_nil (by simp)
        (Nat.le_of_eq eL.symm) (fun x h1 h2 => absurd (eL ▸ h2) (Nat.not_lt.mpr h1)) (hfN _ _ eF) (hfree _ eF)
        (by rw [ctxLeaves_nil, List.append_nil]; exact kF.kc) (by rw [ctxLeaves_nil, List.append_nil]; exact kF.hc)
        (RangeP.congr rfl kF.range)
    · -- the root's clause is the sibling's: its block is copied, and below it flags and hashes are as before
      obtain ⟨_, ⟨la, lb, c⟩, _⟩ := LH.joinI.mp hl
      have h0 := (eB 0).trans (if_pos rfl)
      show LH F.blocks none (IT.node 0 a b)
      refine ⟨LH.congr (fun x hx => same x (Or.inl hx)) la, LH.congr (fun x hx => same x (Or.inr hx)) lb, fun _ hd => ?_⟩
      have sa := same _ (Or.inl a.idx_mem)
      have sb := same _ (Or.inr b.idx_mem)
      have e0 : hashB F.blocks 0 = hashB s.blocks j := (hashB_get h0).trans (hashB_get hjb).symm
      rw [dirtyB_get h0] at hd
      rw [sa.1, sb.1, sa.2, sb.2, e0]
      exact c (by simp) ((dirtyB_get hjb).trans hd)

theorem del_refines {s : Blob} {t : Option IT} (hs : SInv s t) (k : KeyId) : Refines (.del k) s t := by
  cases t with
  | none =>
    simp only [SInv] at hs
    subst hs
    exact Refines.of_fail (e := .err) rfl (delete_absent_run k _ rfl) rfl
  | some t0 =>
    have g : Good s t0 := hs
    cases hg : mapGet s.k2i k with
    | none =>
      have hkm : k ∉ t0.erase.keys := (g.key_none_iff k).mp hg
      exact Refines.of_fail hs (delete_absent_run k s hg)
        (by simp only [Option.map_some, Tree.step, Tree.delete, if_neg hkm, Tree.orKeep])
    | some idx =>
      have hkm : k ∈ t0.erase.keys := g.key_of_get hg
      obtain ⟨v0, oh, hleaf⟩ := g.leaf_of_key hg
      -- what the L1 side does, given the resulting tree
      have finish : ∀ (S : Blob) (t' : Option IT), delete k s = (.ok (), S) → SInv S t' →
          t0.erase.del k = t'.map IT.erase → (LHo s.blocks (some t0) → LHo S.blocks t') → Refines (.del k) s (some t0) :=
        fun S t' hrun hS hdel hlh => Refines.of_ok hrun hS
          (by simp only [Option.map_some, Tree.step, Tree.delete, if_pos hkm, Tree.orKeep, hdel]) hlh
      obtain ⟨C, rfl⟩ := t0.leaf_plug hleaf
      match C, g, g.ctx_key_ne with
      | [], g, _ =>
        refine finish Blob.empty none ?_ rfl (by simp [IT.plug, IT.erase, T.del]) (fun _ => trivial)
        rw [delete_start_run k s idx false oh none v0 hg g.rep]
        rfl
      | [f], g, hkc =>
        obtain ⟨S, hrun, gS, hlh⟩ := delete_promote_good g
        refine finish S (some (f.sib.setRoot 0)) hrun gS ?_ hlh
        rw [IT.del_leaf_plug hkc, Option.map_some, IT.setRoot_erase]
        rfl
      | f1 :: f2 :: C, g, hkc =>
        obtain ⟨S, hrun, gS, hlh⟩ := delete_splice_good g
        exact finish S (some (f1.sib.plug (f2 :: C))) hrun gS (IT.del_leaf_plug hkc) hlh

end ChiaModel.Blob
