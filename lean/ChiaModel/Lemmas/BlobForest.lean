import ChiaModel.Lemmas.BlobLH
/-
C18, the allocation phase of `batch_insert`.  The loops `batchLeaves`, `pairLevel`, `buildUp`
build a forest of new subtrees next to the blocks that were live at the start; `FT` records what holds of the state
while they run, and each loop keeps it (`batchLeaves_ft`, `pairLevel_ft`, `buildUp_ft`).  `FT` describes the caches
relative to those of the start state (`Cache` with that base) and asks of the start state only a duplicate-free free
list and parent pointers in range (`FT.refl`), so one analysis of the loops serves BlobBatchOk (under `LInv`:
`FT.same`, `FT.old_key`, `FT.lt`) and BlobBatchRef (under `Good`, where `Cache.trans` turns the relative caches into
those of the grafted tree).
-/
namespace ChiaModel.Blob
open List M

/-- `FT` ("forest tracker"): the state `s'` reached from `s` while a batch allocates: `F` = the new subtrees built
so far, each clean at its root and with correct stored hashes; the caches are those of `s` with the leaves of `F` added -/
structure FT (s s' : Blob) (F : List IT) : Prop where
  lenLe : s.blocks.length ≤ s'.blocks.length
  same : ∀ j, j < s.blocks.length → j ∉ s.free → s'.blocks[j]? = s.blocks[j]?
  rep : ∀ c ∈ F, Rep s'.blocks none c
  nodup : (fIdx F).Nodup
  new : ∀ j ∈ fIdx F, j ∈ s.free ∨ s.blocks.length ≤ j
  newIdx : ∀ j, s.blocks.length ≤ j → j < s'.blocks.length → j ∈ fIdx F
  free : ∀ j, j ∈ s'.free ↔ (j ∈ s.free ∧ j ∉ fIdx F)
  freeNodup : s'.free.Nodup
  kc : Cache (·.2.1) s.k2i s'.k2i (fLeaves F)
  hc : Cache (·.2.2.2) s.h2i s'.h2i (fLeaves F)
  range : RangeP s'
  lh : ∀ c ∈ F, LH s'.blocks none c ∧ dirtyB s'.blocks c.idx = false

namespace FT

variable {s s' : Blob} {F : List IT}

theorem refl (hn : s.free.Nodup) (hr : RangeP s) : FT s s [] :=
  ⟨Nat.le_refl _, fun _ _ _ => rfl, fun _ h => (by cases h), List.nodup_nil, fun _ h => (by cases h),
    fun j h1 h2 => absurd h2 (Nat.not_lt.mpr h1), fun j => by simp [fIdx_nil], hn, Cache.refl _ _, Cache.refl _ _, hr,
    fun _ h => (by cases h)⟩

theorem lt (t : FT s s' F) : ∀ j ∈ fIdx F, j < s'.blocks.length := by
  intro j hj
  obtain ⟨c, hc, hjc⟩ := List.mem_flatMap.mp hj
  exact (t.rep c hc).lt j hjc

theorem old_key (t : FT s s' F) (hinv : LInv s) {x : KeyId} (hx : mapGet s.k2i x ≠ none) :
    mapGet s'.k2i x = mapGet s.k2i x :=
  t.kc.get_old hinv.keysNodup fun hm => by
    obtain ⟨e, he, rfl⟩ := List.mem_map.mp hm
    exact hx (t.kc.fresh e he)

end FT

/-- `get_new_index` on `s'`, a state reached from `s` while the forest `F` was built, returned `i` and left `s1`:
`NewIdx`, and what it means relative to `s` next to `FT s s' F` -/
structure Alloc (s s' s1 : Blob) (F : List IT) (i : Nat) : Prop extends NewIdx s' i s1 where
  notIn : i ∉ fIdx F
  fresh : i ∈ s.free ∨ s.blocks.length ≤ i
  newIdx : ∀ j, s.blocks.length ≤ j → j < s1.blocks.length → j = i ∨ j ∈ fIdx F
  freeIff : ∀ j, j ∈ s1.free ↔ (j ∈ s.free ∧ j ≠ i ∧ j ∉ fIdx F)
  freeNodup : s1.free.Nodup
  range : RangeP s1

theorem getNewIndex_alloc {s s' : Blob} {F : List IT} (t : FT s s' F)
    (hlt : ∀ i ∈ s.free, i < s.blocks.length) : ∃ i s1, getNewIndex s' = (.ok i, s1) ∧ Alloc s s' s1 F i := by
  obtain ⟨i, s1, e, a⟩ := getNewIndex_newIdx s' fun j hj => Nat.lt_of_lt_of_le (hlt j ((t.free j).mp hj).1) t.lenLe
  refine ⟨i, s1, e, a, ?_, ?_, fun j h1 h2 => ?_, fun j => ?_, a.free ▸ t.freeNodup.erase i, a.rangeP t.range⟩
  · exact a.new.elim (fun h => ((t.free i).mp h).2) fun h hm => absurd (t.lt i hm) (Nat.not_lt.mpr h)
  · exact a.new.elim (fun h => Or.inl ((t.free i).mp h).1) fun h => Or.inr (Nat.le_trans t.lenLe h)
  · exact (Nat.lt_or_ge j s'.blocks.length).elim (fun hj => Or.inr (t.newIdx j h1 hj)) fun hj => Or.inl (a.top j hj h2)
  · rw [a.free, t.freeNodup.mem_erase_iff, t.free j]
    exact ⟨fun ⟨x, y, z⟩ => ⟨y, x, z⟩, fun ⟨y, x, z⟩ => ⟨x, y, z⟩⟩

theorem Alloc.old {s s' s1 : Blob} {F : List IT} {i : Nat} (A : Alloc s s' s1 F i) (t : FT s s' F) {j : Nat}
    (hj : j < s.blocks.length) (hjf : j ∉ s.free) :
    s1.blocks[j]? = s.blocks[j]? ∧ j < s1.blocks.length ∧ j ∉ s1.free ∧ j ≠ i ∧ j ∉ fIdx F :=
  ⟨by rw [A.same j (Nat.lt_of_lt_of_le hj t.lenLe), t.same j hj hjf], Nat.lt_of_lt_of_le hj (Nat.le_trans t.lenLe A.len),
    fun hm => hjf ((A.freeIff j).mp hm).1, ne_of_new A.fresh hj hjf,
    fun hm => ne_of_new (t.new j hm) hj hjf rfl⟩

/-- after an allocation and writes at the allocated index and at indexes of the forest, the new forest `F'`
(the old indexes and the allocated one) is tracked, given what depends on the written blocks -/
theorem FT.extend {s s' s1 S : Blob} {F F' : List IT} {i : Nat} (t : FT s s' F)
    (A : Alloc s s' s1 F i) (k : Kept s1.blocks.length s1.free s.k2i s.h2i (fLeaves F') S)
    (eO : ∀ j, j ≠ i → j ∉ fIdx F → S.blocks[j]? = s1.blocks[j]?) (pi : fIdx F' ~ i :: fIdx F)
    (hrep : ∀ c ∈ F', Rep S.blocks none c)
    (hl : ∀ c ∈ F', LH S.blocks none c ∧ dirtyB S.blocks c.idx = false) : FT s S F' := by
  have eL := k.len
  have eF := k.free
  refine ⟨by rw [eL]; exact Nat.le_trans t.lenLe A.len, fun j hj hjf => ?_, hrep,
    pi.nodup_iff.mpr (List.nodup_cons.mpr ⟨A.notIn, t.nodup⟩), fun j hj => ?_, fun j h1 h2 => ?_, fun j => ?_,
    eF ▸ A.freeNodup, k.kc, k.hc, k.range, hl⟩
  · obtain ⟨e, _, _, h1, h2⟩ := A.old t hj hjf
    rw [eO j h1 h2, e]
  · rcases List.mem_cons.mp (pi.mem_iff.mp hj) with e | e
    · rw [e]; exact A.fresh
    · exact t.new j e
  · rw [eL] at h2
    exact pi.mem_iff.mpr (List.mem_cons.mpr (A.newIdx j h1 h2))
  · rw [eF, A.freeIff j, pi.mem_iff, List.mem_cons, not_or]

theorem ft_add_leaf {s s' s1 : Blob} {F : List IT} {i : Nat} (t : FT s s' F)
    (A : Alloc s s' s1 F i) (k : KeyId) (v : ValueId) (h : Hash)
    (hk : k ∉ (fLeaves F).map (·.2.1)) (hh : h ∉ (fLeaves F).map (·.2.2.2))
    (hk0 : mapGet s.k2i k = none) (hh0 : mapGet s.h2i h = none) :
    FT s (s1.write i { dirty := false, node := .leaf h none k v }) (F ++ [.leaf i k v h]) := by
  have eB : ∀ j, (s1.write i { dirty := false, node := .leaf h none k v }).blocks[j]?
      = if j = i then some { dirty := false, node := .leaf h none k v } else s1.blocks[j]? := write_get _ _ _ A.lt
  have hinot : i ∉ s1.free := fun hm => ((A.freeIff i).mp hm).2.1 rfl
  have pl : (i, k, v, h) :: fLeaves F ~ fLeaves (F ++ [.leaf i k v h]) := by
    rw [fLeaves_append, fLeaves_single]
    exact List.perm_append_comm (l₁ := [(i, k, v, h)])
  have keep : ∀ c ∈ F, ∀ j ∈ c.indices, (s1.write i { dirty := false, node := .leaf h none k v }).blocks[j]? = s'.blocks[j]? :=
    fun c hc j hj => by
      rw [eB, if_neg (fun (e : j = i) => A.notIn (e ▸ mem_fIdx hc hj)), A.same j (t.lt j (mem_fIdx hc hj))]
  refine t.extend A ⟨write_len _ _ _ A.lt, by rw [write_free, List.erase_of_not_mem hinot],
      RangeP.write A.range A.lt (by simp [Node.parent]),
      ((A.k2i ▸ t.kc).insert_new (e := (i, k, v, h)) hk hk0).congr (List.Perm.refl _) pl,
      ((A.h2i ▸ t.hc).insert_new (e := (i, k, v, h)) hh hh0).congr (List.Perm.refl _) pl⟩
    (fun j h1 _ => by rw [eB, if_neg h1]) (by rw [fIdx_append]; exact List.perm_append_comm) (fun c hc => ?_)
    fun c hc => ?_
  · rcases List.mem_append.mp hc with hc | hc
    · exact (t.rep c hc).congr (keep c hc)
    · cases List.mem_singleton.mp hc
      exact (eB i).trans (if_pos rfl)
  · rcases List.mem_append.mp hc with hc | hc
    · have hsm := fun j hj => dh_of_get (keep c hc j hj)
      exact ⟨LH.congr hsm (t.lh c hc).1, by rw [(hsm _ c.idx_mem).1]; exact (t.lh c hc).2⟩
    · cases List.mem_singleton.mp hc
      exact ⟨trivial, dirtyB_get ((eB i).trans (if_pos rfl))⟩

/-- the leaf-creation loop of `batch_insert`: the items' keys and hashes are distinct and unknown to the caches of
the start state (what `batchValid` establishes) -/
theorem batchLeaves_ft {s : Blob} (hlt : ∀ i ∈ s.free, i < s.blocks.length) (l : List KVH) :
    ∀ {s' : Blob} {F0 : List IT}, FT s s' F0 →
    ((fLeaves F0).map (·.2.1) ++ l.map (·.1)).Nodup → ((fLeaves F0).map (·.2.2.2) ++ l.map (·.2.2)).Nodup →
    (∀ e ∈ l, mapGet s.k2i e.1 = none ∧ mapGet s.h2i e.2.2 = none) →
    ∃ idxs s'' G, batchLeaves l s' = (.ok idxs, s'') ∧ idxs = G.map IT.idx
      ∧ G.map IT.erase = l.map (fun e => T.leaf e.1 e.2.1 e.2.2)
      ∧ FT s s'' (F0 ++ G) := by
  induction l with
  | nil =>
    intro s' F0 t _ _ _
    exact ⟨[], s', [], rfl, rfl, rfl, by simpa using t⟩
  | cons x l ih =>
    intro s' F0 t hkn hhn hfr
    obtain ⟨k, v, h⟩ := x
    obtain ⟨i, s1, e1, A⟩ := getNewIndex_alloc t hlt
    have t2 := ft_add_leaf t A k v h (fun hm => (List.nodup_append.mp hkn).2.2 k hm k (by simp) rfl)
      (fun hm => (List.nodup_append.mp hhn).2.2 h hm h (by simp) rfl) (hfr _ List.mem_cons_self).1
      (hfr _ List.mem_cons_self).2
    have pl : fLeaves (F0 ++ [IT.leaf i k v h]) ~ fLeaves F0 ++ [(i, k, v, h)] := by
      rw [fLeaves_append, fLeaves_single]; exact List.Perm.refl _
    obtain ⟨idxs, s3, G, e3, hi, he, t3⟩ := ih t2
      (((pl.map _).append_right _).nodup_iff.mpr (by simpa using hkn))
      (((pl.map _).append_right _).nodup_iff.mpr (by simpa using hhn))
      (fun e he => hfr e (List.mem_cons_of_mem _ he))
    refine ⟨i :: idxs, s3, IT.leaf i k v h :: G, ?_, by simp [hi, IT.idx], by simp [he, IT.erase], by simpa using t3⟩
    simp only [batchLeaves, bind_run, e1, writeBlock_run]
    rw [if_neg (by simp only [gt_iff_lt, Nat.not_lt]; exact Nat.le_of_lt A.lt)]
    simp only [e3, pure_run]

theorem FT.perm {s s' : Blob} {F F' : List IT} (t : FT s s' F) (p : F ~ F') : FT s s' F' := by
  have pi : fIdx F ~ fIdx F' := List.Perm.flatMap_right _ p
  have pl : fLeaves F ~ fLeaves F' := List.Perm.flatMap_right _ p
  refine ⟨t.lenLe, t.same, fun c hc => t.rep c (p.mem_iff.mpr hc), pi.nodup_iff.mp t.nodup,
    fun j hj => t.new j (pi.mem_iff.mpr hj), fun j h1 h2 => pi.mem_iff.mp (t.newIdx j h1 h2), fun j => ?_, t.freeNodup,
    t.kc.congr (List.Perm.refl _) pl, t.hc.congr (List.Perm.refl _) pl, t.range, fun c hc => t.lh c (p.mem_iff.mpr hc)⟩
  rw [t.free j, pi.mem_iff]

/-- one pairing step: two trees of the forest get a new common parent.  After the allocation of `ni` the
roots of `a` and `b` are re-parented to it and the new internal block is written (`adopt`): the new tree is stored,
below `ni` flags and hashes are as before, which gives its `LH`, and the rest of the forest is left alone. -/
theorem ft_pair {s s' : Blob} {a b : IT} {R : List IT} (hlt : ∀ i ∈ s.free, i < s.blocks.length)
    (t : FT s s' (a :: b :: R)) :
    ∃ ni s1 b1 s2 b2 s3 s4, getNewIndex s' = (.ok ni, s1) ∧ updateParent a.idx (some ni) s1 = (.ok b1, s2)
      ∧ updateParent b.idx (some ni) s2 = (.ok b2, s3)
      ∧ writeBlock ni { dirty := false, node := .internal (internalHash b1.node.hash b2.node.hash) none a.idx b.idx } s3
          = (.ok (), s4)
      ∧ FT s s4 (IT.node ni a b :: R) := by
  obtain ⟨ni, s1, e1, A⟩ := getNewIndex_alloc t hlt
  have haF : ∀ j ∈ a.indices, j ∈ fIdx (a :: b :: R) := fun j hj => mem_fIdx (by simp) hj
  have hbF : ∀ j ∈ b.indices, j ∈ fIdx (a :: b :: R) := fun j hj => mem_fIdx (List.mem_cons_of_mem _ (by simp)) hj
  have hRF : ∀ c ∈ R, ∀ j ∈ c.indices, j ∈ fIdx (a :: b :: R) :=
    fun c hc j hj => mem_fIdx (List.mem_cons_of_mem _ (List.mem_cons_of_mem _ hc)) hj
  have hnd := t.nodup
  rw [fIdx_cons, fIdx_cons] at hnd
  obtain ⟨han, hrest, hdis1⟩ := List.nodup_append.mp hnd
  obtain ⟨hbn, hRn, hdis2⟩ := List.nodup_append.mp hrest
  -- after the allocation the forest is stored as before, at live indexes other than `ni`
  have same1 : ∀ j ∈ fIdx (a :: b :: R), s1.blocks[j]? = s'.blocks[j]? := fun j hj => A.same j (t.lt j hj)
  have live1 : ∀ j ∈ fIdx (a :: b :: R), j ∉ s1.free := fun j hj hm => ((A.freeIff _).mp hm).2.2 hj
  have hra := (t.rep a (by simp)).congr fun j hj => same1 j (haF j hj)
  have hrb := (t.rep b (by simp)).congr fun j hj => same1 j (hbF j hj)
  obtain ⟨ba, hba, _, _⟩ := hra.root_block
  obtain ⟨bb, hbb, _, _⟩ := hrb.root_block
  obtain ⟨X1, X2, F, e2, e3, e4, kF, eB, rN, dh⟩ := adopt (L := fLeaves (a :: b :: R))
    ⟨rfl, rfl, A.range, A.k2i ▸ t.kc, A.h2i ▸ t.hc⟩ hra hrb (i := ni)
    (List.nodup_cons.mpr ⟨fun h => (List.mem_append.mp h).elim (fun h => A.notIn (haF _ h)) fun h => A.notIn (hbF _ h),
      List.nodup_append.mpr ⟨han, hbn, fun x hx y hy => hdis1 x hx y (List.mem_append.mpr (Or.inl hy))⟩⟩)
    A.lt (fun hm => ((A.freeIff ni).mp hm).2.1 rfl) (live1 _ (haF _ a.idx_mem)) (live1 _ (hbF _ b.idx_mem))
    (fun e he => List.mem_flatMap.mpr (he.elim (fun h => ⟨a, by simp, h⟩) fun h => ⟨b, by simp, h⟩)) hba hbb false
    (internalHash (ba.node.setParent (some ni)).hash (bb.node.setParent (some ni)).hash) none (fun _ hq => by cases hq)
  refine ⟨ni, s1, _, X1, _, X2, F, e1, e2, e3, e4, ?_⟩
  have hni : ∀ j ∈ fIdx (a :: b :: R), j ≠ ni := fun j hj e => A.notIn (e ▸ hj)
  have hself := (eB ni).trans (if_pos rfl)
  have hXb := (eB b.idx).trans (by rw [if_neg (hni _ (hbF _ b.idx_mem)), if_pos rfl])
  have hXa := (eB a.idx).trans (by
    rw [if_neg (hni _ (haF _ a.idx_mem)), if_neg (fun e => hdis1 _ a.idx_mem _ (List.mem_append.mpr (Or.inl b.idx_mem)) e),
      if_pos rfl])
  have other : ∀ c ∈ R, ∀ j ∈ c.indices, F.blocks[j]? = s'.blocks[j]? := fun c hc j hj => by
    have hjR : j ∈ fIdx R := mem_fIdx hc hj
    rw [eB j, if_neg (hni j (hRF c hc j hj)), if_neg (fun e => hdis2 _ b.idx_mem j hjR e.symm),
      if_neg (fun e => hdis1 _ a.idx_mem j (List.mem_append.mpr (Or.inr hjR)) e.symm), same1 j (hRF c hc j hj)]
  have dh' : ∀ j, j ∈ a.indices ∨ j ∈ b.indices →
      dirtyB F.blocks j = dirtyB s'.blocks j ∧ hashB F.blocks j = hashB s'.blocks j := fun j hj => by
    have := dh_of_get (same1 j (hj.elim (haF j) (hbF j)))
    exact ⟨(dh j hj).1.trans this.1, (dh j hj).2.trans this.2⟩
  refine t.extend A (by rw [fLeaves_cons, IT.leaves, List.append_assoc]; exact kF)
    (fun j h1 h2 => ?_) (by simp [fIdx_cons, IT.indices]) (fun c hc => ?_) fun c hc => ?_
  · rw [eB j, if_neg h1, if_neg (fun (e : j = b.idx) => h2 (e ▸ hbF _ b.idx_mem)),
      if_neg (fun (e : j = a.idx) => h2 (e ▸ haF _ a.idx_mem))]
  · rcases List.mem_cons.mp hc with hc | hc
    · exact hc ▸ rN
    · exact (t.rep c (List.mem_cons_of_mem _ (List.mem_cons_of_mem _ hc))).congr (other c hc)
  · rcases List.mem_cons.mp hc with hc | hc
    · subst hc
      have la := t.lh a (by simp)
      have lb := t.lh b (by simp)
      refine ⟨⟨LH.congr (fun j hj => dh' j (Or.inl hj)) la.1, LH.congr (fun j hj => dh' j (Or.inr hj)) lb.1, fun _ _ => ?_⟩, ?_⟩
      · refine ⟨by rw [(dh' _ (Or.inl a.idx_mem)).1]; exact la.2, by rw [(dh' _ (Or.inr b.idx_mem)).1]; exact lb.2, ?_⟩
        rw [hashB_get hself, hashB_get hXa, hashB_get hXb]
        rfl
      · rw [IT.idx_node, dirtyB_get hself]
    · have lc := t.lh c (List.mem_cons_of_mem _ (List.mem_cons_of_mem _ hc))
      have hsm := fun j hj => dh_of_get (other c hc j hj)
      exact ⟨LH.congr hsm lc.1, by rw [(hsm _ c.idx_mem).1]; exact lc.2⟩

/-- `pairLevel` on the roots of `Q` pairs them as `T.pairLevel` pairs the trees, and the forest stays tracked.  `D` are the
trees this level has already built: they stay in the forest while the rest of `Q` is paired.  `pairLevel` takes its
list two at a time, so the induction is on a bound `n` of the length of `Q`. -/
theorem pairLevel_ft {s : Blob} (hlt : ∀ i ∈ s.free, i < s.blocks.length) (n : Nat) :
    ∀ (Q D : List IT) {s' : Blob}, Q.length ≤ n → FT s s' (Q ++ D) →
    ∃ idxs s'' Q', pairLevel (Q.map IT.idx) s' = (.ok idxs, s'') ∧ idxs = Q'.map IT.idx
      ∧ Q'.map IT.erase = T.pairLevel (Q.map IT.erase) ∧ FT s s'' (Q' ++ D) := by
  induction n with
  | zero =>
    intro Q D s' hn t
    have : Q = [] := List.length_eq_zero_iff.mp (Nat.le_zero.mp hn)
    subst this
    exact ⟨[], s', [], rfl, rfl, rfl, t⟩
  | succ n ih =>
    intro Q D s' hn t
    match Q, hn, t with
    | [], _, t => exact ⟨[], s', [], rfl, rfl, rfl, t⟩
    | [a], _, t => exact ⟨[a.idx], s', [a], rfl, rfl, rfl, t⟩
    | a :: b :: R, hn, t =>
      obtain ⟨ni, s1, b1, s2, b2, s3, s4, e1, e2, e3, e4, t1⟩ := ft_pair hlt (R := R ++ D) (by simpa using t)
      obtain ⟨idxs, s5, Q', e5, hi, he, t2⟩ := ih R (IT.node ni a b :: D) (by simp at hn; omega)
        (t1.perm (by simpa using (List.perm_middle (a := IT.node ni a b) (l₁ := R) (l₂ := D)).symm))
      refine ⟨ni :: idxs, s5, IT.node ni a b :: Q', ?_, by simp [hi, IT.idx], by simp [he, T.pairLevel, IT.erase],
        t2.perm (by simp)⟩
      simp only [List.map_cons, pairLevel, bind_run, e1, e2, e3, e4, e5, pure_run]

theorem buildUp_ft {s : Blob} (hlt : ∀ i ∈ s.free, i < s.blocks.length) (f : Nat) :
    ∀ (Q : List IT) {s' : Blob}, FT s s' Q →
    ∃ idxs s'' Q', buildUp f (Q.map IT.idx) s' = (.ok idxs, s'') ∧ idxs = Q'.map IT.idx
      ∧ Q'.map IT.erase = T.buildUp f (Q.map IT.erase) ∧ FT s s'' Q' := by
  induction f with
  | zero => intro Q s' t; exact ⟨Q.map IT.idx, s', Q, rfl, rfl, rfl, t⟩
  | succ f ih =>
    intro Q s' t
    simp only [buildUp, T.buildUp, List.length_map]
    by_cases hl : Q.length > 1
    · rw [if_pos hl, if_pos hl]
      obtain ⟨idxs, s1, Q1, e1, hi1, he1, t1⟩ := pairLevel_ft hlt Q.length Q [] (Nat.le_refl _) (by simpa using t)
      obtain ⟨idxs2, s2, Q2, e2, hi2, he2, t2⟩ := ih Q1 (by simpa using t1)
      refine ⟨idxs2, s2, Q2, ?_, hi2, by rw [he2, he1], t2⟩
      simp only [bind_run, e1, hi1, e2]
    · rw [if_neg hl, if_neg hl]
      exact ⟨Q.map IT.idx, s', Q, rfl, rfl, rfl, t⟩

end ChiaModel.Blob
