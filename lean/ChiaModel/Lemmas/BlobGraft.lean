import ChiaModel.Lemmas.BlobCtx
/-
C18, per-operation refinement: grafting a new subtree `N` (under a new internal node `ni`) next to the
leaf at index `idx`, the common core of `insert_third_or_later` and `insert_subtree_at_key`.  `GraftPost` lists what
either caller establishes about the blocks; `GraftPost.good_after` and `GraftPost.lh` conclude by `Good.plug` and
`LH.plug`.
-/
namespace ChiaModel.Blob
open List

/-- What either caller establishes for the graft.  About the state `s` before and the new subtree `N`: `good` … `nNodup`,
`keys`, `hashes` (the leaf `idx`, its parent `opi` with parent pointer `pp` and children `pl`, `pr`; `ni` and the
indexes of `N` are not in the tree).  About the state `T` after: `repN` … `range` (`N` stored below `ni`, the blocks
at `ni`, `idx`, `opi` — whose children are now `pl'`, `pr'` —, every other block of the tree as before, the free list
and the caches).  `pkids` is not symmetric because `replaceChild` tests the left child first. -/
structure GraftPost (s T : Blob) (t N : IT) (idx ni opi : Nat) (side : Side)
    (oh : Hash) (ok : KeyId) (ov : ValueId) (pp : Option Nat) (pl pr pl' pr' : Nat) : Prop where
  good : Good s t
  leafMem : (idx, ok, ov, oh) ∈ t.leaves
  leafB : s.blocks[idx]? = some { dirty := false, node := .leaf oh (some opi) ok ov }
  par : ∃ d hh, s.blocks[opi]? = some { dirty := d, node := .internal hh pp pl pr }
  pkids : (idx = pl ∧ pl' = ni ∧ pr' = pr) ∨ (idx = pr ∧ idx ≠ pl ∧ pl' = pl ∧ pr' = ni)
  niNew : ni ∉ t.indices
  nNew : ∀ j ∈ N.indices, j ∉ t.indices
  niN : ni ∉ N.indices
  nNodup : N.indices.Nodup
  repN : Rep T.blocks (some ni) N
  bNi : ∃ d hh, T.blocks[ni]? =
    some { dirty := d, node := Node.internal hh (some opi) (sideL side N.idx idx) (sideR side N.idx idx) }
  bIdx : T.blocks[idx]? = some { dirty := false, node := .leaf oh (some ni) ok ov }
  bOpi : ∃ d hh, T.blocks[opi]? = some { dirty := d, node := .internal hh pp pl' pr' }
  bOther : ∀ j ∈ t.indices, j ≠ idx → j ≠ opi → T.blocks[j]? = s.blocks[j]?
  lenLe : s.blocks.length ≤ T.blocks.length
  newIdx : ∀ j, s.blocks.length ≤ j → j < T.blocks.length → j = ni ∨ j ∈ N.indices
  free : ∀ j, j ∈ T.free ↔ (j ∈ s.free ∧ j ≠ ni ∧ j ∉ N.indices)
  freeNodup : T.free.Nodup
  k2i : T.k2i ~ N.leaves.map (fun e => (e.2.1, e.1)) ++ s.k2i
  h2i : T.h2i ~ N.leaves.map (fun e => (e.2.2.2, e.1)) ++ s.h2i
  keys : (N.leaves.map (·.2.1) ++ t.leaves.map (·.2.1)).Nodup
  hashes : (N.leaves.map (·.2.2.2) ++ t.leaves.map (·.2.2.2)).Nodup
  range : RangeP T

namespace GraftPost

variable {s T : Blob} {t N : IT} {idx ni opi : Nat} {side : Side} {oh : Hash} {ok : KeyId} {ov : ValueId}
  {pp : Option Nat} {pl pr pl' pr' : Nat}

/-- the leaf's place in the tree, the parent block before and after in terms of the side the leaf is on, and the
blocks the graft leaves alone -/
theorem ctx (P : GraftPost s T t N idx ni opi side oh ok ov pp pl pr pl' pr') {C₀ : List Frame}
    (ht : t = (IT.leaf idx ok ov oh).plug C₀) :
    ∃ f C, C₀ = f :: C ∧ f.idx = opi ∧ pp = parC none C
      ∧ pl' = sideL f.side ni f.sib.idx ∧ pr' = sideR f.side ni f.sib.idx
      ∧ ∀ j, j ∈ f.sib.indices ∨ j ∈ ctxIdx C → T.blocks[j]? = s.blocks[j]? := by
  subst ht
  have r0 : s.blocks[idx]? = some _ := P.good.rep.of_plug
  rw [P.leafB] at r0
  cases C₀ with
  | nil => cases r0
  | cons f C =>
    obtain ⟨⟨d1, h1, b1⟩, _, _⟩ := Rep.joinI.mp (P.good.rep.of_plug (C := C) (c := f.fill _))
    obtain ⟨hcn, _, hcC⟩ := (IT.nodup_plug (c := f.fill (IT.leaf idx ok ov oh)) (C := C)).mp P.good.nodup
    obtain ⟨⟨_, p2⟩, _, _, hlX⟩ := IT.nodup_joinI.mp hcn
    have hne : idx ≠ f.sib.idx := hlX idx (by simp [IT.indices]) _ f.sib.idx_mem
    cases r0
    obtain ⟨d0, h0, b0⟩ := P.par
    rw [b0] at b1
    cases b1
    refine ⟨f, C, rfl, rfl, rfl, ?_, ?_, ?_⟩
    · rcases P.pkids with ⟨a0, a, _⟩ | ⟨a0, a1, a, _⟩ <;> cases hsd : f.side <;> rw [hsd] at a0
      · exact a
      · exact absurd a0 hne
      · exact absurd a0 hne
      · exact a.trans (by rw [hsd]; rfl)
    · rcases P.pkids with ⟨a0, _, b⟩ | ⟨a0, a1, _, b⟩ <;> cases hsd : f.side <;> rw [hsd] at a0
      · exact b.trans (by rw [hsd]; rfl)
      · exact absurd a0 hne
      · exact absurd a0 hne
      · exact b
    · rintro j (h | h)
      · exact P.bOther j (IT.mem_plug.mpr (Or.inr (mem_ctxIdx_cons.mpr (Or.inr (Or.inl h)))))
          (fun e => hlX idx (by simp [IT.indices]) j h e.symm) fun e => p2 (e ▸ h)
      · exact P.bOther j (IT.mem_plug.mpr (Or.inr (mem_ctxIdx_cons.mpr (Or.inr (Or.inr h)))))
          (fun e => hcC idx (IT.mem_joinI.mpr (Or.inr (Or.inl (by simp [IT.indices])))) j h e.symm)
          fun e => hcC f.idx (IT.mem_joinI.mpr (Or.inl rfl)) j h e.symm

theorem opiLive (P : GraftPost s T t N idx ni opi side oh ok ov pp pl pr pl' pr') : opi ∉ T.free := by
  obtain ⟨C₀, ht⟩ := t.leaf_plug P.leafMem
  obtain ⟨f, C, rfl, rfl, _⟩ := P.ctx ht
  subst ht
  exact fun h => ((P.good.free _).mp ((P.free _).mp h).1).2 (IT.mem_plug.mpr (Or.inr (mem_ctxIdx_cons.mpr (Or.inl rfl))))

theorem good_after (P : GraftPost s T t N idx ni opi side oh ok ov pp pl pr pl' pr') {C₀ : List Frame}
    (ht : t = (IT.leaf idx ok ov oh).plug C₀) : Good T ((IT.joinI side ni N (IT.leaf idx ok ov oh)).plug C₀) := by
  obtain ⟨f, C, rfl, rfl, rfl, rfl, rfl, hfar⟩ := P.ctx ht
  subst ht
  have g := P.good
  obtain ⟨dT, hhT, hbT⟩ := P.bOpi
  obtain ⟨_, _, rX⟩ := Rep.joinI.mp (g.rep.of_plug (C := C) (c := f.fill _))
  have pu : (IT.joinI side ni N (IT.leaf idx ok ov oh)).indices ~ (ni :: N.indices) ++ (IT.leaf idx ok ov oh).indices :=
    IT.joinI_indices ..
  have pl : (IT.joinI side ni N (IT.leaf idx ok ov oh)).leaves ~ N.leaves ++ (IT.leaf idx ok ov oh).leaves :=
    IT.joinI_leaves ..
  have pL : N.leaves ++ ((IT.leaf idx ok ov oh).plug (f :: C)).leaves
      ~ (f.fill (IT.joinI side ni N (IT.leaf idx ok ov oh))).leaves ++ ctxLeaves C :=
    (List.Perm.append_left _ (IT.plug_leaves (f.fill (IT.leaf idx ok ov oh)) C)).trans
      ((List.append_assoc ..).symm ▸ List.Perm.append_right _ (f.fill_leaves pl).symm)
  refine Good.plug (C := C) (c := f.fill (IT.leaf idx ok ov oh)) (u := f.fill (IT.joinI side ni N (IT.leaf idx ok ov oh)))
    (B := []) g (by rw [Frame.fill_idx, Frame.fill_idx])
    (Rep.joinI.mpr ⟨⟨dT, hhT, by rw [IT.joinI_idx]; exact hbT⟩, Rep.joinI.mpr ⟨P.bNi, P.repN, P.bIdx⟩,
      rX.congr fun j hj => hfar j (Or.inl hj)⟩) (fun j hj => hfar j (Or.inr hj))
    (List.Perm.refl _) (f.fill_indices pu) (List.nodup_cons.mpr ⟨P.niN, P.nNodup⟩) ?_ P.lenLe
    (fun j h1 h2 => List.mem_cons.mpr (P.newIdx j h1 h2)) P.freeNodup ?_
    (Cache.congr (.of_perm (P.k2i.trans (by rw [List.map_append]; exact List.Perm.append_left _ g.k2i))
      (by rw [List.map_append]; exact P.keys)) (List.Perm.refl _) pL)
    (Cache.congr (.of_perm (P.h2i.trans (by rw [List.map_append]; exact List.Perm.append_left _ g.h2i))
      (by rw [List.map_append]; exact P.hashes)) (List.Perm.refl _) pL) P.range
  · intro j hj
    rcases List.mem_cons.mp hj with e | e
    · rw [e]; exact P.niNew
    · exact P.nNew j e
  · intro j
    rw [P.free j, List.mem_cons, not_or]
    exact ⟨Or.inl, fun h => h.elim id fun h => absurd h List.not_mem_nil⟩

/-- the hole is at the old parent `opi` of the leaf, whose child changed -/
theorem lh (P : GraftPost s T t N idx ni opi side oh ok ov pp pl pr pl' pr') (hN : LH T.blocks none N)
    (hNc : dirtyB T.blocks N.idx = false)
    (hni : hashB T.blocks ni = internalHash (hashB T.blocks (sideL side N.idx idx)) (hashB T.blocks (sideR side N.idx idx)))
    (hopi : dirtyB T.blocks opi = dirtyB s.blocks opi ∧ hashB T.blocks opi = hashB s.blocks opi)
    {C₀ : List Frame} (ht : t = (IT.leaf idx ok ov oh).plug C₀) (hl : LH s.blocks none t) :
    LH T.blocks (some opi) ((IT.joinI side ni N (IT.leaf idx ok ov oh)).plug C₀) := by
  obtain ⟨f, C, rfl, rfl, rfl, rfl, rfl, hfar⟩ := P.ctx ht
  subst ht
  refine LH.plug (C := C) (c := f.fill (IT.leaf idx ok ov oh)) (u := f.fill (IT.joinI side ni N (IT.leaf idx ok ov oh)))
    hl (by rw [Frame.fill_idx, Frame.fill_idx]) (fun j hj => dh_of_get (hfar j (Or.inr hj)))
    (by rw [Frame.fill_idx]; exact hopi) fun h0 => ?_
  refine LH.joinI.mpr ⟨LH.joinI.mpr ⟨hN.weaken _, trivial, fun _ _ => ⟨hNc, ?_, hni⟩⟩,
    (LH.congr (fun j hj => dh_of_get (hfar j (Or.inl hj))) (LH.joinI.mp h0).2.1).weaken _, fun hne => absurd rfl hne⟩
  rw [show (IT.leaf idx ok ov oh).idx = idx from rfl, dirtyB_get P.bIdx]

end GraftPost

end ChiaModel.Blob
