import ChiaModel.Lemmas.BlobHashes
import ChiaModel.Lemmas.BlobLH
/-
C18, hash invariant on trees with stored hashes.  `C18.Good` is what `HT.check` decides (`HT.check_eq`) and
`HT.recompute` keeps (`C18.Good.recompute`).  `LH_iff_good`: on a stored tree the block-level, node-local `LH` says
`C18.Good` of `IT.toHT`.
-/
namespace ChiaModel.C18
open ChiaModel ChiaModel.Blob List

/-- the hash invariant on trees with stored hashes: a clean internal node stores the Merkle hash of
its subtree and has only clean descendants (so a dirty node has only dirty ancestors) -/
def Good : HT → Prop
  | .leaf _ _ _ => True
  | .node h d l r =>
    Good l ∧ Good r ∧
      (d = false → h = internalHash l.erase.merkle r.erase.merkle ∧ l.allClean = true ∧ r.allClean = true)

end ChiaModel.C18

namespace ChiaModel.Blob
open List M

namespace HT

def rootClean : HT → Bool
  | leaf _ _ _ => true
  | node _ d _ _ => !d

theorem rootClean_of_allClean (t : HT) (h : allClean t = true) : rootClean t = true := by
  cases t with
  | leaf _ _ _ => rfl
  | node _ d _ _ =>
    simp only [allClean, Bool.and_eq_true, Bool.not_eq_true'] at h
    simp [rootClean, h.1.1]

theorem recompute_erase (t : HT) : (recompute t).erase = t.erase := by
  induction t with
  | leaf _ _ _ => rfl
  | node h d l r ihl ihr => cases d <;> simp [recompute, erase, ihl, ihr]

theorem recompute_rootClean (t : HT) : rootClean (recompute t) = true := by
  rcases t with _ | ⟨hh, d, l, r⟩
  · rfl
  · cases d <;> simp [recompute, rootClean]

end HT

theorem _root_.ChiaModel.C18.Good.clean {t : HT} (hg : C18.Good t) (hc : t.rootClean = true) :
    t.allClean = true ∧ t.hash = t.erase.merkle := by
  cases t with
  | leaf k v h => exact ⟨rfl, rfl⟩
  | node h d l r =>
    have hd : d = false := by simpa [HT.rootClean] using hc
    obtain ⟨e, al, ar⟩ := hg.2.2 hd
    exact ⟨by simp [HT.allClean, hd, al, ar], e⟩

open Classical in
theorem HT.check_eq (t : HT) : t.check = if C18.Good t then some t.erase.merkle else none := by
  induction t with
  | leaf k v h => simp [HT.check, C18.Good, HT.erase, T.merkle]
  | node h d l r ihl ihr =>
    simp only [HT.check, ihl, ihr, C18.Good, HT.erase, T.merkle]
    by_cases gl : C18.Good l <;> by_cases gr : C18.Good r <;> cases d <;> simp [gl, gr]

theorem HT.good_iff_check (t : HT) : C18.Good t ↔ t.check.isSome = true := by
  rw [HT.check_eq]
  by_cases h : C18.Good t <;> simp [h]

/-- at a dirty node the recomputed children are clean at the root, hence clean throughout with their Merkle hashes
stored (`Good.clean`), and the node gets the hash of these -/
theorem _root_.ChiaModel.C18.Good.recompute {t : HT} (h : C18.Good t) : C18.Good t.recompute := by
  induction t with
  | leaf k v hh => trivial
  | node hh d l r ihl ihr =>
    obtain ⟨gl, gr, hc⟩ := h
    cases d with
    | true =>
      obtain ⟨al, el⟩ := (ihl gl).clean l.recompute_rootClean
      obtain ⟨ar, er⟩ := (ihr gr).clean r.recompute_rootClean
      simp only [HT.recompute, if_true]
      exact ⟨ihl gl, ihr gr, fun _ => ⟨by rw [el, er], al, ar⟩⟩
    | false =>
      simp only [HT.recompute, Bool.false_eq_true, if_false]
      exact ⟨gl, gr, hc⟩

theorem Rep.rootClean {bl : List Block} {p : Option Nat} {c : IT} (h : Rep bl p c) :
    (c.toHT bl).rootClean = !dirtyB bl c.idx := by
  cases c with
  | leaf i k v hh =>
    simp only [Rep] at h
    simp [IT.toHT, HT.rootClean, dirtyB, IT.idx, blockAt_of_get h]
  | node i l r => rfl

/-- `LH` is node-local (flags and stored hashes of the two children), `C18.Good` speaks of Merkle hashes and of all
descendants: under the invariant of the children the two clauses say the same (`C18.Good.clean`). -/
theorem LH_iff_good {bl : List Block} {p : Option Nat} {t : IT} (h : Rep bl p t) :
    LH bl none t ↔ C18.Good (t.toHT bl) := by
  induction t generalizing p with
  | leaf i k v hh => simp [LH, IT.toHT, C18.Good]
  | node i l r ihl ihr =>
    simp only [Rep] at h
    obtain ⟨_, hl, hr⟩ := h
    simp only [LH, IT.toHT, C18.Good, ihl hl, ihr hr, ne_eq, reduceCtorEq, not_false_eq_true, forall_const]
    refine and_congr_right fun gl => and_congr_right fun gr => imp_congr (by simp [dirtyB]) ?_
    rw [← Bool.not_eq_true', ← Bool.not_eq_true', ← hl.rootClean, ← hr.rootClean]
    constructor
    · rintro ⟨rl, rr, e⟩
      obtain ⟨al, el⟩ := gl.clean rl
      obtain ⟨ar, er⟩ := gr.clean rr
      exact ⟨by rw [← el, ← er, hl.toHT_hash, hr.toHT_hash]; exact e, al, ar⟩
    · rintro ⟨e, al, ar⟩
      have rl := HT.rootClean_of_allClean _ al
      have rr := HT.rootClean_of_allClean _ ar
      refine ⟨rl, rr, e.trans ?_⟩
      rw [← (gl.clean rl).2, ← (gr.clean rr).2, hl.toHT_hash, hr.toHT_hash]
      rfl

end ChiaModel.Blob
