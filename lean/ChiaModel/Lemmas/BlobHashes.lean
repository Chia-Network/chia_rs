import ChiaModel.Lemmas.BlobLcf
/-
C18, iterators on a stored tree: `calculate_lazy_hashes`.  `IT.toHT` (BlobRep) is the stored tree with the stored
hashes and dirty flags of its internal nodes, which is what `absH` computes (`Good.absH`).  Central:
`hashes_commute` — on the blocks the operation is `HT.recompute` on `absH`.
-/
namespace ChiaModel.Blob
open List M

theorem IT.toHT_congr {bl bl' : List Block} (t : IT) (h : ∀ j ∈ t.indices, bl'[j]? = bl[j]?) :
    t.toHT bl' = t.toHT bl := by
  induction t with
  | leaf i k v hh => rfl
  | node i l r ihl ihr =>
    simp only [IT.toHT, blockAt_congr (h i (by simp [IT.indices]))]
    rw [ihl (fun j hj => h j (by simp [IT.indices, hj])), ihr (fun j hj => h j (by simp [IT.indices, hj]))]

theorem IT.lcfOut_congr (pred : Block → Bool) {bl bl' : List Block} (t : IT)
    (h : ∀ j ∈ t.indices, bl'[j]? = bl[j]?) : t.lcfOut pred bl' = t.lcfOut pred bl := by
  induction t with
  | leaf i k v hh => simp only [IT.lcfOut, blockAt_congr (h i (by simp [IT.indices]))]
  | node i l r ihl ihr =>
    simp only [IT.lcfOut, blockAt_congr (h i (by simp [IT.indices]))]
    rw [ihl (fun j hj => h j (by simp [IT.indices, hj])), ihr (fun j hj => h j (by simp [IT.indices, hj]))]

theorem Rep.toHT_hash {bl : List Block} {p : Option Nat} {c : IT} (h : Rep bl p c) :
    (c.toHT bl).hash = (blockAt bl c.idx).node.hash := by
  cases c with
  | leaf i k v hh =>
    simp only [Rep] at h
    simp [IT.toHT, HT.hash, IT.idx, blockAt_of_get h, Node.hash]
  | node i l r => rfl

theorem getHash_run (i : Nat) (s : Blob) (b : Block) (hb : s.blocks[i]? = some b) :
    getHash i s = (.ok b.node.hash, s) := by
  unfold getHash
  simp only [bind_run, getBlock_run, hb, pure_run]

theorem recomputeAll_append (a b : List (Nat × Block)) (s : Blob) :
    recomputeAll (a ++ b) s = match recomputeAll a s with
      | (.ok _, s') => recomputeAll b s'
      | (.error e, s') => (.error e, s') := by
  induction a generalizing s with
  | nil => rfl
  | cons x a ih =>
    simp only [List.cons_append, recomputeAll, bind_run]
    cases recomputeOne x s with
    | mk r s1 =>
      cases r with
      | error e => rfl
      | ok u => simp only; exact ih s1

/-- `recomputeAll` over the items the left-child-first iteration yields below `c` (computed on the blocks at the start,
`cur`) acts on `c` as `HT.recompute`; it only rewrites flags and hashes of internal blocks of `c`.  By induction on
`c`.  A clean node yields nothing, and `recompute` stops there.  At a dirty node the items are those of the left
subtree, those of the right, then the node.  The left run does not touch the right subtree (distinct indexes), so
the items computed on `cur` are the items on `S1` (`lcfOut_congr`).  After both runs the stored hashes of the
children are those of the recomputed subtrees (`Rep.toHT_hash`), and these are what the rewrite of the node reads. -/
theorem recompute_sim (c : IT) :
    ∀ (p : Option Nat) (cur : Blob), Rep cur.blocks p c → c.indices.Nodup → (∀ j ∈ c.indices, j ∉ cur.free) →
    ∃ S, recomputeAll (c.lcfOut (fun b => b.dirty) cur.blocks) cur = (.ok (), S) ∧ SameShape cur S
      ∧ (∀ j, j ∉ c.indices → S.blocks[j]? = cur.blocks[j]?)
      ∧ c.toHT S.blocks = (c.toHT cur.blocks).recompute := by
  induction c with
  | leaf i k v h =>
    intro p cur hrep _ _
    simp only [Rep] at hrep
    exact ⟨cur, by simp [IT.lcfOut, blockAt_of_get hrep, recomputeAll, pure_run], SameShape.refl _, fun _ _ => rfl, rfl⟩
  | node i l r ihl ihr =>
    intro p cur hrep hn hfree
    simp only [Rep] at hrep
    obtain ⟨⟨d, hh, hb⟩, hl, hr⟩ := hrep
    simp only [IT.indices, List.nodup_cons] at hn
    obtain ⟨hil, hnlr⟩ := hn
    obtain ⟨hnl, hnr, hdis⟩ := nodup_append_disj hnlr
    have hbA := blockAt_of_get hb
    cases d with
    | false =>
      refine ⟨cur, ?_, SameShape.refl _, fun _ _ => rfl, ?_⟩
      · simp [IT.lcfOut, hbA, recomputeAll, pure_run]
      · simp [IT.toHT, hbA, HT.recompute]
    | true =>
      -- left subtree
      obtain ⟨S1, e1, ss1, fr1, ht1⟩ := ihl (some i) cur hl hnl (fun j hj => hfree j (by simp [IT.indices, hj]))
      -- right subtree, on S1
      have hr1 : Rep S1.blocks (some i) r := ss1.rep hr
      have agree1 : ∀ j ∈ r.indices, S1.blocks[j]? = cur.blocks[j]? := fun j hj => fr1 j (fun hm => hdis j hm hj)
      obtain ⟨S2, e2, ss2, fr2, ht2⟩ := ihr (some i) S1 hr1 hnr (fun j hj => by
        rw [ss1.free]; exact hfree j (by simp [IT.indices, hj]))
      rw [IT.lcfOut_congr _ r agree1] at e2
      rw [IT.toHT_congr r agree1] at ht2
      -- the node itself
      have hi2 : S2.blocks[i]? = some { dirty := true, node := .internal hh p l.idx r.idx } := by
        rw [fr2 i (fun hm => hil (List.mem_append.mpr (Or.inr hm))),
          fr1 i (fun hm => hil (List.mem_append.mpr (Or.inl hm)))]
        exact hb
      have hil2 : i < S2.blocks.length := (List.getElem?_eq_some_iff.mp hi2).1
      have hl2 : Rep S2.blocks (some i) l := ss2.rep (ss1.rep hl)
      have hr2 : Rep S2.blocks (some i) r := ss2.rep hr1
      obtain ⟨bL, hbL, _, _⟩ := hl2.root_block
      obtain ⟨bR, hbR, _, _⟩ := hr2.root_block
      have agreeL2 : ∀ j ∈ l.indices, S2.blocks[j]? = S1.blocks[j]? := fun j hj => fr2 j (fun hm => hdis j hj hm)
      have hLh : bL.node.hash = ((l.toHT cur.blocks).recompute).hash := by
        rw [← ht1, ← IT.toHT_congr l agreeL2, hl2.toHT_hash, blockAt_of_get hbL]
      have hRh : bR.node.hash = ((r.toHT cur.blocks).recompute).hash := by
        rw [← ht2, hr2.toHT_hash, blockAt_of_get hbR]
      have hfi : i ∉ S2.free := by
        rw [ss2.free, ss1.free]; exact hfree i (by simp [IT.indices])
      have hw := sameShape_write S2 i true false hh (internalHash bL.node.hash bR.node.hash) p l.idx r.idx hi2 hfi
      generalize hS3 : S2.write i { dirty := false, node := .internal (internalHash bL.node.hash bR.node.hash) p l.idx r.idx } = S3 at hw
      have hget3 : ∀ j, S3.blocks[j]? = if j = i then
          some { dirty := false, node := .internal (internalHash bL.node.hash bR.node.hash) p l.idx r.idx }
          else S2.blocks[j]? := by
        intro j; rw [← hS3, write_get _ _ _ hil2]
      refine ⟨S3, ?_, (ss1.trans ss2).trans hw, ?_, ?_⟩
      · simp only [IT.lcfOut, hbA, if_true]
        rw [List.append_assoc, recomputeAll_append, e1]
        simp only
        rw [recomputeAll_append, e2]
        simp only [recomputeAll, recomputeOne, bind_run, getHash_run _ S2 bL hbL, getHash_run _ S2 bR hbR,
          writeBlock_run, if_neg (Nat.not_lt.mpr (Nat.le_of_lt hil2)), hS3, pure_run]
      · intro j hj
        simp only [IT.indices, List.mem_cons, List.mem_append, not_or] at hj
        rw [hget3 j, if_neg hj.1, fr2 j hj.2.2, fr1 j hj.2.1]
      · have hi3 := blockAt_of_get ((hget3 i).trans (if_pos rfl))
        have aL : ∀ j ∈ l.indices, S3.blocks[j]? = S1.blocks[j]? := by
          intro j hj
          have hji : j ≠ i := fun e => hil (List.mem_append.mpr (Or.inl (e ▸ hj)))
          rw [hget3 j, if_neg hji, agreeL2 j hj]
        have aR : ∀ j ∈ r.indices, S3.blocks[j]? = S2.blocks[j]? := by
          intro j hj
          have hji : j ≠ i := fun e => hil (List.mem_append.mpr (Or.inr (e ▸ hj)))
          rw [hget3 j, if_neg hji]
        simp only [IT.toHT, hi3, hbA, HT.recompute, if_true, Node.internal_hash]
        rw [IT.toHT_congr l aL, IT.toHT_congr r aR, ht1, ht2, hLh, hRh]

theorem calcLazyHashes_run (s : Blob) :
    calcLazyHashes s = match recomputeAll (lcf s.blocks (fun b => b.dirty)).1 s with
      | (.ok _, S) => if (lcf s.blocks (fun b => b.dirty)).2 then (.ok (), S) else (.error .err, S)
      | (.error e, S) => (.error e, S) := by
  unfold calcLazyHashes
  simp only [bind_run, M.get]
  cases recomputeAll (lcf s.blocks (fun b => b.dirty)).1 s with
  | mk r S =>
    cases r with
    | error e => rfl
    | ok u =>
      simp only
      cases (lcf s.blocks (fun b => b.dirty)).2 <;> rfl

theorem calcLazyHashes_good {s : Blob} {t : IT} (g : Good s t) :
    ∃ S, calcLazyHashes s = (.ok (), S) ∧ SameShape s S ∧ t.toHT S.blocks = (t.toHT s.blocks).recompute := by
  obtain ⟨S, eS, ss, _, hT⟩ := recompute_sim t none s g.rep g.nodup (fun j hj => ((g.live_iff j).mpr hj).2)
  refine ⟨S, ?_, ss, hT⟩
  rw [calcLazyHashes_run, lcf_good _ g]
  simp only [eS, if_true]

theorem hashes_commute {s : Blob} {t : Option IT} (hs : SInv s t) :
    absH (calcLazyHashes s).2 = (absH s).map (Option.map HT.recompute) := by
  cases t with
  | none =>
    simp only [SInv] at hs
    subst hs
    rfl
  | some t =>
    have g : Good s t := hs
    obtain ⟨S, hrun, ss, hT⟩ := calcLazyHashes_good g
    rw [hrun]
    simp only
    rw [(g.sameShape ss).absH, g.absH, hT]
    rfl

end ChiaModel.Blob
