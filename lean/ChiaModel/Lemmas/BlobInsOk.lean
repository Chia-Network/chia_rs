import ChiaModel.Lemmas.BlobRep
/-
C18, block array under `LInv`: `insert`.  The blobs that `insert_first` and `insert_second` build store a tree
(`firstState_good`, `secondState_good`) and get `LInv` from that.  The pseudo-random walk ends in a live leaf
(`walk_ok`); `insert_third_or_later` is two allocations and four writes whose result,
described pointwise by `ThirdPost`, satisfies `LInv` again.  Central: `insert_failOr` — `insert` at the automatic
location or next to a live leaf fails before it touches the state, or succeeds in a state satisfying `LInv` whose
caches know exactly one more key and hash.
-/
namespace ChiaModel.Blob
open M

theorem child_not_seen {s : Blob} (h0 : parentOf s 0 = none) {S S' : List Nat}
    (hpar : ∀ x ∈ S, x ≠ 0 → ∃ p, p ∈ S' ∧ parentOf s x = some p) {c x : Nat}
    (hc : parentOf s c = some x) (hx : x ∉ S') : c ∉ S := by
  intro hm
  obtain ⟨p, hp, hpp⟩ := hpar c hm (fun e => by rw [e, h0] at hc; cases hc)
  rw [hc] at hpp
  cases hpp
  exact hx hp

/-- a traversal from the root under `LInv`.  `q` = internal nodes visited, `dq` = nodes waiting: distinct live
nodes, and every one of them but the root has its parent among the visited.  The breadth-first search of
`get_min_height_leaf` keeps it (`visit`), and so does the walk of `insert`, which goes on at one of the two children
the search would put on its queue (`sub`); so neither can outgrow the blob (`bound`). -/
structure BfInv (s : Blob) (dq q : List Nat) : Prop where
  nodup : (q ++ dq).Nodup
  live : ∀ x ∈ q ++ dq, x < s.blocks.length ∧ x ∉ s.free
  par : ∀ x ∈ q ++ dq, x ≠ 0 → ∃ p, p ∈ q ∧ parentOf s x = some p

namespace BfInv

variable {s : Blob} {dq q : List Nat}

theorem root (hinv : LInv s) (h0 : 0 < s.blocks.length) : BfInv s [0] [] :=
  ⟨by simp, fun x hx => by rw [List.mem_singleton.mp hx]; exact ⟨h0, (hinv.root_live h0).1⟩,
    fun x hx hx0 => absurd (List.mem_singleton.mp hx) hx0⟩

theorem bound (I : BfInv s dq q) : q.length + dq.length ≤ s.blocks.length := by
  have := nodup_bound s.blocks.length (q ++ dq) I.nodup (fun x hx => (I.live x hx).1)
  rwa [List.length_append] at this

theorem sub {dq' : List Nat} (I : BfInv s dq q) (h : dq'.Sublist dq) : BfInv s dq' q :=
  ⟨I.nodup.sublist (h.append_left q), fun x hx => I.live x ((h.append_left q).subset hx),
    fun x hx => I.par x ((h.append_left q).subset hx)⟩

/-- the node taken from the queue is internal: its children have not been seen, since their parent had not been
visited; they join the queue and it joins the visited -/
theorem visit (hinv : LInv s) {idx : Nat} {rest : List Nat} (I : BfInv s (idx :: rest) q) {d : Bool} {h : Hash}
    {p : Option Nat} {l r : Nat} (hb : s.blocks[idx]? = some { dirty := d, node := .internal h p l r }) :
    idx ∉ q ∧ BfInv s (rest ++ [l, r]) (idx :: q) := by
  obtain ⟨hil, hif⟩ := I.live idx (List.mem_append_right _ List.mem_cons_self)
  have hidxq : idx ∉ q := fun hq => (List.nodup_append.mp I.nodup).2.2 idx hq idx List.mem_cons_self rfl
  obtain ⟨hl1, hr1, hl2, hr2, hlr, hpl, hpr⟩ := hinv.children hif hb
  have unseen : ∀ c, parentOf s c = some idx → c ∉ q ++ idx :: rest := fun c hc =>
    child_not_seen (hinv.root_live (Nat.lt_of_le_of_lt (Nat.zero_le _) hil)).2 I.par hc hidxq
  have hperm : ((idx :: q) ++ (rest ++ [l, r])).Perm ((q ++ idx :: rest) ++ [l, r]) := by
    rw [List.append_assoc, List.cons_append, List.cons_append]
    exact List.perm_middle.symm
  have mem : ∀ x, x ∈ (idx :: q) ++ (rest ++ [l, r]) ↔ x ∈ q ++ idx :: rest ∨ x = l ∨ x = r := fun x => by
    rw [hperm.mem_iff, List.mem_append]; simp
  refine ⟨hidxq, ?_, ?_, ?_⟩
  · refine hperm.nodup_iff.mpr (List.nodup_append.mpr ⟨I.nodup, by simp [hlr], ?_⟩)
    intro a ha b' hb' hab
    simp only [List.mem_cons, List.mem_nil_iff, or_false] at hb'
    rcases hb' with e | e
    · exact unseen l hpl (e ▸ hab ▸ ha)
    · exact unseen r hpr (e ▸ hab ▸ ha)
  · intro x hx
    rcases (mem x).mp hx with h | h | h
    · exact I.live x h
    · rw [h]; exact ⟨hl1, hl2⟩
    · rw [h]; exact ⟨hr1, hr2⟩
  · intro x hx hx0
    rcases (mem x).mp hx with h | h | h
    · obtain ⟨p, hp, hpp⟩ := I.par x h hx0
      exact ⟨p, List.mem_cons_of_mem _ hp, hpp⟩
    · exact ⟨idx, List.mem_cons_self, h ▸ hpl⟩
    · exact ⟨idx, List.mem_cons_self, h ▸ hpr⟩

end BfInv

theorem walk_ok_aux {s : Blob} (hinv : LInv s) (f : Nat) (cur : Nat) (path : List Nat) (bs : BitSrc)
    (I : BfInv s [cur] path) (hfuel : s.blocks.length ≤ f + path.length) :
    ∃ r, walkAux s.blocks f cur bs = some r ∧ r ∉ s.free
      ∧ ∃ d h p k v, s.blocks[r]? = some { dirty := d, node := .leaf h p k v } := by
  induction f generalizing cur path bs with
  | zero =>
    have := I.bound
    simp only [List.length_cons, List.length_nil] at this
    omega
  | succ f ih =>
    obtain ⟨hl, hf⟩ := I.live cur (List.mem_append_right _ List.mem_cons_self)
    simp only [walkAux]
    obtain ⟨b, hb⟩ := exists_block hl
    rw [hb]
    obtain ⟨d, n⟩ := b
    cases n with
    | leaf h p k v => exact ⟨cur, rfl, hf, _, _, _, _, _, hb⟩
    | internal h p l r =>
      simp only
      have I' : BfInv s [l, r] (cur :: path) := (I.visit hinv hb).2
      have hfuel' : s.blocks.length ≤ f + (cur :: path).length := by
        simp only [List.length_cons]; omega
      split
      · exact ih r _ _ (I'.sub (List.singleton_sublist.mpr (by simp))) hfuel'
      · exact ih l _ _ (I'.sub (List.singleton_sublist.mpr (by simp))) hfuel'

theorem walk_ok {s : Blob} (hinv : LInv s) (hne : s.blocks ≠ []) (bs : BitSrc) :
    ∃ r, walkAux s.blocks (s.blocks.length + 1) 0 bs = some r ∧ r ∉ s.free
      ∧ ∃ d h p k v, s.blocks[r]? = some { dirty := d, node := .leaf h p k v } :=
  walk_ok_aux hinv _ 0 [] bs (BfInv.root hinv (List.length_pos_iff.mpr hne)) (by simp only [List.length_nil]; omega)

/-- what two `get_new_index` calls in a row on `s` return (`nl`, then `ni`), as far as it can be read off the length
`n` and the free list `fr` afterwards, which the writes that follow do not change -/
structure Alloc2 (s : Blob) (nl ni n : Nat) (fr : List Nat) : Prop where
  ne : nl ≠ ni
  nlLt : nl < n
  niLt : ni < n
  nlNew : nl ∈ s.free ∨ s.blocks.length ≤ nl
  niNew : ni ∈ s.free ∨ s.blocks.length ≤ ni
  lenLe : s.blocks.length ≤ n
  newIdx : ∀ j, s.blocks.length ≤ j → j < n → j = ni ∨ j = nl
  free : ∀ j, j ∈ fr ↔ (j ∈ s.free ∧ j ≠ ni ∧ j ≠ nl)
  freeNodup : fr.Nodup

namespace Alloc2

variable {s : Blob} {nl ni n : Nat} {fr : List Nat} (A : Alloc2 s nl ni n fr)
include A

theorem fresh {y : Nat} (hy : y < s.blocks.length) (hyf : y ∉ s.free) : y ≠ nl ∧ y ≠ ni :=
  ⟨ne_of_new A.nlNew hy hyf, ne_of_new A.niNew hy hyf⟩

theorem liveOld {j : Nat} (hj : j < s.blocks.length) (hjf : j ∉ s.free) : j < n ∧ j ∉ fr :=
  ⟨Nat.lt_of_lt_of_le hj A.lenLe, fun hf => hjf ((A.free j).mp hf).1⟩

theorem nlLive : nl ∉ fr := fun hf => ((A.free nl).mp hf).2.2 rfl

theorem niLive : ni ∉ fr := fun hf => ((A.free ni).mp hf).2.1 rfl

end Alloc2

structure PopTwo (s : Blob) (nl ni : Nat) (s2 : Blob) : Prop extends Alloc2 s nl ni s2.blocks.length s2.free where
  same : ∀ j, j < s.blocks.length → s2.blocks[j]? = s.blocks[j]?
  k2i : s2.k2i = s.k2i
  h2i : s2.h2i = s.h2i

theorem NewIdx.popTwo {s s1 s2 : Blob} {nl ni : Nat} (a1 : NewIdx s nl s1) (a2 : NewIdx s1 ni s2)
    (hnd : s.free.Nodup) : PopTwo s nl ni s2 where
  ne := fun e => by
    rcases a2.new with h | h
    · rw [a1.free, hnd.mem_erase_iff] at h; exact h.1 e.symm
    · have := a1.lt; omega
  nlLt := Nat.lt_of_lt_of_le a1.lt a2.len
  niLt := a2.lt
  nlNew := a1.new
  niNew := a2.new.imp a1.mem_free (Nat.le_trans a1.len)
  lenLe := Nat.le_trans a1.len a2.len
  newIdx := fun j h1 h2 => by
    by_cases h : j < s1.blocks.length
    · exact Or.inr (a1.top j h1 h)
    · exact Or.inl (a2.top j (Nat.le_of_not_lt h) h2)
  same := fun j hj => by rw [a2.same j (Nat.lt_of_lt_of_le hj a1.len), a1.same j hj]
  free := fun j => by
    rw [a2.free, a1.free, (hnd.erase nl).mem_erase_iff, hnd.mem_erase_iff]
    exact ⟨fun h => ⟨h.2.2, h.1, h.2.1⟩, fun h => ⟨h.2.1, h.2.2, h.1⟩⟩
  freeNodup := by rw [a2.free, a1.free]; exact (hnd.erase nl).erase ni
  k2i := a2.k2i.trans a1.k2i
  h2i := a2.h2i.trans a1.h2i

/-- `insert_third_or_later` from the state `s2` after its two allocations: four writes (the new leaf,
the new internal node, the re-parented old leaf, the patched old parent), then the dirty-marking walk -/
theorem insertThird_run (s s1 s2 : Blob) (k : KeyId) (v : ValueId) (h : Hash) (opi idx : Nat) (ih : Hash)
    (side : Side) {nl ni : Nat} (e1 : getNewIndex s = (.ok nl, s1)) (e2 : getNewIndex s1 = (.ok ni, s2))
    (hnl : nl < s2.blocks.length) (hni : ni < s2.blocks.length)
    {d : Bool} {oh : Hash} {ok : KeyId} {ov : ValueId}
    (hleaf : s2.blocks[idx]? = some { dirty := d, node := .leaf oh (some opi) ok ov })
    {d' : Bool} {ph : Hash} {pp : Option Nat} {pl pr : Nat}
    (hpar : s2.blocks[opi]? = some { dirty := d', node := .internal ph pp pl pr })
    (hch : idx = pl ∨ idx = pr) (hi1 : idx ≠ nl) (hi2 : idx ≠ ni) (ho1 : opi ≠ nl) (ho2 : opi ≠ ni) :
    insertThird k v h (some opi) idx ih side s
      = (do markLineageDirty opi; pure nl)
          (s2.writes [(nl, { dirty := false, node := .leaf h (some ni) k v }),
            (ni, { dirty := false, node := .internal ih (some opi) (sideL side nl idx) (sideR side nl idx) }),
            (idx, { dirty := d, node := .leaf oh (some ni) ok ov }),
            (opi, { dirty := d', node := if idx = pl then .internal ph pp ni pr else .internal ph pp pl ni })]) := by
  have hidx : idx < s2.blocks.length := lt_of_block hleaf
  have hne : opi ≠ idx := internal_ne_leaf hpar hleaf
  have l3 := write_len s2 nl { dirty := false, node := .leaf h (some ni) k v } hnl
  generalize hs3 : s2.write nl { dirty := false, node := .leaf h (some ni) k v } = s3 at l3
  have hni3 : ni < s3.blocks.length := by rw [l3]; exact hni
  generalize hbi :
    ({ dirty := false, node := .internal ih (some opi) (sideL side nl idx) (sideR side nl idx) } : Block) = bi
  have l4 := write_len s3 ni bi hni3
  have g4 : ∀ j, j ≠ nl → j ≠ ni → (s3.write ni bi).blocks[j]? = s2.blocks[j]? := by
    intro j h1 h2
    rw [write_get _ _ _ hni3, if_neg h2, ← hs3, write_get _ _ _ hnl, if_neg h1]
  generalize hs4 : s3.write ni bi = s4 at l4 g4
  have hidx4 : idx < s4.blocks.length := by rw [l4, l3]; exact hidx
  have w1 : writeBlock nl { dirty := false, node := .leaf h (some ni) k v } s2 = (.ok (), s3) := by
    rw [writeBlock_run_le _ _ _ (Nat.le_of_lt hnl), hs3]
  have w2 : writeBlock ni bi s3 = (.ok (), s4) := by
    rw [writeBlock_run_le _ _ _ (Nat.le_of_lt hni3), hs4]
  have w3 : updateParent idx (some ni) s4 = (.ok { dirty := d, node := .leaf oh (some ni) ok ov },
      s4.write idx { dirty := d, node := .leaf oh (some ni) ok ov }) :=
    updateParent_run idx (some ni) s4 _ ((g4 idx hi1 hi2).trans hleaf)
  have w4 := replaceChild_run opi idx ni (s4.write idx { dirty := d, node := .leaf oh (some ni) ok ov })
    (by rw [write_get _ _ _ hidx4, if_neg hne, g4 opi ho1 ho2]; exact hpar) hch
  unfold insertThird
  subst hbi
  cases side
  all_goals
    simp only [sideL, sideR] at w2
    simp only [bind_run, e1, e2, w1, w2, w3, w4]
    subst hs4 hs3
    rfl

def CacheStep (s s' : Blob) (k : KeyId) (h : Hash) : Prop :=
  (∀ x, mapGet s'.k2i x = none ↔ (x ≠ k ∧ mapGet s.k2i x = none))
  ∧ (∀ x, mapGet s'.h2i x = none ↔ (x ≠ h ∧ mapGet s.h2i x = none))

/-- what `insertThird_post` establishes about the state `sw` after the four structural writes, for `ThirdPost.linv`
and for `insertThird_good` of BlobInsRef.  `pkids` is not symmetric because `replaceChild` tests the left child first:
the right child is replaced only when the leaf is not also the left one. -/
structure ThirdPost (s sw : Blob) (nl ni : Nat) (k : KeyId) (v : ValueId) (h : Hash) (opi idx : Nat)
    (ih : Hash) (l r : Nat) (d : Bool) (oh : Hash) (ok : KeyId) (ov : ValueId)
    (d' : Bool) (ph : Hash) (pp : Option Nat) (pl pr pl' pr' : Nat) : Prop
    extends Alloc2 s nl ni sw.blocks.length sw.free where
  inv : LInv s
  hk : mapGet s.k2i k = none
  hh : mapGet s.h2i h = none
  len1 : s.k2i.length ≠ 1
  idxLive : idx ∉ s.free
  leaf : s.blocks[idx]? = some { dirty := d, node := .leaf oh (some opi) ok ov }
  par : s.blocks[opi]? = some { dirty := d', node := .internal ph pp pl pr }
  kids : (l = nl ∧ r = idx) ∨ (l = idx ∧ r = nl)
  pkids : (idx = pl ∧ pl' = ni ∧ pr' = pr) ∨ (idx = pr ∧ idx ≠ pl ∧ pl' = pl ∧ pr' = ni)
  bOpi : sw.blocks[opi]? = some { dirty := d', node := .internal ph pp pl' pr' }
  bIdx : sw.blocks[idx]? = some { dirty := d, node := .leaf oh (some ni) ok ov }
  bNi : sw.blocks[ni]? = some { dirty := false, node := .internal ih (some opi) l r }
  bNl : sw.blocks[nl]? = some { dirty := false, node := .leaf h (some ni) k v }
  bOther : ∀ j, j ≠ opi → j ≠ idx → j ≠ ni → j ≠ nl → j < s.blocks.length → sw.blocks[j]? = s.blocks[j]?
  k2i : sw.k2i = mapInsert (mapInsert s.k2i k nl) ok idx
  h2i : sw.h2i = mapInsert (mapInsert s.h2i h nl) oh idx

namespace ThirdPost

variable {s sw : Blob} {nl ni : Nat} {k : KeyId} {v : ValueId} {h : Hash} {opi idx : Nat}
  {ih : Hash} {l r : Nat} {d : Bool} {oh : Hash} {ok : KeyId} {ov : ValueId}
  {d' : Bool} {ph : Hash} {pp : Option Nat} {pl pr pl' pr' : Nat}
  (P : ThirdPost s sw nl ni k v h opi idx ih l r d oh ok ov d' ph pp pl pr pl' pr')
include P

theorem opiLt : opi < s.blocks.length := lt_of_block P.par

theorem idxLt : idx < s.blocks.length := lt_of_block P.leaf

theorem opiFacts : opi ∉ s.free ∧ (idx = pl ∨ idx = pr) := by
  obtain ⟨a, d2, ph2, pp2, pl2, pr2, hb, hc⟩ := P.inv.parent_of P.idxLive P.leaf rfl
  rw [P.par] at hb
  cases hb
  exact ⟨a, hc⟩

theorem opiNe : opi ≠ idx := internal_ne_leaf P.par P.leaf

theorem oldBlock {j : Nat} (hj : j < s.blocks.length) (hjf : j ∉ s.free) (h1 : j ≠ opi) (h2 : j ≠ idx) :
    sw.blocks[j]? = s.blocks[j]? :=
  P.bOther j h1 h2 (P.fresh hj hjf).2 (P.fresh hj hjf).1 hj

theorem parentOf_other {j : Nat} (hj : j < s.blocks.length) (hjf : j ∉ s.free) (hne : j ≠ idx) :
    parentOf sw j = parentOf s j := by
  by_cases ho : j = opi
  · rw [ho]; exact (parentOf_block P.bOpi).trans (parentOf_block P.par).symm
  · exact parentOf_congr (P.oldBlock hj hjf ho hne)

theorem child {q x : Nat} {dq : Bool} {qh : Hash} {qp : Option Nat} {ql qr : Nat} (hq : q ∉ s.free)
    (hb : s.blocks[q]? = some { dirty := dq, node := .internal qh qp ql qr }) (hc : x = ql ∨ x = qr)
    (hx : x ≠ idx) :
    q ∉ sw.free ∧ ∃ d h p l r, sw.blocks[q]? = some { dirty := d, node := .internal h p l r } ∧ (x = l ∨ x = r) := by
  have hql : q < s.blocks.length := lt_of_block hb
  refine ⟨(P.liveOld hql hq).2, ?_⟩
  by_cases hqo : q = opi
  · rw [hqo, P.par] at hb
    cases hb
    refine ⟨_, _, _, _, _, hqo ▸ P.bOpi, ?_⟩
    rcases P.pkids with ⟨e0, e1, e2⟩ | ⟨e0, _, e1, e2⟩
    · rw [e1, e2]; exact hc.elim (fun c => absurd (c.trans e0.symm) hx) Or.inr
    · rw [e1, e2]; exact hc.elim Or.inl (fun c => absurd (c.trans e0.symm) hx)
  · have hqi : q ≠ idx := internal_ne_leaf hb P.leaf
    exact ⟨_, _, _, _, _, (P.oldBlock hql hq hqo hqi).trans hb, hc⟩

theorem index_cases {j : Nat} (hj : j < sw.blocks.length) :
    j = opi ∨ j = idx ∨ j = ni ∨ j = nl ∨ (j ≠ opi ∧ j ≠ idx ∧ j ≠ ni ∧ j ≠ nl ∧ j < s.blocks.length) := by
  by_cases h1 : j = opi
  · exact Or.inl h1
  by_cases h2 : j = idx
  · exact Or.inr (Or.inl h2)
  by_cases h3 : j = ni
  · exact Or.inr (Or.inr (Or.inl h3))
  by_cases h4 : j = nl
  · exact Or.inr (Or.inr (Or.inr (Or.inl h4)))
  refine Or.inr (Or.inr (Or.inr (Or.inr ⟨h1, h2, h3, h4, Nat.lt_of_not_le fun h5 => ?_⟩)))
  exact (P.newIdx j h5 hj).elim h3 h4

theorem rangeP : RangeP sw := by
  intro j b hb p hp
  rcases P.index_cases (lt_of_block hb) with e | e | e | e | ⟨h1, h2, h3, h4, h5⟩
  · rw [e, P.bOpi] at hb; cases hb
    exact Nat.lt_of_lt_of_le (P.inv.rangeP opi _ P.par p hp) P.lenLe
  · rw [e, P.bIdx] at hb; cases hb; cases hp; exact P.niLt
  · rw [e, P.bNi] at hb; cases hb; cases hp; exact Nat.lt_of_lt_of_le P.opiLt P.lenLe
  · rw [e, P.bNl] at hb; cases hb; cases hp; exact P.niLt
  · rw [P.bOther j h1 h2 h3 h4 h5] at hb
    exact Nat.lt_of_lt_of_le (P.inv.rangeP j b hb p hp) P.lenLe

theorem parentOf_idx : parentOf s idx = some opi := parentOf_block P.leaf

theorem root : rootOk sw := by
  refine rootOk_iff.mpr fun _ => ?_
  have h0 : 0 < s.blocks.length := Nat.lt_of_le_of_lt (Nat.zero_le _) P.idxLt
  obtain ⟨hr1, hr2⟩ := P.inv.root_live h0
  have h0i : (0 : Nat) ≠ idx := fun e => by rw [e, P.parentOf_idx] at hr2; cases hr2
  exact ⟨(P.liveOld h0 hr1).2, (P.parentOf_other h0 hr1 h0i).trans hr2⟩

theorem entries {κ : Type} [DecidableEq κ] (proj : Hash → KeyId → κ) (m : List (κ × Nat))
    (hm : ∀ e ∈ m, EntryOk proj s e) :
    ∀ e ∈ mapInsert (mapInsert m (proj h k) nl) (proj oh ok) idx, EntryOk proj sw e := by
  intro e he
  rcases mem_mapInsert _ _ _ _ he with e1 | ⟨he2, hne1⟩
  · subst e1
    exact ⟨(P.liveOld P.idxLt P.idxLive).2, _, _, _, _, _, P.bIdx, rfl⟩
  · rcases mem_mapInsert _ _ _ _ he2 with e1 | ⟨he3, _⟩
    · subst e1
      exact ⟨P.nlLive, _, _, _, _, _, P.bNl, rfl⟩
    · obtain ⟨hf, d0, h0, p0, k0, v0, hb, hpk⟩ := hm e he3
      have hlt : e.2 < s.blocks.length := lt_of_block hb
      have n1 : e.2 ≠ opi := (internal_ne_leaf P.par hb).symm
      have n2 : e.2 ≠ idx := fun e' => by rw [e', P.leaf] at hb; cases hb; exact hne1 hpk.symm
      exact ⟨(P.liveOld hlt hf).2, d0, h0, p0, k0, v0, (P.oldBlock hlt hf n1 n2).trans hb, hpk⟩

theorem getK (x : KeyId) : mapGet sw.k2i x = if x = k then some nl else mapGet s.k2i x := by
  rw [P.k2i]; exact mapGet_insert_insert s.k2i P.hk (P.inv.leaf_cached P.idxLive P.leaf).1 x

theorem getH (x : Hash) : mapGet sw.h2i x = if x = h then some nl else mapGet s.h2i x := by
  rw [P.h2i]; exact mapGet_insert_insert s.h2i P.hh (P.inv.leaf_cached P.idxLive P.leaf).2 x

theorem cacheStep : CacheStep s sw k h := by
  constructor
  · intro x
    rw [P.getK]
    by_cases hx : x = k <;> simp [hx]
  · intro x
    rw [P.getH]
    by_cases hx : x = h <;> simp [hx]

theorem node_nl : okChildren sw nl ∧ okParent sw nl ∧ okLeaf sw nl := by
  refine ⟨by simp only [okChildren, P.bNl], ?_, ?_⟩
  · simp only [okParent, P.bNl, Node.parent, P.bNi]
    exact ⟨P.niLive, P.kids.elim (fun e => Or.inl e.1.symm) (fun e => Or.inr e.2.symm)⟩
  · simp only [okLeaf, P.bNl]
    exact ⟨by rw [P.getK, if_pos rfl], by rw [P.getH, if_pos rfl]⟩

theorem node_idx : okChildren sw idx ∧ okParent sw idx ∧ okLeaf sw idx := by
  obtain ⟨c1, c2⟩ := P.inv.leaf_cached P.idxLive P.leaf
  refine ⟨by simp only [okChildren, P.bIdx], ?_, ?_⟩
  · simp only [okParent, P.bIdx, Node.parent, P.bNi]
    exact ⟨P.niLive, P.kids.elim (fun e => Or.inr e.2.symm) (fun e => Or.inl e.1.symm)⟩
  · simp only [okLeaf, P.bIdx]
    refine ⟨?_, ?_⟩
    · rw [P.getK, if_neg (fun e => by rw [e, P.hk] at c1; cases c1)]; exact c1
    · rw [P.getH, if_neg (fun e => by rw [e, P.hh] at c2; cases c2)]; exact c2

theorem node_ni : okChildren sw ni ∧ okParent sw ni ∧ okLeaf sw ni := by
  have idxT := P.liveOld P.idxLt P.idxLive
  have hne : nl ≠ idx := fun e => (P.fresh P.idxLt P.idxLive).1 e.symm
  have pNl : parentOf sw nl = some ni := parentOf_block P.bNl
  have pIdx : parentOf sw idx = some ni := parentOf_block P.bIdx
  refine ⟨?_, ?_, by simp only [okLeaf, P.bNi]⟩
  · simp only [okChildren, P.bNi]
    rcases P.kids with ⟨e1, e2⟩ | ⟨e1, e2⟩
    · rw [e1, e2]
      exact ⟨P.nlLt, idxT.1, P.nlLive, idxT.2, hne, pNl, pIdx⟩
    · rw [e1, e2]
      exact ⟨idxT.1, P.nlLt, idxT.2, P.nlLive, fun e => hne e.symm, pIdx, pNl⟩
  · simp only [okParent, P.bNi, Node.parent, P.bOpi]
    refine ⟨(P.liveOld P.opiLt P.opiFacts.1).2, ?_⟩
    rcases P.pkids with ⟨_, e, _⟩ | ⟨_, _, _, e⟩
    · exact Or.inl e.symm
    · exact Or.inr e.symm

theorem node_opi : okChildren sw opi ∧ okParent sw opi ∧ okLeaf sw opi := by
  obtain ⟨hof, _⟩ := P.opiFacts
  obtain ⟨hpl, hpr, hplf, hprf, hne, hppl, hppr⟩ := P.inv.children hof P.par
  have pNi : parentOf sw ni = some opi := parentOf_block P.bNi
  refine ⟨?_, okParent_iff.mpr ?_, by simp only [okLeaf, P.bOpi]⟩
  · simp only [okChildren, P.bOpi]
    rcases P.pkids with ⟨e0, e1, e2⟩ | ⟨e0, e0', e1, e2⟩
    · rw [e1, e2]
      have hprT := P.liveOld hpr hprf
      have : pr ≠ idx := fun e => hne (e0.symm ▸ e.symm)
      exact ⟨P.niLt, hprT.1, P.niLive, hprT.2, fun e => (P.fresh hpr hprf).2 e.symm, pNi,
        (P.parentOf_other hpr hprf this).trans hppr⟩
    · rw [e1, e2]
      have hplT := P.liveOld hpl hplf
      exact ⟨hplT.1, P.niLt, hplT.2, P.niLive, (P.fresh hpl hplf).2,
        (P.parentOf_other hpl hplf (fun e => e0' e.symm)).trans hppl, pNi⟩
  · intro b hb
    rw [P.bOpi] at hb
    cases hb
    refine ⟨fun g hg => ?_, fun _ hl => by cases hl⟩
    obtain ⟨hgf, dg, gh, gp, gl, gr, hgb, hgc⟩ := P.inv.parent_of hof P.par hg
    exact P.child hgf hgb hgc P.opiNe

theorem node_other {j : Nat} (h1 : j ≠ opi) (h2 : j ≠ idx) (h5 : j < s.blocks.length) (hjf : j ∉ s.free) :
    okChildren sw j ∧ okParent sw j ∧ okLeaf sw j := by
  have hb := P.oldBlock h5 hjf h1 h2
  obtain ⟨c1, c2, c3⟩ := P.inv.node j h5 hjf
  -- a child of `j` is not the old leaf, whose parent is `opi`
  have notIdx : ∀ c, parentOf s c = some j → c ≠ idx := fun c hc e => by
    rw [e, P.parentOf_idx] at hc; cases hc; exact h1 rfl
  refine ⟨okChildren_iff.mpr ?_, okParent_iff.mpr ?_, okLeaf_iff.mpr ?_⟩
  · intro d0 h0 p0 l0 r0 hbT
    rw [hb] at hbT
    obtain ⟨a1, a2, a3, a4, a5, a6, a7⟩ := okChildren_iff.mp c1 _ _ _ _ _ hbT
    exact ⟨(P.liveOld a1 a3).1, (P.liveOld a2 a4).1, (P.liveOld a1 a3).2, (P.liveOld a2 a4).2, a5,
      (P.parentOf_other a1 a3 (notIdx _ a6)).trans a6, (P.parentOf_other a2 a4 (notIdx _ a7)).trans a7⟩
  · intro b hbT
    rw [hb] at hbT
    obtain ⟨a1, a2⟩ := okParent_iff.mp c2 b hbT
    refine ⟨fun p hp => ?_, fun hn hl => absurd (a2 hn hl) P.len1⟩
    obtain ⟨hpf, dp, hp', pp', gl, gr, hpb, hpc⟩ := a1 p hp
    exact P.child hpf hpb hpc h2
  · intro d0 h0 p0 k0 v0 hbT
    rw [hb] at hbT
    obtain ⟨a1, a2⟩ := okLeaf_iff.mp c3 _ _ _ _ _ hbT
    rw [P.getK, P.getH, if_neg (fun e => by rw [e, P.hk] at a1; cases a1),
      if_neg (fun e => by rw [e, P.hh] at a2; cases a2)]
    exact ⟨a1, a2⟩

theorem linv : LInv sw where
  freeLt := fun j hj => Nat.lt_of_lt_of_le (P.inv.freeLt j ((P.free j).mp hj).1) P.lenLe
  freeNodup := P.freeNodup
  parentRange := fun j _ => parentRange_of_rangeP P.rangeP j
  root := P.root
  node := by
    intro j hj hjf
    rcases P.index_cases hj with e | e | e | e | ⟨h1, h2, h3, h4, h5⟩
    · rw [e]; exact P.node_opi
    · rw [e]; exact P.node_idx
    · rw [e]; exact P.node_ni
    · rw [e]; exact P.node_nl
    · exact P.node_other h1 h2 h5 (fun hf => hjf ((P.free j).mpr ⟨hf, h3, h4⟩))
  keys := by
    rw [P.k2i]
    exact fun e he => okKey_iff.mpr
      (P.entries (fun _ k => k) s.k2i (fun e he => okKey_iff.mp (P.inv.keys e he)) e he)
  hashes := by
    rw [P.h2i]
    exact fun e he => okHash_iff.mpr
      (P.entries (fun h _ => h) s.h2i (fun e he => okHash_iff.mp (P.inv.hashes e he)) e he)
  keysNodup := by
    rw [P.k2i]
    exact mapInsert_keys_nodup _ _ _ (mapInsert_keys_nodup _ _ _ P.inv.keysNodup)

end ThirdPost

/-- `insert_third_or_later` = four structural writes giving a state `sw` described by `ThirdPost`,
followed by the dirty-marking walk from the old parent -/
theorem insertThird_post (s : Blob) (hinv : LInv s) (k : KeyId) (v : ValueId) (h : Hash) (opi idx : Nat)
    (ih : Hash) (side : Side) (hk : mapGet s.k2i k = none) (hh : mapGet s.h2i h = none)
    (hlen1 : s.k2i.length ≠ 1) {d : Bool} {oh : Hash} {ok : KeyId} {ov : ValueId} (hif : idx ∉ s.free)
    (hleaf : s.blocks[idx]? = some { dirty := d, node := .leaf oh (some opi) ok ov }) :
    ∃ sw nl ni d' ph pp pl pr pl' pr',
      insertThird k v h (some opi) idx ih side s = (do markLineageDirty opi; pure nl) sw
      ∧ ThirdPost s sw nl ni k v h opi idx ih (sideL side nl idx) (sideR side nl idx) d oh ok ov d' ph pp pl pr pl' pr' := by
  obtain ⟨hnf, d', ph, pp, pl, pr, hpar, hch⟩ := hinv.parent_of hif hleaf rfl
  have hidx : idx < s.blocks.length := lt_of_block hleaf
  have hopi : opi < s.blocks.length := lt_of_block hpar
  have hne : opi ≠ idx := internal_ne_leaf hpar hleaf
  obtain ⟨nl, s1, e1, a1⟩ := getNewIndex_newIdx s hinv.freeLt
  obtain ⟨ni, s2, e2, a2⟩ := getNewIndex_newIdx s1
    (fun j hj => Nat.lt_of_lt_of_le (hinv.freeLt j (a1.mem_free hj)) a1.len)
  have P2 := a1.popTwo a2 hinv.freeNodup
  obtain ⟨f1, f2⟩ := P2.fresh hidx hif
  obtain ⟨g1, g2⟩ := P2.fresh hopi hnf
  -- the children of the old parent afterwards
  obtain ⟨pl', pr', hpk, hnode⟩ : ∃ pl' pr',
      ((idx = pl ∧ pl' = ni ∧ pr' = pr) ∨ (idx = pr ∧ idx ≠ pl ∧ pl' = pl ∧ pr' = ni))
      ∧ (if idx = pl then Node.internal ph pp ni pr else Node.internal ph pp pl ni) = Node.internal ph pp pl' pr' := by
    by_cases hc : idx = pl
    · exact ⟨ni, pr, Or.inl ⟨hc, rfl, rfl⟩, if_pos hc⟩
    · exact ⟨pl, ni, Or.inr ⟨hch.resolve_left hc, hc, rfl, rfl⟩, if_neg hc⟩
  have hrun := insertThird_run s s1 s2 k v h opi idx ih side e1 e2 P2.nlLt P2.niLt
    ((P2.same idx hidx).trans hleaf) ((P2.same opi hopi).trans hpar) hch f1 f2 g1 g2
  rw [hnode] at hrun
  obtain ⟨L, hL⟩ : ∃ L : List (Nat × Block), L = [(nl, { dirty := false, node := .leaf h (some ni) k v }),
      (ni, { dirty := false, node := .internal ih (some opi) (sideL side nl idx) (sideR side nl idx) }),
      (idx, { dirty := d, node := .leaf oh (some ni) ok ov }),
      (opi, { dirty := d', node := .internal ph pp pl' pr' })] := ⟨_, rfl⟩
  rw [← hL] at hrun
  have hLl : ∀ e ∈ L, e.1 < s2.blocks.length ∧ e.1 ∉ s2.free := by
    intro e he
    rw [hL] at he
    simp only [List.mem_cons, List.mem_nil_iff, or_false] at he
    rcases he with rfl | rfl | rfl | rfl
    · exact ⟨P2.nlLt, P2.nlLive⟩
    · exact ⟨P2.niLt, P2.niLive⟩
    · exact P2.liveOld hidx hif
    · exact P2.liveOld hopi hnf
  have hLn : (L.map (·.1)).Nodup := by
    rw [hL]
    simp [P2.ne, Ne.symm f1, Ne.symm f2, Ne.symm g1, Ne.symm g2, Ne.symm hne]
  obtain ⟨hlen, hother, hget, hfree⟩ := writes_spec s2 L (fun e he => (hLl e he).1)
  have get := hget hLn
  have hfree := hfree (fun e he => (hLl e he).2)
  refine ⟨s2.writes L, nl, ni, d', ph, pp, pl, pr, pl', pr',
    hrun, ?_⟩
  exact {
    inv := hinv, hk := hk, hh := hh, len1 := hlen1, idxLive := hif, leaf := hleaf, par := hpar
    kids := by
      cases side
      · exact Or.inl ⟨rfl, rfl⟩
      · exact Or.inr ⟨rfl, rfl⟩
    pkids := hpk
    toAlloc2 := by rw [hlen, hfree]; exact P2.toAlloc2
    bOpi := get _ _ (by rw [hL]; simp)
    bIdx := get _ _ (by rw [hL]; simp)
    bNi := get _ _ (by rw [hL]; simp)
    bNl := get _ _ (by rw [hL]; simp)
    bOther := fun j h1 h2 h3 h4 h5 => by
      rw [hother j (by rw [hL]; simp [h1, h2, h3, h4]), P2.same j h5]
    k2i := by rw [hL, ← P2.k2i]; rfl
    h2i := by rw [hL, ← P2.h2i]; rfl }

def secondState (k : KeyId) (v : ValueId) (h oh : Hash) (ok : KeyId) (ov : ValueId) (ih : Hash) (side : Side) : Blob :=
  match side with
  | .left =>
    { blocks := [{ dirty := false, node := .internal ih none 1 2 }, { dirty := false, node := .leaf h (some 0) k v },
        { dirty := false, node := .leaf oh (some 0) ok ov }],
      free := [], k2i := mapInsert (mapInsert [] ok 2) k 1, h2i := mapInsert (mapInsert [] oh 2) h 1 }
  | .right =>
    { blocks := [{ dirty := false, node := .internal ih none 1 2 }, { dirty := false, node := .leaf oh (some 0) ok ov },
        { dirty := false, node := .leaf h (some 0) k v }],
      free := [], k2i := mapInsert (mapInsert [] ok 1) k 2, h2i := mapInsert (mapInsert [] oh 1) h 2 }

theorem insertSecond_eq (k : KeyId) (v : ValueId) (h oh : Hash) (ok : KeyId) (ov : ValueId) (ih : Hash)
    (side : Side) (s : Blob) : ∃ a, insertSecond k v h oh ok ov ih side s = (.ok a, secondState k v h oh ok ov ih side) := by
  cases side <;> exact ⟨_, rfl⟩

def secondTree (k : KeyId) (v : ValueId) (h oh : Hash) (ok : KeyId) (ov : ValueId) (side : Side) : IT :=
  match side with
  | .left => .node 0 (.leaf 1 k v h) (.leaf 2 ok ov oh)
  | .right => .node 0 (.leaf 1 ok ov oh) (.leaf 2 k v h)

theorem secondState_good (k : KeyId) (v : ValueId) (h oh : Hash) (ok : KeyId) (ov : ValueId) (ih : Hash)
    (side : Side) (hk : k ≠ ok) (hh : h ≠ oh) :
    Good (secondState k v h oh ok ov ih side) (secondTree k v h oh ok ov side) := by
  have hk' : ok ≠ k := fun e => hk e.symm
  have hh' : oh ≠ h := fun e => hh e.symm
  cases side
  all_goals
    refine ⟨?_, rfl, by simp [secondTree, IT.indices], List.nodup_nil, ?_, ?_, ?_, ?_, ?_, ?_⟩
    · simp only [secondTree, Rep, secondState, IT.idx]
      exact ⟨⟨false, ih, rfl⟩, rfl, rfl⟩
    · intro i
      simp only [secondState, secondTree, IT.indices, List.not_mem_nil, false_iff, List.length_cons,
        List.length_nil, List.mem_cons, List.cons_append, List.nil_append, not_and, Classical.not_not]
      intro hi
      omega
    · simp only [secondState, secondTree, IT.leaves, List.map_cons, List.map_nil, List.cons_append, List.nil_append]
      first
        | exact mapInsert_perm_new _ _ _ (by simp [mapInsert, mapGet, hk'])
        | exact (mapInsert_perm_new _ _ _ (by simp [mapInsert, mapGet, hk'])).trans (List.Perm.swap _ _ _)
    · simp only [secondState, secondTree, IT.leaves, List.map_cons, List.map_nil, List.cons_append, List.nil_append]
      first
        | exact mapInsert_perm_new _ _ _ (by simp [mapInsert, mapGet, hh'])
        | exact (mapInsert_perm_new _ _ _ (by simp [mapInsert, mapGet, hh'])).trans (List.Perm.swap _ _ _)
    · simp [secondTree, IT.leaves, hk, hk']
    · simp [secondTree, IT.leaves, hh, hh']
    · intro j b hj p hp
      have hb := List.mem_of_getElem? hj
      simp only [secondState, List.mem_cons, List.not_mem_nil, or_false] at hb
      rcases hb with rfl | rfl | rfl <;> cases hp <;> exact Nat.zero_lt_succ 2

theorem secondState_linv (k : KeyId) (v : ValueId) (h oh : Hash) (ok : KeyId) (ov : ValueId) (ih : Hash)
    (side : Side) (hk : k ≠ ok) (hh : h ≠ oh) : LInv (secondState k v h oh ok ov ih side) :=
  (secondState_good k v h oh ok ov ih side hk hh).linv

def firstState (k : KeyId) (v : ValueId) (h : Hash) : Blob :=
  { blocks := [{ dirty := false, node := .leaf h none k v }], free := [],
    k2i := mapInsert [] k 0, h2i := mapInsert [] h 0 }

theorem insertFirst_run (k : KeyId) (v : ValueId) (h : Hash) :
    (insertFirst k v h Blob.empty).2 = firstState k v h := rfl

theorem firstState_good (k : KeyId) (v : ValueId) (h : Hash) : Good (firstState k v h) (.leaf 0 k v h) := by
  refine ⟨rfl, rfl, by simp [IT.indices], List.nodup_nil, ?_, ?_, ?_, by simp [IT.leaves], by simp [IT.leaves], ?_⟩
  · intro i
    simp only [firstState, IT.indices, List.not_mem_nil, false_iff, List.length_cons, List.length_nil,
      List.mem_singleton, not_and, Classical.not_not]
    intro hi; omega
  · simp only [firstState, IT.leaves, List.map_cons, List.map_nil]
    exact mapInsert_perm_new _ _ _ rfl
  · simp only [firstState, IT.leaves, List.map_cons, List.map_nil]
    exact mapInsert_perm_new _ _ _ rfl
  · intro j b hj p hp
    have hb := List.mem_of_getElem? hj
    simp only [firstState, List.mem_cons, List.not_mem_nil, or_false] at hb
    subst hb
    cases hp

theorem firstState_linv (k : KeyId) (v : ValueId) (h : Hash) : LInv (firstState k v h) :=
  (firstState_good k v h).linv

theorem insertThird_ok {s : Blob} (hinv : LInv s) (k : KeyId) (v : ValueId) (h : Hash) (opi idx : Nat)
    (ih : Hash) (side : Side) (hk : mapGet s.k2i k = none) (hh : mapGet s.h2i h = none)
    (hlen1 : s.k2i.length ≠ 1) {d : Bool} {oh : Hash} {ok : KeyId} {ov : ValueId} (hif : idx ∉ s.free)
    (hleaf : s.blocks[idx]? = some { dirty := d, node := .leaf oh (some opi) ok ov }) :
    Ok (insertThird k v h (some opi) idx ih side) s (fun _ s' => LInv s' ∧ CacheStep s s' k h) := by
  obtain ⟨sw, nl, ni, d', ph, pp, pl, pr, pl', pr', hrun, P⟩ :=
    insertThird_post s hinv k v h opi idx ih side hk hh hlen1 hif hleaf
  obtain ⟨_, S, eS, hS⟩ := markLineageDirty_sameShape opi sw P.linv (P.liveOld P.opiLt P.opiFacts.1).2
    ⟨_, _, _, _, _, P.bOpi⟩
  refine ⟨nl, S, ?_, hS.linv P.linv, ?_⟩
  · rw [hrun]
    show (markLineageDirty opi >>= fun _ => pure nl) sw = _
    rw [bind_run, eS]; rfl
  · rw [CacheStep, hS.k2i, hS.h2i]; exact P.cacheStep

theorem LInv.single_entry {s : Blob} (hinv : LInv s) (hlen1 : s.k2i.length = 1) {idx : Nat} {d : Bool}
    {oh : Hash} {op : Option Nat} {ok : KeyId} {ov : ValueId} (hfree : idx ∉ s.free)
    (hb : s.blocks[idx]? = some { dirty := d, node := .leaf oh op ok ov })
    {κ : Type} [DecidableEq κ] (proj : Hash → KeyId → κ) (m : List (κ × Nat))
    (hm : ∀ e ∈ m, EntryOk proj s e) (hg : mapGet m (proj oh ok) = some idx) (x : κ) :
    mapGet m x = none ↔ x ≠ proj oh ok := by
  constructor
  · intro hx e; rw [e, hg] at hx; cases hx
  · intro hx
    refine (mapGet_none_iff m x).mpr fun e he e' => hx ?_
    obtain ⟨hf, d0, h0, p0, k0, v0, hb0, hp⟩ := hm e he
    obtain ⟨e1, e2⟩ := mapGet_single_eq s.k2i hlen1 (hinv.leaf_cached hf hb0).1 (hinv.leaf_cached hfree hb).1
    rw [e2, hb] at hb0
    cases hb0
    rw [← e', ← hp]

theorem secondState_cacheStep {s : Blob} (hinv : LInv s) (hlen1 : s.k2i.length = 1) {idx : Nat} {d : Bool}
    {oh : Hash} {op : Option Nat} {ok : KeyId} {ov : ValueId} (hfree : idx ∉ s.free)
    (hb : s.blocks[idx]? = some { dirty := d, node := .leaf oh op ok ov })
    (k : KeyId) (v : ValueId) (h ih : Hash) (side : Side) :
    CacheStep s (secondState k v h oh ok ov ih side) k h := by
  obtain ⟨c1, c2⟩ := hinv.leaf_cached hfree hb
  constructor
  · intro x
    rw [hinv.single_entry hlen1 hfree hb (fun _ k => k) s.k2i (fun e he => okKey_iff.mp (hinv.keys e he)) c1 x]
    cases side <;> simp [secondState, mapGet_insert_none, mapGet]
  · intro x
    rw [hinv.single_entry hlen1 hfree hb (fun h _ => h) s.h2i (fun e he => okHash_iff.mp (hinv.hashes e he)) c2 x]
    cases side <;> simp [secondState, mapGet_insert_none, mapGet]

theorem insertAtLeaf_run (k : KeyId) (v : ValueId) (h : Hash) (idx : Nat) (side : Side) (s : Blob) :
    insertAtLeaf k v h idx side s = match s.blocks[idx]? with
      | none => (.error .err, s)
      | some b =>
        match b.node with
        | .internal _ _ _ _ => (.error .err, s)
        | .leaf oh op ok ov =>
          if s.k2i.length = 1 then
            insertSecond k v h oh ok ov (match side with | .left => internalHash h oh | .right => internalHash oh h) side s
          else insertThird k v h op idx (match side with | .left => internalHash h oh | .right => internalHash oh h) side s := by
  unfold insertAtLeaf
  simp only [bind_run, M.get, getNode, getBlock_run]
  cases s.blocks[idx]? with
  | none => rfl
  | some b =>
    obtain ⟨d, n⟩ := b
    cases n with
    | internal _ _ _ _ => rfl
    | leaf _ _ _ _ => simp only [pure_run, ite_run]; rfl

theorem insertAtLeaf_ok {s : Blob} (hinv : LInv s) (k : KeyId) (v : ValueId) (h : Hash) (idx : Nat) (side : Side)
    (hfree : idx ∉ s.free) (hk : mapGet s.k2i k = none) (hh : mapGet s.h2i h = none)
    {d : Bool} {oh : Hash} {op : Option Nat} {ok : KeyId} {ov : ValueId}
    (hb : s.blocks[idx]? = some { dirty := d, node := .leaf oh op ok ov }) :
    Ok (insertAtLeaf k v h idx side) s (fun _ s' => LInv s' ∧ CacheStep s s' k h) := by
  obtain ⟨c1, c2⟩ := hinv.leaf_cached hfree hb
  unfold Ok
  rw [insertAtLeaf_run, hb]
  simp only
  by_cases hlen1 : s.k2i.length = 1
  · rw [if_pos hlen1]
    obtain ⟨a, e⟩ := insertSecond_eq k v h oh ok ov
      (match side with | .left => internalHash h oh | .right => internalHash oh h) side s
    exact ⟨a, _, e, secondState_linv _ _ _ _ _ _ _ _ (fun e => by rw [e, c1] at hk; cases hk)
      (fun e => by rw [e, c2] at hh; cases hh), secondState_cacheStep hinv hlen1 hfree hb _ _ _ _ _⟩
  · rw [if_neg hlen1]
    cases op with
    | none => exact absurd ((hinv.leaf_parent hfree hb).1 rfl) hlen1
    | some opi => exact insertThird_ok hinv k v h opi idx _ side hk hh hlen1 hfree hb

theorem insertAtLeaf_failOr {s : Blob} (hinv : LInv s) (k : KeyId) (v : ValueId) (h : Hash) (idx : Nat)
    (side : Side) (hfree : idx ∉ s.free) (hk : mapGet s.k2i k = none) (hh : mapGet s.h2i h = none) :
    FailOr (insertAtLeaf k v h idx side) s (fun _ s' => LInv s' ∧ CacheStep s s' k h) := by
  cases hb : s.blocks[idx]? with
  | none => exact Or.inl ⟨.err, by rw [insertAtLeaf_run, hb]⟩
  | some b =>
    obtain ⟨d, n⟩ := b
    cases n with
    | internal _ _ _ _ => exact Or.inl ⟨.err, by rw [insertAtLeaf_run, hb]⟩
    | leaf oh op ok ov => exact Or.inr (insertAtLeaf_ok hinv k v h idx side hfree hk hh hb)

theorem insert_run (k : KeyId) (v : ValueId) (h : Hash) (loc : Loc) (s : Blob) :
    insert k v h loc s =
      if (mapGet s.k2i k).isSome then (.error .err, s)
      else if (mapGet s.h2i h).isSome then (.error .err, s)
      else match loc with
        | .auto =>
          if s.blocks.isEmpty then (if !s.k2i.isEmpty then (.error .err, s) else insertFirst k v h s)
          else match walkAux s.blocks (s.blocks.length + 1) 0 (BitSrc.ofKey k) with
            | some idx => insertAtLeaf k v h idx (keySide k) s
            | none => (.error .err, s)
        | .asRoot => if !s.k2i.isEmpty then (.error .err, s) else insertFirst k v h s
        | .leaf idx side => insertAtLeaf k v h idx side s := by
  unfold insert
  simp only [bind_run, M.get, ite_run, throw_run]
  cases loc with
  | auto =>
    simp only [randomLoc_run]
    by_cases he : s.blocks.isEmpty = true
    · simp only [if_pos he, ite_run, throw_run]
    · simp only [if_neg he]
      cases walkAux s.blocks (s.blocks.length + 1) 0 (BitSrc.ofKey k) <;> rfl
  | asRoot => simp only [pure_run, ite_run, throw_run]
  | leaf idx side => simp only [pure_run]

theorem insertFirst_ok (k : KeyId) (v : ValueId) (h : Hash) (s : Blob) :
    Ok (insertFirst k v h) s (fun _ _ => True) := by
  unfold insertFirst
  exact Ok.bind_eq (x := M.get) rfl
    (Ok.bind_eq (writeBlock_run_le _ _ _ (Nat.le_refl _)) (Ok.pure trivial))

theorem insert_auto_ok {s : Blob} (hinv : LInv s) (k : KeyId) (v : ValueId) (h : Hash)
    (hk : mapGet s.k2i k = none) (hh : mapGet s.h2i h = none) :
    ∃ a s', insert k v h .auto s = (.ok a, s') ∧ LInv s' ∧ CacheStep s s' k h := by
  rw [insert_run, hk, hh]
  simp only [Option.isSome_none, Bool.false_eq_true, if_false]
  by_cases hemp : s.blocks.isEmpty = true
  · rw [if_pos hemp]
    have hs := hinv.empty_of_no_blocks (List.isEmpty_iff.mp hemp)
    subst hs
    refine ⟨0, firstState k v h, rfl, firstState_linv k v h, ?_, ?_⟩
    · intro x; simp [firstState, Blob.empty, mapGet_insert_none, mapGet]
    · intro x; simp [firstState, Blob.empty, mapGet_insert_none, mapGet]
  · rw [if_neg hemp]
    have hne : s.blocks ≠ [] := fun e => hemp (by rw [e]; rfl)
    obtain ⟨idx, hw, hlive, d, oh, op, ok, ov, hb⟩ := walk_ok hinv hne (BitSrc.ofKey k)
    rw [hw]
    exact insertAtLeaf_ok hinv k v h idx _ hlive hk hh hb

theorem insert_failOr {s : Blob} (hinv : LInv s) (k : KeyId) (v : ValueId) (h : Hash) (loc : Loc)
    (hloc : loc = .auto ∨ ∃ idx side, loc = .leaf idx side ∧ idx ∉ s.free) :
    FailOr (insert k v h loc) s (fun _ s' => LInv s' ∧ CacheStep s s' k h) := by
  by_cases hk : (mapGet s.k2i k).isSome = true
  · exact Or.inl ⟨.err, by rw [insert_run, if_pos hk]⟩
  by_cases hh : (mapGet s.h2i h).isSome = true
  · exact Or.inl ⟨.err, by rw [insert_run, if_neg hk, if_pos hh]⟩
  rcases hloc with e | ⟨idx, side, e, hlive⟩
  · subst e
    exact Or.inr (insert_auto_ok hinv k v h (Option.not_isSome_iff_eq_none.mp hk) (Option.not_isSome_iff_eq_none.mp hh))
  · subst e
    exact (insertAtLeaf_failOr hinv k v h idx side hlive (Option.not_isSome_iff_eq_none.mp hk) (Option.not_isSome_iff_eq_none.mp hh)).of_eq
      (by rw [insert_run, if_neg hk, if_neg hh])

theorem insert_keepOrOk {s : Blob} (hinv : LInv s) (k : KeyId) (v : ValueId) (h : Hash) (loc : Loc)
    (hloc : ∀ idx side, loc = .leaf idx side → idx ∉ s.free) : KeepOrOk (insert k v h loc) s := by
  cases loc with
  | auto => exact (insert_failOr hinv k v h .auto (Or.inl rfl)).keepOrOk
  | leaf idx side => exact (insert_failOr hinv k v h _ (Or.inr ⟨idx, side, rfl, hloc idx side rfl⟩)).keepOrOk
  | asRoot =>
    have e : insert k v h .asRoot s =
        if (mapGet s.k2i k).isSome then (.error .err, s)
        else if (mapGet s.h2i h).isSome then (.error .err, s)
        else if !s.k2i.isEmpty then (.error .err, s) else insertFirst k v h s := insert_run k v h .asRoot s
    unfold KeepOrOk Ok
    rw [e]
    split
    · exact Or.inl rfl
    split
    · exact Or.inl rfl
    split
    · exact Or.inl rfl
    · exact Or.inr (insertFirst_ok k v h s)

theorem insert_linv {s : Blob} (hinv : LInv s) (k : KeyId) (v : ValueId) (h : Hash) (loc : Loc)
    (hloc : loc = .auto ∨ ∃ idx side, loc = .leaf idx side ∧ idx ∉ s.free) :
    LInv (insert k v h loc s).2 :=
  (insert_failOr hinv k v h loc hloc).snd hinv (fun _ _ q => q.1)

end ChiaModel.Blob
