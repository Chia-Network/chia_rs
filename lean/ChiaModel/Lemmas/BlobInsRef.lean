import ChiaModel.Lemmas.BlobGraft
import ChiaModel.Lemmas.BlobInsOk
import ChiaModel.Lemmas.BlobRefines
/-
C18, per-operation refinement: `insert`.  The run of `insert_third_or_later` (`insertThird_post` of BlobInsOk) is a
graft of a one-leaf tree (BlobGraft).  Central: `ins_refines`.
-/
namespace ChiaModel.Blob
open List M

variable {s : Blob} {t : IT}

/-- the leaf reached by the walk of `get_random_insert_location_by_seed` -/
def IT.walkLeaf : IT → BitSrc → Nat × KVH
  | .leaf i k v h, _ => (i, k, v, h)
  | .node _ l r, bs => if (bs.next).1 then IT.walkLeaf r (bs.next).2 else IT.walkLeaf l (bs.next).2

theorem IT.walkLeaf_mem (t : IT) (bs : BitSrc) : t.walkLeaf bs ∈ t.leaves := by
  induction t generalizing bs with
  | leaf i k v h => simp [IT.walkLeaf, IT.leaves]
  | node i l r ihl ihr =>
    simp only [IT.walkLeaf, IT.leaves, List.mem_append]
    split
    · exact Or.inr (ihr _)
    · exact Or.inl (ihl _)

theorem Rep.walk {bl : List Block} {p : Option Nat} (h : Rep bl p t) (f : Nat) (hf : t.depth < f)
    (bs : BitSrc) : walkAux bl f t.idx bs = some (t.walkLeaf bs).1 := by
  refine h.fuel_induct (motive := fun _ t f => ∀ bs, walkAux bl f t.idx bs = some (t.walkLeaf bs).1)
    (fun _ _ _ _ _ _ hb bs => by simp only [IT.idx_leaf, walkAux, hb, IT.walkLeaf])
    (fun _ i l r _ _ f hb ihl ihr bs => ?_) hf bs
  simp only [IT.idx_node, walkAux, hb, IT.walkLeaf]
  by_cases hbit : (bs.next).1 = true
  · rw [if_pos hbit, if_pos hbit]; exact ihr _
  · rw [if_neg hbit, if_neg hbit]; exact ihl _

theorem IT.walk_mapLeaf (t : IT) (hk : (t.leaves.map (·.2.1)).Nodup) (N : T) (side : Side) (bs : BitSrc) :
    t.erase.mapLeaf (t.walkLeaf bs).2.1 (T.join side N) = T.insertWalk N side t.erase bs := by
  induction t generalizing bs with
  | leaf i k v h => simp only [IT.walkLeaf, IT.erase, T.mapLeaf, if_true, T.insertWalk]
  | node i l r ihl ihr =>
    simp only [IT.leaves, List.map_append] at hk
    obtain ⟨hl, hr, hd⟩ := nodup_append_disj hk
    simp only [IT.walkLeaf, IT.erase, T.insertWalk, T.mapLeaf]
    by_cases hbit : (bs.next).1 = true
    · rw [if_pos hbit, if_pos hbit, ihr hr, T.mapLeaf_not_mem _ _ l.erase]
      rw [IT.erase_keys]
      exact fun h' => hd _ h' (List.mem_map_of_mem (r.walkLeaf_mem _))
    · rw [if_neg hbit, if_neg hbit, ihl hl, T.mapLeaf_not_mem _ _ r.erase]
      rw [IT.erase_keys]
      exact fun h' => hd _ (List.mem_map_of_mem (l.walkLeaf_mem _)) h'

/-- `ih` is the hash written into the new internal block; the hash invariant is kept when it is the hash of the two
leaves below it. -/
theorem insertThird_good (g : Good s t) (k : KeyId) (v : ValueId) (h : Hash)
    (ih : Hash) (side : Side) (hk : mapGet s.k2i k = none) (hh : mapGet s.h2i h = none)
    (hlen1 : s.k2i.length ≠ 1) {idx : Nat} {ok : KeyId} {ov : ValueId} {oh : Hash} {opi : Nat}
    (hleaf : (idx, ok, ov, oh) ∈ t.leaves) {C : List Frame} (ht : t = (IT.leaf idx ok ov oh).plug C)
    (hb : s.blocks[idx]? = some { dirty := false, node := .leaf oh (some opi) ok ov }) :
    ∃ a S nl ni, insertThird k v h (some opi) idx ih side s = (.ok a, S)
      ∧ Good S ((IT.joinI side ni (.leaf nl k v h) (.leaf idx ok ov oh)).plug C)
      ∧ (ih = (match side with | .left => internalHash h oh | .right => internalHash oh h) →
          LH s.blocks none t → LH S.blocks none ((IT.joinI side ni (.leaf nl k v h) (.leaf idx ok ov oh)).plug C)) := by
  have hlive := (g.live_iff idx).mpr (t.leaf_idx_mem _ hleaf)
  -- the four writes, from the blocks at the leaf and its parent (`ThirdPost`)
  obtain ⟨sw, nl, ni, d', ph, pp, pl, pr, pl', pr', hrun, P⟩ :=
    insertThird_post s g.linv k v h opi idx ih side hk hh hlen1 hlive.2 hb
  -- the same in terms of the stored tree: a graft of the one-leaf tree `leaf nl`; new indexes are not in `t`, and the
  -- caches gain the new leaf while the old leaf's entries are written again
  have GP : GraftPost s sw t (.leaf nl k v h) idx ni opi side oh ok ov pp pl pr pl' pr' := by
    refine {
      good := g, leafMem := hleaf, leafB := hb, par := ⟨d', ph, P.par⟩, pkids := P.pkids,
      niNew := g.not_mem_of_new P.niNew,
      nNew := by intro j hj; simp only [IT.indices, List.mem_singleton] at hj; rw [hj]; exact g.not_mem_of_new P.nlNew,
      niN := by simp only [IT.indices, List.mem_singleton]; exact fun e => P.ne e.symm,
      nNodup := by simp [IT.indices],
      repN := P.bNl, bNi := ⟨false, ih, P.bNi⟩, bIdx := P.bIdx, bOpi := ⟨d', ph, P.bOpi⟩,
      bOther := fun j hj h1 h2 => P.oldBlock ((g.live_iff j).mpr hj).1 ((g.live_iff j).mpr hj).2 h2 h1,
      lenLe := P.lenLe, newIdx := fun j h1 h2 => (P.newIdx j h1 h2).imp_right List.mem_singleton.mpr,
      free := fun j => by rw [P.free j, IT.indices, List.mem_singleton], freeNodup := P.freeNodup,
      k2i := ?_, h2i := ?_, keys := ?_, hashes := ?_, range := P.rangeP }
    · -- `k2i`, `h2i`: the cache of `s` with the new leaf's entry inserted and the old leaf's inserted again is, up to
      -- order, the new entry on top of the cache of `s`
      rw [P.k2i]
      exact ((g.kc.insert_new (e := (nl, k, v, h)) (g.kc.get_none.mp hk)).insert_same
        (e := (idx, ok, ov, oh)) (List.mem_cons_of_mem _ hleaf)).perm_nil.trans (List.Perm.cons _ g.k2i.symm)
    · rw [P.h2i]
      exact ((g.hc.insert_new (e := (nl, k, v, h)) (g.hc.get_none.mp hh)).insert_same
        (e := (idx, ok, ov, oh)) (List.mem_cons_of_mem _ hleaf)).perm_nil.trans (List.Perm.cons _ g.h2i.symm)
    · -- `keys`, `hashes`: the caches did not know `k` and `h`, so the tree does not have them
      exact List.nodup_cons.mpr ⟨g.kc.get_none.mp hk, g.keys⟩
    · exact List.nodup_cons.mpr ⟨g.hc.get_none.mp hh, g.hashes⟩
  -- `sw` stores the grafted tree; the walk from `opi` keeps that and closes the hole `GP.lh` leaves at `opi`
  obtain ⟨S, eS, gS, hS⟩ := (GP.good_after ht).markLineageDirty GP.opiLive ⟨_, _, _, _, _, P.bOpi⟩
  refine ⟨nl, S, nl, ni, ?_, gS, fun hih hlh => hS (GP.lh trivial ?_ ?_ ?_ ht hlh)⟩
  · rw [hrun]
    show (markLineageDirty opi >>= fun _ => pure nl) sw = _
    rw [bind_run, eS]; rfl
  · exact dirtyB_get P.bNl
  · have h1 : hashB sw.blocks ni = ih := hashB_get P.bNi
    have h2 : hashB sw.blocks nl = h := hashB_get P.bNl
    have h3 : hashB sw.blocks idx = oh := hashB_get P.bIdx
    rw [h1, hih]
    cases side <;> simp [sideL, sideR, IT.idx, h2, h3]
  · exact ⟨(dirtyB_get P.bOpi).trans (dirtyB_get P.par).symm, (hashB_get P.bOpi).trans (hashB_get P.par).symm⟩

theorem secondTree_erase (k : KeyId) (v : ValueId) (h oh : Hash) (ok : KeyId) (ov : ValueId) (side : Side) :
    (secondTree k v h oh ok ov side).erase = T.join side (.leaf k v h) (.leaf ok ov oh) := by
  cases side <;> rfl

theorem insertAtLeaf_good (g : Good s t) (k : KeyId) (v : ValueId) (h : Hash)
    (hk : mapGet s.k2i k = none) (hh : mapGet s.h2i h = none)
    {idx : Nat} {ok : KeyId} {ov : ValueId} {oh : Hash} (hleaf : (idx, ok, ov, oh) ∈ t.leaves) (side : Side) :
    ∃ a S t', insertAtLeaf k v h idx side s = (.ok a, S) ∧ Good S t'
      ∧ t'.erase = t.erase.mapLeaf ok (T.join side (.leaf k v h))
      ∧ (LH s.blocks none t → LH S.blocks none t') := by
  obtain ⟨q, hb⟩ := g.rep.leaf_block hleaf
  simp only at hb
  have hkne : k ≠ ok := fun e => g.kc.get_none.mp hk (e ▸ List.mem_map_of_mem hleaf)
  have hhne : h ≠ oh := fun e => g.hc.get_none.mp hh (e ▸ List.mem_map_of_mem hleaf)
  rw [insertAtLeaf_run, hb]
  simp only
  by_cases hlen1 : s.k2i.length = 1
  · rw [if_pos hlen1]
    obtain ⟨i0, k0, v0, h0, ht⟩ := t.leaves_length_one (by rw [← g.k2i_length]; exact hlen1)
    subst ht
    simp only [IT.leaves, List.mem_singleton, Prod.mk.injEq] at hleaf
    obtain ⟨e1, e2, e3, e4⟩ := hleaf
    subst e1; subst e2; subst e3; subst e4
    obtain ⟨a, e⟩ := insertSecond_eq k v h oh ok ov
      (match side with | .left => internalHash h oh | .right => internalHash oh h) side s
    refine ⟨a, _, secondTree k v h oh ok ov side, e, secondState_good k v h oh ok ov _ side hkne hhne, ?_, ?_⟩
    · rw [secondTree_erase]
      simp only [IT.erase, T.mapLeaf, if_true]
    · -- the three blocks of `secondState` are given: root and leaves are clean, and the root stores the hash of the two
      -- leaf hashes in the order `side` fixes, which is what `insertAtLeaf` passed as `ih`
      intro _
      cases side <;>
        simp [secondTree, secondState, LH, dirtyB, hashB, blockAt, IT.idx, Node.hash]
  · rw [if_neg hlen1]
    have hlive := (g.live_iff idx).mpr (t.leaf_idx_mem _ hleaf)
    obtain ⟨hnone, _⟩ := g.linv.leaf_parent hlive.2 hb
    cases q with
    | none => exact absurd (hnone rfl) hlen1
    | some opi =>
      obtain ⟨C, ht⟩ := t.leaf_plug hleaf
      obtain ⟨a, S, nl, ni, e, gS, hlh⟩ := insertThird_good g k v h
        (match side with | .left => internalHash h oh | .right => internalHash oh h) side hk hh hlen1 hleaf ht hb
      subst ht
      exact ⟨a, S, _, e, gS, (IT.mapLeaf_plug g.ctx_key_ne (by
        simp only [IT.erase, T.mapLeaf, if_true, IT.joinI_erase])).symm, hlh rfl⟩

theorem ins_refines {t : Option IT} (hs : SInv s t) (k : KeyId) (v : ValueId) (h : Hash)
    (loc : RefLoc) : Refines (.ins k v h loc) s t := by
  cases t with
  | none =>
    simp only [SInv] at hs
    subst hs
    cases loc with
    | auto =>
      exact Refines.of_ok (S := firstState k v h) (t' := some (.leaf 0 k v h)) rfl (firstState_good k v h)
        (by simp only [Option.map_none, Tree.step, Tree.insert_none_auto, Tree.orKeep]; rfl) fun _ => trivial
    | «at» ref side =>
      exact Refines.of_fail (e := .err) rfl rfl
        (by simp only [Option.map_none, Tree.step, Tree.insert_none_at, Tree.orKeep])
  | some t0 =>
    have g : Good s t0 := hs
    -- a failing step leaves everything as it was
    have failCase : step (.ins k v h loc) s = (.error .err, s) → Tree.insert k v h loc (some t0.erase) = none →
        Refines (.ins k v h loc) s (some t0) := fun he hi =>
      Refines.of_fail hs he (by simp only [Option.map_some, Tree.step, hi, Tree.orKeep])
    -- a guard of `insert` fails at every location
    have guard : (∀ l, insert k v h l s = (.error .err, s)) → step (.ins k v h loc) s = (.error .err, s) := by
      intro hg
      cases loc with
      | auto => simp only [step, discard_run, hg]
      | «at» ref side =>
        cases hr : refIndex s ref with
        | none => simp only [step, hr]
        | some idx => simp only [step, hr, discard_run, hg]
    -- a successful insert next to the leaf `e`
    have okCase : ∀ (e : Nat × KVH) (side : Side), e ∈ t0.leaves → mapGet s.k2i k = none → mapGet s.h2i h = none →
        step (.ins k v h loc) s = (do let _ ← insertAtLeaf k v h e.1 side; pure () : M Unit) s →
        Tree.insert k v h loc (some t0.erase) = some (some (t0.erase.mapLeaf e.2.1 (T.join side (.leaf k v h)))) →
        Refines (.ins k v h loc) s (some t0) := by
      intro e side hleaf hk0 hh0 hstep hins
      obtain ⟨a, S, t', e', gS, her, hlh⟩ := insertAtLeaf_good g k v h hk0 hh0 (idx := e.1) (ok := e.2.1) (ov := e.2.2.1)
        (oh := e.2.2.2) hleaf side
      refine Refines.of_ok (S := S) (t' := some t') (by rw [hstep, discard_run, e']) gS ?_ hlh
      simp only [Option.map_some, Tree.step, hins, Tree.orKeep, her]
    by_cases hk : (mapGet s.k2i k).isSome = true
    · exact failCase (guard fun l => by rw [insert_run, if_pos hk])
        (Tree.insert_of_key k v h loc _ ((g.mem_keys_iff k).mp hk))
    · have hkm : k ∉ t0.erase.keys := fun hm => hk ((g.mem_keys_iff k).mpr hm)
      by_cases hh : (mapGet s.h2i h).isSome = true
      · exact failCase (guard fun l => by rw [insert_run, if_neg hk, if_pos hh])
          (Tree.insert_of_hash k v h loc _ hkm ((g.mem_hashes_iff h).mp hh))
      · have hhm : h ∉ t0.erase.hashes := fun hm => hh ((g.mem_hashes_iff h).mpr hm)
        have hk0 := Option.not_isSome_iff_eq_none.mp hk
        have hh0 := Option.not_isSome_iff_eq_none.mp hh
        cases loc with
        | auto =>
          -- the walk reaches the leaf `walkLeaf`
          have hw := g.rep.walk (s.blocks.length + 1) (Nat.lt_succ_of_lt g.depth_lt) (BitSrc.ofKey k)
          rw [g.root] at hw
          refine okCase (t0.walkLeaf (BitSrc.ofKey k)) (keySide k) (t0.walkLeaf_mem _) hk0 hh0 ?_ ?_
          · have e : insert k v h .auto s = insertAtLeaf k v h (t0.walkLeaf (BitSrc.ofKey k)).1 (keySide k) s := by
              rw [insert_run, if_neg hk, if_neg hh]
              simp only [g.blocks_ne, Bool.false_eq_true, if_false, hw]
            simp only [step]
            rw [discard_run, discard_run, e]
          · rw [Tree.insert_auto_eq k v h _ hkm hhm, t0.walk_mapLeaf g.keys]
        | «at» ref side =>
          cases hr : refIndex s ref with
          | none =>
            have hrm : ref ∉ t0.erase.keys := (g.key_none_iff ref).mp hr
            exact failCase (by simp only [step, hr]) (by rw [Tree.insert_at k v h ref side _ hkm hhm, if_neg hrm])
          | some idx =>
            obtain ⟨ov, oh, hmem⟩ := g.leaf_of_key (show mapGet s.k2i ref = some idx from hr)
            have hrm : ref ∈ t0.erase.keys := g.key_of_get (show mapGet s.k2i ref = some idx from hr)
            refine okCase (idx, ref, ov, oh) side hmem hk0 hh0 ?_ ?_
            · have e : insert k v h (.leaf idx side) s = insertAtLeaf k v h idx side s := by
                rw [insert_run, if_neg hk, if_neg hh]
              simp only [step, hr]
              rw [discard_run, discard_run, e]
            · rw [Tree.insert_at k v h ref side _ hkm hhm, if_pos hrm]

end ChiaModel.Blob
