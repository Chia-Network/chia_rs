import ChiaModel.Lemmas.BlobHashes
import ChiaModel.Lemmas.BlobBfs
/-
C18, `check_integrity` on a stored tree.  Central: `checkIntegrity_good` — a state satisfying the structural
invariant passes.
-/
namespace ChiaModel.Blob
open List M

/-- the loop's check of a parent pointer against the child → parent map -/
def c2pStep (c2p : List (Nat × Nat)) (idx : Nat) : Option Nat → Option (List (Nat × Nat))
  | some p => if mapGet c2p idx = some p then some (mapErase c2p idx) else none
  | none => some c2p

section step
variable {s : Blob} {idx : Nat} {rest : List (Nat × Block)} {lc ic : Nat} {c2p c2p' : List (Nat × Nat)}
  {d : Bool} {h : Hash} {p : Option Nat}

theorem integrityLoop_leaf {k : KeyId} {v : ValueId} (hs : c2pStep c2p idx p = some c2p')
    (hk : mapGet s.k2i k = some idx) (hf : idx ∉ s.free) :
    integrityLoop s ((idx, { dirty := d, node := .leaf h p k v }) :: rest) lc ic c2p
      = integrityLoop s rest (lc + 1) ic c2p' := by
  cases p with
  | none =>
    injection hs with hs
    simp only [integrityLoop, Node.parent, hs, hk, ne_eq, not_true_eq_false, if_false, hf]
  | some p' =>
    simp only [c2pStep] at hs
    split at hs
    · rename_i hg
      injection hs with hs
      simp only [integrityLoop, Node.parent, hg, if_true, hs, hk, ne_eq, not_true_eq_false, if_false, hf]
    · cases hs

theorem integrityLoop_node {l r : Nat} (hs : c2pStep c2p idx p = some c2p') :
    integrityLoop s ((idx, { dirty := d, node := .internal h p l r }) :: rest) lc ic c2p
      = integrityLoop s rest lc (ic + 1) (c2pInsert (c2pInsert c2p' l idx) r idx) := by
  cases p with
  | none =>
    injection hs with hs
    simp only [integrityLoop, Node.parent, hs]
  | some p' =>
    simp only [c2pStep] at hs
    split at hs
    · rename_i hg
      injection hs with hs
      simp only [integrityLoop, Node.parent, hg, if_true, hs]
    · cases hs

end step

/-- the child → parent map the loop holds when the queue is `Q`: one entry for each queued root whose block
has a parent pointer -/
def c2pOf (bl : List Block) (Q : List IT) : List (Nat × Nat) :=
  Q.filterMap fun c => (parentOfL bl c.idx).map fun p => (c.idx, p)

section
variable {bl : List Block} {c : IT} {Q : List IT}

theorem c2pOf_cons_none (h : parentOfL bl c.idx = none) : c2pOf bl (c :: Q) = c2pOf bl Q :=
  List.filterMap_cons_none (by rw [h]; rfl)

theorem c2pOf_cons_some {p : Nat} (h : parentOfL bl c.idx = some p) : c2pOf bl (c :: Q) = (c.idx, p) :: c2pOf bl Q :=
  List.filterMap_cons_some (by rw [h]; rfl)

theorem c2pOf_append (bl : List Block) (Q Q' : List IT) : c2pOf bl (Q ++ Q') = c2pOf bl Q ++ c2pOf bl Q' :=
  List.filterMap_append

end

theorem c2pOf_keys (bl : List Block) (Q : List IT) : ((c2pOf bl Q).map (·.1)).Sublist (fIdx Q) := by
  induction Q with
  | nil => exact List.Sublist.refl _
  | cons c Q ih =>
    rw [fIdx_cons]
    cases hp : parentOfL bl c.idx with
    | none => rw [c2pOf_cons_none hp]; exact List.sublist_append_of_sublist_right ih
    | some p =>
      rw [c2pOf_cons_some hp]
      exact (List.singleton_sublist.mpr c.idx_mem).append ih

theorem c2pStep_head {bl : List Block} {c : IT} {Q : List IT} {c2p : List (Nat × Nat)}
    (hn : (fIdx (c :: Q)).Nodup) (hc : c2p ~ c2pOf bl (c :: Q)) :
    ∃ c2p', c2pStep c2p c.idx (parentOfL bl c.idx) = some c2p' ∧ c2p' ~ c2pOf bl Q := by
  cases hp : parentOfL bl c.idx with
  | none =>
    rw [c2pOf_cons_none hp] at hc
    exact ⟨c2p, rfl, hc⟩
  | some p =>
    have e := c2pOf_cons_some (Q := Q) hp
    rw [e] at hc
    have hkn : (c2p.map (·.1)).Nodup :=
      (hc.map (·.1)).nodup_iff.mpr (e ▸ hn.sublist (c2pOf_keys bl (c :: Q)))
    have hget : mapGet c2p c.idx = some p := mapGet_of_mem c2p _ _ hkn (hc.mem_iff.mpr List.mem_cons_self)
    exact ⟨mapErase c2p c.idx, by simp only [c2pStep, hget, if_true], mapErase_perm_cons c2p _ c.idx p hkn hc⟩

/-- the integrity loop over the nodes in breadth-first order.  `Q` is the queue of the iterator (`QOk`), and the
child → parent map `c2p` holds exactly one entry per queued root that has a parent (`c2pOf`): a leaf consumes its
entry, an internal node consumes its entry and adds one for each child, which join the end of the queue.  The
counters add up the leaves and internal nodes of the queue.  `f` is the fuel of `IT.bfsNodes`, and the induction is
on it. -/
theorem integrity_sim {s : Blob} {t : IT} (g : Good s t) (f : Nat) :
    ∀ (Q : List IT) (q : List Nat) (lc ic : Nat) (c2p : List (Nat × Nat)),
    QOk s.blocks Q q → (∀ c ∈ Q, c.leaves ⊆ t.leaves) → c2p ~ c2pOf s.blocks Q →
    sumOf (·.indices.length) Q ≤ f →
    integrityLoop s ((IT.bfsNodes f Q).map (fun c => (c.idx, blockAt s.blocks c.idx))) lc ic c2p
      = .ok (lc + sumOf (·.leaves.length) Q, ic + sumOf IT.nInner Q, []) := by
  induction f with
  | zero =>
    intro Q q lc ic c2p _ _ hc hf
    cases Q with
    | nil => rw [List.perm_nil.mp hc]; rfl
    | cons c rest =>
      rw [sumOf_cons] at hf
      have := c.indices_pos; omega
  | succ f ih =>
    intro Q q lc ic c2p hQ hlv hc hf
    cases Q with
    | nil => rw [List.perm_nil.mp hc]; rfl
    | cons c rest =>
      obtain ⟨hlvc, hlvr⟩ := List.forall_mem_cons.mp hlv
      obtain ⟨p, hrc⟩ := hQ.rep c List.mem_cons_self
      obtain ⟨c2p', hstep, hc'⟩ := c2pStep_head hQ.nodup hc
      rw [hrc.root_parent] at hstep
      rw [sumOf_cons] at hf
      simp only [sumOf_cons]
      cases c with
      | leaf i k v h =>
        -- a leaf of `t`: the key cache points to it and it is live, which is what the loop checks
        simp only [Rep] at hrc
        have hmem : (i, k, v, h) ∈ t.leaves := hlvc List.mem_cons_self
        have hk : mapGet s.k2i k = some i := g.mapGet_k2i hmem
        rw [IT.idx_leaf] at hstep
        rw [IT.bfsNodes, List.map_cons, IT.idx_leaf, blockAt_of_get hrc,
          integrityLoop_leaf hstep hk ((g.live_iff i).mpr (t.leaf_idx_mem _ hmem)).2,
          ih rest q (lc + 1) ic c2p' hQ.tail hlvr hc'
            (by simp only [IT.indices, List.length_cons, List.length_nil] at hf; omega)]
        simp only [IT.leaves, IT.nInner, List.length_cons, List.length_nil, Except.ok.injEq, Prod.mk.injEq, and_true]
        omega
      | node i l r =>
        obtain ⟨⟨d, hh, hblk⟩, hl, hr⟩ := hrc
        rw [IT.idx_node] at hstep
        have hn := hQ.nodup
        simp only [fIdx_cons, IT.indices, List.cons_append, List.nodup_cons] at hn
        obtain ⟨hdl, _, hdlr⟩ := nodup_append_disj hn.2
        -- the two children are not queued yet, so their entries are new; both point to `i`
        have hkeys : ∀ x ∈ l.indices ++ r.indices, x ∉ (c2pOf s.blocks rest).map (·.1) :=
          fun x hx hm => hdlr x hx ((c2pOf_keys s.blocks rest).subset hm)
        have hc2 : c2pInsert (c2pInsert c2p' l.idx i) r.idx i ~ c2pOf s.blocks (rest ++ [l, r]) := by
          rw [c2pOf_append, c2pOf_cons_some hl.root_parent, c2pOf_cons_some hr.root_parent]
          exact mapInsert_two hc' (hkeys _ (List.mem_append_left _ l.idx_mem))
            (hkeys _ (List.mem_append_right _ r.idx_mem))
            (fun e => (nodup_append_disj hdl).2.2 _ l.idx_mem (e ▸ r.idx_mem))
        have hlv2 : ∀ c ∈ rest ++ [l, r], c.leaves ⊆ t.leaves := by
          intro c hc
          rcases List.mem_append.mp hc with a | a
          · exact hlvr c a
          · simp only [List.mem_cons, List.not_mem_nil, or_false] at a
            rcases a with a | a
            · exact a ▸ fun x hx => hlvc (List.mem_append_left _ hx)
            · exact a ▸ fun x hx => hlvc (List.mem_append_right _ hx)
        rw [IT.bfsNodes, List.map_cons, IT.idx_node, blockAt_of_get hblk, integrityLoop_node hstep,
          ih (rest ++ [l, r]) (i :: q) lc (ic + 1) _ hQ.step hlv2 hc2 (by
            simp only [sumOf_append, sumOf_cons, sumOf_nil]
            simp only [IT.indices, List.length_cons, List.length_append] at hf
            omega)]
        simp only [sumOf_append, sumOf_cons, sumOf_nil, IT.leaves, IT.nInner, List.length_append, Except.ok.injEq,
          Prod.mk.injEq, and_true]
        omega

theorem checkJust_good {s : Blob} {t : IT} (g : Good s t) : checkJust s = .ok := by
  have hlen := g.indices_le
  have hq : QOk s.blocks [t] [] := .single g.rep g.nodup
  have hpf := pfAux_sim s.blocks (2 * s.blocks.length + 2) [t] [] [] hq (by simp only [sumOf_cons, sumOf_nil]; omega)
  have hloop := integrity_sim g (2 * s.blocks.length + 2) [t] [] 0 0 [] hq
    (fun c hc => List.mem_singleton.mp hc ▸ List.Subset.refl _)
    (by rw [c2pOf_cons_none g.rep.root_parent]; exact List.Perm.refl _) (by simp only [sumOf_cons, sumOf_nil]; omega)
  simp only [List.map_cons, List.map_nil, sumOf_cons, sumOf_nil, g.root, List.reverse_nil, List.nil_append,
    Nat.zero_add, Nat.add_zero] at hpf hloop
  have hcount := g.count
  have hk := g.k2i.length_eq
  have hh := g.h2i.length_eq
  rw [List.length_map] at hk hh
  have hil := t.indices_length
  unfold checkJust parentFirst
  rw [g.blocks_ne]
  simp only [Bool.false_eq_true, if_false, hpf, hloop]
  have c1 : ¬ (t.leaves.length ≠ s.k2i.length) := by omega
  have c2 : ¬ (t.leaves.length ≠ s.h2i.length) := by omega
  have c3 : ¬ (t.leaves.length + t.nInner + s.free.length ≠ s.blocks.length) := by omega
  simp [c1, c2, c3]

theorem checkIntegrity_good {s : Blob} {t : Option IT} (hs : SInv s t) : checkIntegrity s = .ok := by
  cases t with
  | none =>
    simp only [SInv] at hs
    subst hs
    rfl
  | some t =>
    have g : Good s t := hs
    obtain ⟨S, hS, hSS, _⟩ := calcLazyHashes_good g
    unfold checkIntegrity
    rw [checkJust_good g, hS]
    exact checkJust_good (g.sameShape hSS)

end ChiaModel.Blob
