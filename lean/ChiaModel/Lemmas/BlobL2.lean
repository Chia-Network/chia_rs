import ChiaModel.Lemmas.BlobAssoc
/-
C18, block array under the local invariant `LInv` (Model/Blob.lean): the primitives.  Run equations; `Ok x s Q` (`x`
run from `s` succeeds with post-condition `Q`); what `LInv` says about one node; `SameShape` (equal up to dirty flags
and stored hashes of internal blocks), which `LInv` does not see; the dirty-marking walk (`markDirtyAux_spec`);
`KeepOrOk` (an operation leaves the state unchanged, or succeeds) and `FailOr` (it fails without touching the state,
or succeeds).
-/
namespace ChiaModel.Blob
open M

theorem bind_run {α β : Type} (x : M α) (f : α → M β) (s : Blob) :
    (x >>= f) s = match x s with
      | (.ok a, s') => f a s'
      | (.error e, s') => (.error e, s') := rfl

theorem pure_run {α : Type} (a : α) (s : Blob) : (pure a : M α) s = (.ok a, s) := rfl

theorem throw_run {α : Type} (e : Err) (s : Blob) : (M.throw e : M α) s = (.error e, s) := rfl

theorem ite_run {α : Type} (c : Prop) [Decidable c] (x y : M α) (s : Blob) :
    (if c then x else y) s = if c then x s else y s := apply_ite (fun f => f s) c x y

/-- the state after a successful `insert_entry_to_blob` -/
def Blob.write (s : Blob) (i : Nat) (b : Block) : Blob :=
  let blocks' := if i = s.blocks.length then s.blocks ++ [b] else s.blocks.set i b
  match b.node with
  | .leaf h _ k _ =>
    { blocks := blocks', free := s.free.erase i, k2i := mapInsert s.k2i k i, h2i := mapInsert s.h2i h i }
  | .internal _ _ _ _ => { blocks := blocks', free := s.free.erase i, k2i := s.k2i, h2i := s.h2i }

theorem Node.setParent_parent (p : Option Nat) (n : Node) : (n.setParent p).parent = p := by
  cases n <;> rfl

theorem Node.setParent_hash (p : Option Nat) (n : Node) : (n.setParent p).hash = n.hash := by
  cases n <;> rfl

theorem Node.internal_hash (x : Hash) (q : Option Nat) (a b : Nat) : (Node.internal x q a b).hash = x := rfl

theorem parentOf_block {s : Blob} {j : Nat} {b : Block} (hb : s.blocks[j]? = some b) :
    parentOf s j = b.node.parent := by
  simp only [parentOf, hb]

theorem parentOf_congr {a b : Blob} {j : Nat} (h : b.blocks[j]? = a.blocks[j]?) : parentOf b j = parentOf a j := by
  simp only [parentOf, h]

theorem lt_of_block {s : Blob} {i : Nat} {b : Block} (hb : s.blocks[i]? = some b) : i < s.blocks.length :=
  (List.getElem?_eq_some_iff.mp hb).1

theorem exists_block {s : Blob} {i : Nat} (hi : i < s.blocks.length) : ∃ b, s.blocks[i]? = some b :=
  ⟨s.blocks[i], List.getElem?_eq_getElem hi⟩

theorem internal_ne_leaf {s : Blob} {i j : Nat} {d d' : Bool} {h h' : Hash} {p p' : Option Nat} {l r : Nat}
    {k : KeyId} {v : ValueId} (hi : s.blocks[i]? = some { dirty := d, node := .internal h p l r })
    (hj : s.blocks[j]? = some { dirty := d', node := .leaf h' p' k v }) : i ≠ j :=
  fun e => by rw [e, hj] at hi; cases hi

theorem write_blocks_lt (s : Blob) (i : Nat) (b : Block) (h : i < s.blocks.length) :
    (s.write i b).blocks = s.blocks.set i b := by
  have hne : i ≠ s.blocks.length := Nat.ne_of_lt h
  obtain ⟨d, n⟩ := b
  cases n <;> simp [Blob.write, hne]

theorem write_free (s : Blob) (i : Nat) (b : Block) : (s.write i b).free = s.free.erase i := by
  obtain ⟨d, n⟩ := b
  cases n <;> rfl

theorem write_get (s : Blob) (i : Nat) (b : Block) (hi : i < s.blocks.length) (j : Nat) :
    (s.write i b).blocks[j]? = if j = i then some b else s.blocks[j]? := by
  rw [write_blocks_lt s i b hi]
  by_cases h : j = i
  · subst h; rw [if_pos rfl, List.getElem?_set_self hi]
  · rw [if_neg h, List.getElem?_set_ne (fun e => h e.symm)]

theorem write_len (s : Blob) (i : Nat) (b : Block) (hi : i < s.blocks.length) :
    (s.write i b).blocks.length = s.blocks.length := by
  rw [write_blocks_lt s i b hi, List.length_set]

theorem write_k2i_leaf (s : Blob) (i : Nat) (d : Bool) (h : Hash) (p : Option Nat) (k : KeyId) (v : ValueId) :
    (s.write i { dirty := d, node := .leaf h p k v }).k2i = mapInsert s.k2i k i := rfl
theorem write_h2i_leaf (s : Blob) (i : Nat) (d : Bool) (h : Hash) (p : Option Nat) (k : KeyId) (v : ValueId) :
    (s.write i { dirty := d, node := .leaf h p k v }).h2i = mapInsert s.h2i h i := rfl
theorem write_k2i_internal (s : Blob) (i : Nat) (d : Bool) (h : Hash) (p : Option Nat) (l r : Nat) :
    (s.write i { dirty := d, node := .internal h p l r }).k2i = s.k2i := rfl
theorem write_h2i_internal (s : Blob) (i : Nat) (d : Bool) (h : Hash) (p : Option Nat) (l r : Nat) :
    (s.write i { dirty := d, node := .internal h p l r }).h2i = s.h2i := rfl

def Blob.writes (s : Blob) : List (Nat × Block) → Blob
  | [] => s
  | e :: l => (s.write e.1 e.2).writes l

theorem writes_spec (s : Blob) (l : List (Nat × Block)) (hl : ∀ e ∈ l, e.1 < s.blocks.length) :
    (s.writes l).blocks.length = s.blocks.length
    ∧ (∀ j, j ∉ l.map (·.1) → (s.writes l).blocks[j]? = s.blocks[j]?)
    ∧ ((l.map (·.1)).Nodup → ∀ i b, (i, b) ∈ l → (s.writes l).blocks[i]? = some b)
    ∧ ((∀ e ∈ l, e.1 ∉ s.free) → (s.writes l).free = s.free) := by
  induction l generalizing s with
  | nil => exact ⟨rfl, fun _ _ => rfl, fun _ _ _ h => (by cases h), fun _ => rfl⟩
  | cons e l ih =>
    have h1 := hl e List.mem_cons_self
    have hlen := write_len s e.1 e.2 h1
    obtain ⟨i1, i2, i3, i4⟩ := ih (s.write e.1 e.2) (fun x hx => by rw [hlen]; exact hl x (List.mem_cons_of_mem _ hx))
    have other : ∀ j, j ≠ e.1 → j ∉ l.map (·.1) → (s.writes (e :: l)).blocks[j]? = s.blocks[j]? :=
      fun j hj hjl => (i2 j hjl).trans (by rw [write_get s _ _ h1, if_neg hj])
    refine ⟨i1.trans hlen, fun j hj => ?_, fun hn i b h => ?_, fun hf => ?_⟩
    · simp only [List.map_cons, List.mem_cons, not_or] at hj
      exact other j hj.1 hj.2
    · simp only [List.map_cons, List.nodup_cons] at hn
      rcases List.mem_cons.mp h with e1 | e1
      · subst e1
        exact (i2 i hn.1).trans (by rw [write_get s _ _ h1, if_pos rfl])
      · exact i3 hn.2 i b e1
    · have hfe : (s.write e.1 e.2).free = s.free := by
        rw [write_free, List.erase_of_not_mem (hf e List.mem_cons_self)]
      exact (i4 (fun x hx => by rw [hfe]; exact hf x (List.mem_cons_of_mem _ hx))).trans hfe

theorem getBlock_run (i : Nat) (s : Blob) :
    getBlock i s = match s.blocks[i]? with
      | some b => (.ok b, s)
      | none => (.error .err, s) := by
  show (match M.get s with
      | (.ok a, s') => (match a.blocks[i]? with | some b => pure b | none => M.throw .err : M Block) s'
      | (.error e, s') => (.error e, s')) = _
  simp only [M.get]
  cases s.blocks[i]? <;> rfl

theorem getBlock_eq {s : Blob} {i : Nat} {b : Block} (h : s.blocks[i]? = some b) : getBlock i s = (.ok b, s) := by
  rw [getBlock_run, h]

theorem getNode_eq {s : Blob} {i : Nat} {b : Block} (h : s.blocks[i]? = some b) : getNode i s = (.ok b.node, s) := by
  unfold getNode
  rw [bind_run, getBlock_eq h]; rfl

theorem writeBlock_run (i : Nat) (b : Block) (s : Blob) :
    writeBlock i b s = if i > s.blocks.length then (.error .err, s) else (.ok (), s.write i b) := by
  obtain ⟨d, n⟩ := b
  by_cases h : i > s.blocks.length
  · rw [if_pos h]
    unfold writeBlock
    simp only [bind_run, M.get, if_pos h]
    rfl
  · rw [if_neg h]
    unfold writeBlock
    simp only [bind_run, M.get, if_neg h]
    cases n <;> rfl

theorem writeBlock_run_le (i : Nat) (b : Block) (s : Blob) (hi : i ≤ s.blocks.length) :
    writeBlock i b s = (.ok (), s.write i b) := by
  rw [writeBlock_run, if_neg (Nat.not_lt.mpr hi)]

theorem getNewIndex_run (s : Blob) :
    getNewIndex s = match s.free with
      | i :: rest => (.ok i, { s with free := rest })
      | [] => (.ok s.blocks.length, { s with blocks := s.blocks ++ [Block.zero] }) := by
  unfold getNewIndex
  simp only [bind_run, M.get]
  cases s.free <;> rfl

theorem updateParent_run (i : Nat) (p : Option Nat) (s : Blob) (b : Block) (hb : s.blocks[i]? = some b) :
    updateParent i p s = (.ok { b with node := b.node.setParent p }, s.write i { b with node := b.node.setParent p }) := by
  have hi : i < s.blocks.length := lt_of_block hb
  unfold updateParent
  simp only [bind_run, getBlock_run, hb, writeBlock_run_le i _ s (Nat.le_of_lt hi), pure_run]

theorem replaceChild_run (pi old new : Nat) (s : Blob) {d : Bool} {h : Hash} {p : Option Nat} {l r : Nat}
    (hb : s.blocks[pi]? = some { dirty := d, node := .internal h p l r }) (hc : old = l ∨ old = r) :
    replaceChild pi old new s
      = (.ok (), s.write pi { dirty := d, node := if old = l then .internal h p new r else .internal h p l new }) := by
  have hi : pi < s.blocks.length := lt_of_block hb
  unfold replaceChild
  simp only [bind_run, getBlock_run, hb]
  by_cases h1 : old = l
  · rw [if_pos h1, if_pos h1, writeBlock_run_le _ _ _ (Nat.le_of_lt hi)]
  · rw [if_neg h1, if_neg h1, if_pos (hc.resolve_left h1), writeBlock_run_le _ _ _ (Nat.le_of_lt hi)]

theorem removeLeaf_run (k : KeyId) (h : Hash) (s : Blob) :
    removeLeaf k h s = match mapGet s.k2i k with
      | none => (.error .err, s)
      | some i => (.ok (), { s with k2i := mapErase s.k2i k, h2i := mapErase s.h2i h, free := freeInsert s.free i }) := by
  unfold removeLeaf
  simp only [bind_run, M.get]
  cases mapGet s.k2i k <;> rfl

theorem removeInternal_run (i : Nat) (s : Blob) :
    removeInternal i s = (.ok (), { s with free := freeInsert s.free i }) := rfl

theorem clear_run (s : Blob) : clear s = (.ok (), Blob.empty) := rfl

theorem moveIndex_run (src dst : Nat) (s : Blob) :
    moveIndex src dst s =
      if src ∈ s.free then (.error .err, s)
      else if dst ∈ s.free then (.error .err, s)
      else (.ok (), { s with free := freeInsert s.free src }) := by
  unfold moveIndex
  simp only [bind_run, M.get]
  split
  · rfl
  · split <;> rfl

theorem getLeafByKey_run (k : KeyId) (s : Blob) :
    getLeafByKey k s = match mapGet s.k2i k with
      | none => (.error .err, s)
      | some i =>
        match s.blocks[i]? with
        | none => (.error .err, s)
        | some b =>
          match b.node with
          | .leaf _ _ _ _ => (.ok (i, b.node), s)
          | .internal _ _ _ _ => (.error .panic, s) := by
  unfold getLeafByKey
  simp only [bind_run, M.get]
  cases mapGet s.k2i k with
  | none => rfl
  | some i =>
    simp only
    cases hb : s.blocks[i]? with
    | none => simp only [bind_run, getBlock_run, hb]
    | some b =>
      obtain ⟨d, n⟩ := b
      cases n <;> simp only [bind_run, getBlock_run, hb] <;> rfl

theorem randomLoc_run (key : KeyId) (s : Blob) :
    randomLoc key s =
      if s.blocks.isEmpty then (.ok .asRoot, s)
      else match walkAux s.blocks (s.blocks.length + 1) 0 (BitSrc.ofKey key) with
        | some idx => (.ok (.leaf idx (keySide key)), s)
        | none => (.error .err, s) := by
  unfold randomLoc
  simp only [bind_run, M.get]
  split
  · rfl
  · cases walkAux s.blocks (s.blocks.length + 1) 0 (BitSrc.ofKey key) <;> rfl

theorem minHeightLeaf_run (s : Blob) :
    minHeightLeaf s =
      if s.blocks.isEmpty then (.error .err, s)
      else match bfAux s.blocks (2 * s.blocks.length + 2) [0] [] with
        | some (_, b) => (.ok b.node, s)
        | none => (.error .err, s) := by
  unfold minHeightLeaf
  simp only [bind_run, M.get]
  split
  · rfl
  · cases bfAux s.blocks (2 * s.blocks.length + 2) [0] [] with
    | none => rfl
    | some x => obtain ⟨a, b⟩ := x; rfl

def Ok {α : Type} (x : M α) (s : Blob) (Q : α → Blob → Prop) : Prop :=
  ∃ a s', x s = (.ok a, s') ∧ Q a s'

theorem Ok.bind {α β : Type} {x : M α} {f : α → M β} {s : Blob} {Q : α → Blob → Prop}
    {R : β → Blob → Prop} (h : Ok x s Q) (hf : ∀ a s', Q a s' → Ok (f a) s' R) : Ok (x >>= f) s R := by
  obtain ⟨a, s', e, q⟩ := h
  obtain ⟨b, s'', e2, r⟩ := hf a s' q
  exact ⟨b, s'', by rw [bind_run, e]; exact e2, r⟩

theorem Ok.bind_eq {α β : Type} {x : M α} {f : α → M β} {s s' : Blob} {a : α} {R : β → Blob → Prop}
    (e : x s = (.ok a, s')) (h : Ok (f a) s' R) : Ok (x >>= f) s R := by
  obtain ⟨b, s'', e2, r⟩ := h
  exact ⟨b, s'', by rw [bind_run, e]; exact e2, r⟩

theorem Ok.pure {α : Type} {a : α} {s : Blob} {Q : α → Blob → Prop} (h : Q a s) : Ok (pure a) s Q :=
  ⟨a, s, rfl, h⟩

theorem Ok.mono {α : Type} {x : M α} {s : Blob} {Q R : α → Blob → Prop} (h : Ok x s Q)
    (hqr : ∀ a s', Q a s' → R a s') : Ok x s R := by
  obtain ⟨a, s', e, q⟩ := h
  exact ⟨a, s', e, hqr a s' q⟩

/-- every parent pointer stored in any block, live or stale, is a valid index: all the dirty-marking walk needs in
order to end, and what still holds of the states in the middle of an operation, where `LInv` does not -/
def RangeP (s : Blob) : Prop :=
  ∀ (j : Nat) (b : Block), s.blocks[j]? = some b → ∀ p, b.node.parent = some p → p < s.blocks.length

theorem RangeP.congr {s1 s2 : Blob} (h : s1.blocks = s2.blocks) (r : RangeP s1) : RangeP s2 := by
  unfold RangeP at *; rw [← h]; exact r

theorem RangeP.write {s : Blob} (hr : RangeP s) {i : Nat} {b : Block} (hi : i < s.blocks.length)
    (hp : ∀ p, b.node.parent = some p → p < s.blocks.length) : RangeP (s.write i b) := by
  intro j b0 hj p hpar
  rw [write_len s i b hi]
  rw [write_get s i b hi] at hj
  by_cases hji : j = i
  · rw [if_pos hji] at hj; cases hj; exact hp p hpar
  · rw [if_neg hji] at hj; exact hr j b0 hj p hpar

/-- `get_new_index` on `s` returned `i` and left `S`: the first free index, or the index of an
appended zero block -/
structure NewIdx (s : Blob) (i : Nat) (S : Blob) : Prop where
  new : i ∈ s.free ∨ s.blocks.length ≤ i
  lt : i < S.blocks.length
  len : s.blocks.length ≤ S.blocks.length
  top : ∀ j, s.blocks.length ≤ j → j < S.blocks.length → j = i
  same : ∀ j, j < s.blocks.length → S.blocks[j]? = s.blocks[j]?
  zero : ∀ j b, S.blocks[j]? = some b → s.blocks.length ≤ j → b = Block.zero
  free : S.free = s.free.erase i
  k2i : S.k2i = s.k2i
  h2i : S.h2i = s.h2i

theorem getNewIndex_newIdx (s : Blob) (hf : ∀ i ∈ s.free, i < s.blocks.length) : ∃ i S, getNewIndex s = (.ok i, S) ∧ NewIdx s i S := by
  rw [getNewIndex_run]
  cases hfr : s.free with
  | nil =>
    refine ⟨_, _, rfl, Or.inr (Nat.le_refl _), by simp, by simp, ?_, ?_, ?_, by rw [hfr]; rfl, rfl, rfl⟩
    · intro j h1 h2
      simp only [List.length_append, List.length_cons, List.length_nil] at h2
      omega
    · intro j hj; exact List.getElem?_append_left hj
    · intro j b hb hj
      have hb' : (s.blocks ++ [Block.zero])[j]? = some b := hb
      rw [List.getElem?_append_right hj] at hb'
      exact List.mem_singleton.mp (List.mem_of_getElem? hb')
  | cons i rest =>
    have hi : i < s.blocks.length := hf i (by rw [hfr]; exact List.mem_cons_self)
    refine ⟨i, _, rfl, Or.inl (by rw [hfr]; exact List.mem_cons_self), hi, Nat.le_refl _,
      fun j h1 h2 => absurd h2 (Nat.not_lt.mpr h1), fun _ _ => rfl, ?_, by rw [hfr, List.erase_cons_head], rfl, rfl⟩
    intro j b hb hj
    exact absurd (lt_of_block hb) (Nat.not_lt.mpr hj)

theorem ne_of_new {s : Blob} {x y : Nat} (hx : x ∈ s.free ∨ s.blocks.length ≤ x) (hy : y < s.blocks.length)
    (hyf : y ∉ s.free) : y ≠ x :=
  fun e => (e ▸ hx).elim hyf (fun h => absurd hy (Nat.not_lt.mpr h))

theorem NewIdx.rangeP {s S : Blob} {i : Nat} (a : NewIdx s i S) (hr : RangeP s) : RangeP S := by
  intro j b hb p hp
  by_cases hj : j < s.blocks.length
  · rw [a.same j hj] at hb; exact Nat.lt_of_lt_of_le (hr j b hb p hp) a.len
  · rw [a.zero j b hb (Nat.le_of_not_lt hj)] at hp; cases hp

theorem NewIdx.mem_free {s S : Blob} {i : Nat} (a : NewIdx s i S) {j : Nat} (hj : j ∈ S.free) : j ∈ s.free := by
  rw [a.free] at hj; exact List.mem_of_mem_erase hj

theorem okChildren_iff {s : Blob} {i : Nat} : okChildren s i ↔
    ∀ d h p l r, s.blocks[i]? = some { dirty := d, node := .internal h p l r } →
      l < s.blocks.length ∧ r < s.blocks.length ∧ l ∉ s.free ∧ r ∉ s.free ∧ l ≠ r
        ∧ parentOf s l = some i ∧ parentOf s r = some i := by
  unfold okChildren
  split
  · rename_i heq
    exact ⟨fun hc _ _ _ _ _ hb => by rw [heq] at hb; cases hb; exact hc, fun hc => hc _ _ _ _ _ heq⟩
  · rename_i hne
    exact ⟨fun _ _ _ _ _ _ hb => (hne _ _ _ _ _ hb).elim, fun _ => trivial⟩

theorem okParent_iff {s : Blob} {i : Nat} : okParent s i ↔ ∀ b, s.blocks[i]? = some b →
    (∀ p, b.node.parent = some p → p ∉ s.free ∧ ∃ d h pp l r,
      s.blocks[p]? = some { dirty := d, node := .internal h pp l r } ∧ (i = l ∨ i = r))
    ∧ (b.node.parent = none → b.node.isLeaf = true → s.k2i.length = 1) := by
  unfold okParent
  cases hb : s.blocks[i]? with
  | none => exact ⟨fun _ _ h => (by cases h), fun _ => trivial⟩
  | some b =>
    simp only [Option.some.injEq, forall_eq']
    cases hp : b.node.parent with
    | none => exact ⟨fun h => ⟨fun _ e => (by cases e), fun _ => h⟩, fun h => h.2 rfl⟩
    | some p =>
      simp only [Option.some.injEq, forall_eq']
      refine ⟨fun h => ⟨⟨h.1, ?_⟩, fun e => (by cases e)⟩, fun h => ⟨h.1.1, ?_⟩⟩
      · have h2 := h.2
        split at h2
        · rename_i heq; exact ⟨_, _, _, _, _, heq, h2⟩
        · exact h2.elim
      · obtain ⟨d, hh, pp, l, r, heq, hc⟩ := h.1.2
        rw [heq]; exact hc

theorem okLeaf_iff {s : Blob} {i : Nat} : okLeaf s i ↔
    ∀ d h p k v, s.blocks[i]? = some { dirty := d, node := .leaf h p k v } →
      mapGet s.k2i k = some i ∧ mapGet s.h2i h = some i := by
  unfold okLeaf
  split
  · rename_i heq
    exact ⟨fun hc _ _ _ _ _ hb => by rw [heq] at hb; cases hb; exact hc, fun hc => hc _ _ _ _ _ heq⟩
  · rename_i hne
    exact ⟨fun _ _ _ _ _ _ hb => (hne _ _ _ _ _ hb).elim, fun _ => trivial⟩

/-- `okKey` and `okHash` in one (`okKey_iff`, `okHash_iff`): `proj` selects the key or the hash, so that a fact about
cache entries is proved once for both caches -/
def EntryOk {κ : Type} (proj : Hash → KeyId → κ) (s : Blob) (e : κ × Nat) : Prop :=
  e.2 ∉ s.free ∧ ∃ d h p k v, s.blocks[e.2]? = some { dirty := d, node := .leaf h p k v } ∧ proj h k = e.1

/-- the `match` of `okKey` and of `okHash` on the block an entry points to, as an existence statement -/
theorem leafEntry_iff {bl : List Block} {i : Nat} {R : Hash → KeyId → Prop} :
    (match bl[i]? with
      | some { node := .leaf h _ k _, .. } => R h k
      | _ => False) ↔ ∃ d h p k v, bl[i]? = some { dirty := d, node := .leaf h p k v } ∧ R h k := by
  split
  · rename_i heq
    refine ⟨fun h => ⟨_, _, _, _, _, heq, h⟩, fun h => ?_⟩
    obtain ⟨_, _, _, _, _, hb, h⟩ := h
    rw [heq] at hb; cases hb; exact h
  · rename_i hne
    refine ⟨False.elim, fun h => ?_⟩
    obtain ⟨_, _, _, _, _, hb, _⟩ := h
    exact hne _ _ _ _ _ hb

theorem okKey_iff {s : Blob} {e : KeyId × Nat} : okKey s e ↔ EntryOk (fun _ k => k) s e :=
  and_congr_right fun _ => leafEntry_iff

theorem okHash_iff {s : Blob} {e : Hash × Nat} : okHash s e ↔ EntryOk (fun h _ => h) s e :=
  and_congr_right fun _ => leafEntry_iff

theorem okKey_intro {s : Blob} {e : KeyId × Nat} {d : Bool} {hh : Hash} {p : Option Nat} {v : ValueId}
    (hf : e.2 ∉ s.free) (hb : s.blocks[e.2]? = some { dirty := d, node := .leaf hh p e.1 v }) : okKey s e :=
  okKey_iff.mpr ⟨hf, _, _, _, _, _, hb, rfl⟩

theorem okHash_intro {s : Blob} {e : Hash × Nat} {d : Bool} {p : Option Nat} {k : KeyId} {v : ValueId}
    (hf : e.2 ∉ s.free) (hb : s.blocks[e.2]? = some { dirty := d, node := .leaf e.1 p k v }) : okHash s e :=
  okHash_iff.mpr ⟨hf, _, _, _, _, _, hb, rfl⟩

theorem LInv.rangeP {s : Blob} (h : LInv s) : RangeP s := by
  intro j b hj p hp
  have := h.parentRange j (lt_of_block hj)
  simp only [parentInRange, hj, hp] at this
  exact this

theorem parentRange_of_rangeP {s : Blob} (hr : RangeP s) (i : Nat) : parentInRange s i := by
  unfold parentInRange
  split
  · rename_i b hb
    split
    · rename_i p hp; exact hr i b hb p hp
    · trivial
  · trivial

theorem LInv.key_leaf {s : Blob} (hinv : LInv s) {k : KeyId} {i : Nat} (h : mapGet s.k2i k = some i) :
    i ∉ s.free ∧ ∃ d hh p v, s.blocks[i]? = some { dirty := d, node := .leaf hh p k v } := by
  obtain ⟨hf, d, hh, p, k', v, hb, hk⟩ := okKey_iff.mp (hinv.keys (k, i) (mapGet_mem _ _ _ h))
  subst hk
  exact ⟨hf, d, hh, p, v, hb⟩

theorem LInv.leaf_cached {s : Blob} (hinv : LInv s) {i : Nat} {d : Bool} {hh : Hash} {p : Option Nat}
    {k : KeyId} {v : ValueId} (hi : i ∉ s.free) (hb : s.blocks[i]? = some { dirty := d, node := .leaf hh p k v }) :
    mapGet s.k2i k = some i ∧ mapGet s.h2i hh = some i :=
  okLeaf_iff.mp (hinv.node i (lt_of_block hb) hi).2.2 _ _ _ _ _ hb

theorem LInv.children {s : Blob} (hinv : LInv s) {i : Nat} {d : Bool} {h : Hash} {p : Option Nat} {l r : Nat}
    (hi : i ∉ s.free) (hb : s.blocks[i]? = some { dirty := d, node := .internal h p l r }) :
    l < s.blocks.length ∧ r < s.blocks.length ∧ l ∉ s.free ∧ r ∉ s.free ∧ l ≠ r
      ∧ parentOf s l = some i ∧ parentOf s r = some i :=
  okChildren_iff.mp (hinv.node i (lt_of_block hb) hi).1 _ _ _ _ _ hb

theorem LInv.parent_of {s : Blob} (hinv : LInv s) {i : Nat} {b : Block} {p : Nat} (hi : i ∉ s.free)
    (hb : s.blocks[i]? = some b) (hp : b.node.parent = some p) :
    p ∉ s.free ∧ ∃ d' ph pp pl pr,
      s.blocks[p]? = some { dirty := d', node := .internal ph pp pl pr } ∧ (i = pl ∨ i = pr) :=
  (okParent_iff.mp (hinv.node i (lt_of_block hb) hi).2.1 b hb).1 p hp

theorem LInv.leaf_parent {s : Blob} (hinv : LInv s) {idx : Nat} {d : Bool} {oh : Hash} {op : Option Nat}
    {ok : KeyId} {ov : ValueId} (hi : idx ∉ s.free)
    (hb : s.blocks[idx]? = some { dirty := d, node := .leaf oh op ok ov }) :
    (op = none → s.k2i.length = 1) ∧
    (∀ opi, op = some opi → opi ∉ s.free ∧ ∃ d' ph pp pl pr,
        s.blocks[opi]? = some { dirty := d', node := .internal ph pp pl pr } ∧ (idx = pl ∨ idx = pr)) :=
  ⟨fun e => (okParent_iff.mp (hinv.node idx (lt_of_block hb) hi).2.1 _ hb).2 e rfl,
    fun _ e => hinv.parent_of hi hb e⟩

theorem rootOk_iff {s : Blob} : rootOk s ↔ (0 < s.blocks.length → 0 ∉ s.free ∧ parentOf s 0 = none) := by
  unfold rootOk parentOf
  cases hb : s.blocks[0]? with
  | none => exact ⟨fun _ h0 => (by rw [List.getElem?_eq_getElem h0] at hb; cases hb), fun _ => trivial⟩
  | some b => exact ⟨fun h _ => h, fun h => h (lt_of_block hb)⟩

theorem LInv.root_live {s : Blob} (hinv : LInv s) (h0 : 0 < s.blocks.length) :
    0 ∉ s.free ∧ parentOf s 0 = none :=
  rootOk_iff.mp hinv.root h0

theorem LInv.empty_of_no_blocks {s : Blob} (hinv : LInv s) (hb : s.blocks = []) : s = Blob.empty := by
  have nil_of : ∀ {α : Type} (l : List α), (∀ e ∈ l, False) → l = [] := fun l h => by
    cases l with
    | nil => rfl
    | cons a _ => exact (h a List.mem_cons_self).elim
  have hf : s.free = [] := nil_of _ fun a ha => by have := hinv.freeLt a ha; rw [hb] at this; cases this
  have hk : s.k2i = [] := nil_of _ fun e he => by
    obtain ⟨_, _, _, _, _, _, hbb, _⟩ := okKey_iff.mp (hinv.keys e he)
    rw [hb] at hbb; cases hbb
  have hh : s.h2i = [] := nil_of _ fun e he => by
    obtain ⟨_, _, _, _, _, _, hbb, _⟩ := okHash_iff.mp (hinv.hashes e he)
    rw [hb] at hbb; cases hbb
  cases s
  simp only at hb hf hk hh
  subst hb; subst hf; subst hk; subst hh
  rfl

theorem LInv.blocks_ne_nil {s : Blob} (hinv : LInv s) (k : KeyId) (hk : mapGet s.k2i k ≠ none) : s.blocks ≠ [] := by
  intro hb
  rw [hinv.empty_of_no_blocks hb] at hk
  exact hk rfl

def blockAt (bl : List Block) (i : Nat) : Block := (bl[i]?).getD Block.zero

theorem blockAt_of_get {bl : List Block} {i : Nat} {b : Block} (h : bl[i]? = some b) : blockAt bl i = b := by
  simp only [blockAt, h, Option.getD_some]

theorem blockAt_congr {bl bl' : List Block} {j : Nat} (h : bl'[j]? = bl[j]?) : blockAt bl' j = blockAt bl j := by
  simp only [blockAt, h]

def dirtyB (bl : List Block) (j : Nat) : Bool := (blockAt bl j).dirty
def hashB (bl : List Block) (j : Nat) : Hash := (blockAt bl j).node.hash

section
variable {bl bl' : List Block}

theorem dirtyB_get {j : Nat} {b : Block} (h : bl[j]? = some b) : dirtyB bl j = b.dirty := by
  rw [dirtyB, blockAt_of_get h]

theorem hashB_get {j : Nat} {b : Block} (h : bl[j]? = some b) : hashB bl j = b.node.hash := by
  rw [hashB, blockAt_of_get h]

theorem dh_of_get {j : Nat} (h : bl'[j]? = bl[j]?) :
    dirtyB bl' j = dirtyB bl j ∧ hashB bl' j = hashB bl j := by
  rw [dirtyB, hashB, blockAt_congr h]
  exact ⟨rfl, rfl⟩

theorem dh_setParent {j : Nat} {b : Block} {p : Option Nat} (h : bl[j]? = some b)
    (h' : bl'[j]? = some { b with node := b.node.setParent p }) :
    dirtyB bl' j = dirtyB bl j ∧ hashB bl' j = hashB bl j := by
  rw [dirtyB_get h, dirtyB_get h', hashB_get h, hashB_get h', Node.setParent_hash]
  exact ⟨rfl, rfl⟩

end

/-- `b` differs from `a` at most in dirty flags and stored hashes of internal blocks -/
structure SameShape (a b : Blob) : Prop where
  free : b.free = a.free
  k2i : b.k2i = a.k2i
  h2i : b.h2i = a.h2i
  len : b.blocks.length = a.blocks.length
  blk : ∀ j : Nat, b.blocks[j]? = a.blocks[j]? ∨
    ∃ d d' hh hh' p l r, a.blocks[j]? = some { dirty := d, node := .internal hh p l r }
      ∧ b.blocks[j]? = some { dirty := d', node := .internal hh' p l r }

namespace SameShape

theorem refl (a : Blob) : SameShape a a := ⟨rfl, rfl, rfl, rfl, fun _ => Or.inl rfl⟩

theorem trans {a b c : Blob} (h1 : SameShape a b) (h2 : SameShape b c) : SameShape a c := by
  refine ⟨h2.free.trans h1.free, h2.k2i.trans h1.k2i, h2.h2i.trans h1.h2i, h2.len.trans h1.len, ?_⟩
  intro j
  rcases h2.blk j with e2 | ⟨d, d', hh, hh', p, l, r, e2, e2'⟩
  · rcases h1.blk j with e1 | ⟨d, d', hh, hh', p, l, r, e1, e1'⟩
    · exact Or.inl (e2.trans e1)
    · exact Or.inr ⟨d, d', hh, hh', p, l, r, e1, e2.trans e1'⟩
  · rcases h1.blk j with e1 | ⟨d1, d1', hh1, hh1', p1, l1, r1, e1, e1'⟩
    · exact Or.inr ⟨d, d', hh, hh', p, l, r, e1 ▸ e2, e2'⟩
    · rw [e1'] at e2
      cases e2
      exact Or.inr ⟨d1, d', hh1, hh', _, _, _, e1, e2'⟩

theorem symm {a b : Blob} (h : SameShape a b) : SameShape b a :=
  ⟨h.free.symm, h.k2i.symm, h.h2i.symm, h.len.symm, fun j => (h.blk j).elim (fun e => Or.inl e.symm)
    fun ⟨d, d', hh, hh', p, l, r, e1, e2⟩ => Or.inr ⟨d', d, hh', hh, p, l, r, e2, e1⟩⟩

variable {a b : Blob} (h : SameShape a b)
include h

theorem internal {j : Nat} {d : Bool} {hh : Hash} {p : Option Nat} {l r : Nat}
    (hb : a.blocks[j]? = some { dirty := d, node := .internal hh p l r }) :
    ∃ d' hh', b.blocks[j]? = some { dirty := d', node := .internal hh' p l r } := by
  rcases h.blk j with e | ⟨d1, d2, h1, h2, p1, l1, r1, e1, e2⟩
  · exact ⟨d, hh, e.trans hb⟩
  · rw [hb] at e1
    cases e1
    exact ⟨d2, h2, e2⟩

theorem leaf {j : Nat} {d : Bool} {hh : Hash} {p : Option Nat} {k : KeyId} {v : ValueId}
    (hb : a.blocks[j]? = some { dirty := d, node := .leaf hh p k v }) :
    b.blocks[j]? = some { dirty := d, node := .leaf hh p k v } := by
  rcases h.blk j with e | ⟨d1, d2, h1, h2, p1, l1, r1, e1, _⟩
  · exact e.trans hb
  · exact absurd rfl (internal_ne_leaf e1 hb)

theorem parentOf (j : Nat) : parentOf b j = Blob.parentOf a j := by
  rcases h.blk j with e | ⟨d, d', hh, hh', p, l, r, e1, e2⟩
  · exact parentOf_congr e
  · exact (parentOf_block e2).trans (parentOf_block e1).symm

theorem range (hr : RangeP a) : RangeP b := by
  intro j x hb p hp
  rw [h.len]
  rcases h.blk j with e | ⟨d, d', hh, hh', q, l, r, e1, e2⟩
  · rw [e] at hb; exact hr j x hb p hp
  · rw [e2] at hb
    cases hb
    exact hr j _ e1 p hp

theorem entryOk {κ : Type} {proj : Hash → KeyId → κ} {e : κ × Nat} (he : EntryOk proj a e) : EntryOk proj b e := by
  obtain ⟨hf, d, hh, p, k, v, hb, hk⟩ := he
  exact ⟨by rw [h.free]; exact hf, d, hh, p, k, v, h.leaf hb, hk⟩

theorem linv (hinv : LInv a) : LInv b where
  freeLt := by rw [h.free, h.len]; exact hinv.freeLt
  freeNodup := by rw [h.free]; exact hinv.freeNodup
  parentRange := fun j _ => parentRange_of_rangeP (h.range hinv.rangeP) j
  root := rootOk_iff.mpr fun h0 => by
    rw [h.free, h.parentOf]; exact hinv.root_live (h.len ▸ h0)
  node := by
    intro j hj hjf
    rw [h.len] at hj
    rw [h.free] at hjf
    obtain ⟨c1, c2, c3⟩ := hinv.node j hj hjf
    refine ⟨okChildren_iff.mpr ?_, okParent_iff.mpr ?_, okLeaf_iff.mpr ?_⟩
    · intro d hh p l r hb
      obtain ⟨d', hh', hb'⟩ := h.symm.internal hb
      rw [h.len, h.free, h.parentOf, h.parentOf]
      exact okChildren_iff.mp c1 d' hh' p l r hb'
    · intro x hb
      obtain ⟨y, hy, hpar, hleaf⟩ : ∃ y, a.blocks[j]? = some y ∧ y.node.parent = x.node.parent
          ∧ y.node.isLeaf = x.node.isLeaf := by
        rcases h.blk j with e | ⟨d, d', hh, hh', p, l, r, e1, e2⟩
        · exact ⟨x, e ▸ hb, rfl, rfl⟩
        · rw [e2] at hb
          cases hb
          exact ⟨_, e1, rfl, rfl⟩
      obtain ⟨a1, a2⟩ := okParent_iff.mp c2 y hy
      rw [h.free, h.k2i, ← hpar, ← hleaf]
      refine ⟨fun p hp => ?_, a2⟩
      obtain ⟨hpf, dp, ph, pp, pl, pr, hpb, hc⟩ := a1 p hp
      obtain ⟨dp', ph', hpb'⟩ := h.internal hpb
      exact ⟨hpf, dp', ph', pp, pl, pr, hpb', hc⟩
    · intro d hh p k v hb
      rw [h.k2i, h.h2i]
      exact okLeaf_iff.mp c3 d hh p k v (h.symm.leaf hb)
  keys := fun e he => okKey_iff.mpr (h.entryOk (okKey_iff.mp (hinv.keys e (by rw [← h.k2i]; exact he))))
  hashes := fun e he => okHash_iff.mpr (h.entryOk (okHash_iff.mp (hinv.hashes e (by rw [← h.h2i]; exact he))))
  keysNodup := by rw [h.k2i]; exact hinv.keysNodup

end SameShape

theorem SameShape.write {a b : Blob} (h : SameShape a b) (j : Nat) (x : Block) (hj : j < a.blocks.length) :
    SameShape (a.write j x) (b.write j x) := by
  have hj' : j < b.blocks.length := by rw [h.len]; exact hj
  refine ⟨?_, ?_, ?_, ?_, ?_⟩
  · rw [write_free, write_free, h.free]
  · obtain ⟨d, n⟩ := x
    cases n <;> simp [Blob.write, h.k2i]
  · obtain ⟨d, n⟩ := x
    cases n <;> simp [Blob.write, h.h2i]
  · rw [write_len _ _ _ hj', write_len _ _ _ hj, h.len]
  · intro y
    rw [write_get _ _ _ hj', write_get _ _ _ hj]
    by_cases hy : y = j
    · rw [if_pos hy, if_pos hy]; exact Or.inl rfl
    · rw [if_neg hy, if_neg hy]; exact h.blk y

theorem sameShape_write (s : Blob) (i : Nat) (d d' : Bool) (hh hh' : Hash) (p : Option Nat) (l r : Nat)
    (hb : s.blocks[i]? = some { dirty := d, node := .internal hh p l r }) (hif : i ∉ s.free) :
    SameShape s (s.write i { dirty := d', node := .internal hh' p l r }) := by
  have hil : i < s.blocks.length := lt_of_block hb
  refine ⟨by rw [write_free, List.erase_of_not_mem hif], rfl, rfl, write_len s i _ hil, ?_⟩
  intro j
  rw [write_get s i _ hil]
  by_cases hj : j = i
  · rw [if_pos hj, hj]; exact Or.inr ⟨d, d', hh, hh', p, l, r, hb, rfl⟩
  · rw [if_neg hj]; exact Or.inl rfl

/-- `PI` ("parent internal"): the parent of a live internal block is a live internal block -/
def PI (s : Blob) : Prop :=
  ∀ i, i ∉ s.free → ∀ d h q l r, s.blocks[i]? = some { dirty := d, node := .internal h (some q) l r } →
    q ∉ s.free ∧ ∃ d' h' p' l' r', s.blocks[q]? = some { dirty := d', node := .internal h' p' l' r' }

theorem PI.sameShape {a b : Blob} (h : SameShape a b) (p : PI a) : PI b := by
  intro i hi d hh q l r hb
  rw [h.free] at hi ⊢
  obtain ⟨d0, h0, hb0⟩ := h.symm.internal hb
  obtain ⟨hq, d', h', p', l', r', hqb⟩ := p i hi d0 h0 q l r hb0
  obtain ⟨d1, h1, hqT⟩ := h.internal hqb
  exact ⟨hq, d1, h1, p', l', r', hqT⟩

theorem LInv.pi {s : Blob} (hinv : LInv s) : PI s := by
  intro i hi d hh q l r hb
  obtain ⟨hqf, dq, qh, qp, ql, qr, hqb, _⟩ := hinv.parent_of hi hb rfl
  exact ⟨hqf, dq, qh, qp, ql, qr, hqb⟩

def cleanCount (bl : List Block) : Nat := bl.countP (fun b => !b.dirty)

theorem cleanCount_le (bl : List Block) : cleanCount bl ≤ bl.length := List.countP_le_length

theorem cleanCount_set (bl : List Block) (i : Nat) (b b' : Block) (hb : bl[i]? = some b)
    (hc : b.dirty = false) (hd : b'.dirty = true) : cleanCount (bl.set i b') + 1 = cleanCount bl := by
  obtain ⟨hi, rfl⟩ := List.getElem?_eq_some_iff.mp hb
  have pos : 0 < cleanCount bl := List.countP_pos_iff.mpr ⟨_, List.getElem_mem hi, by simp [hc]⟩
  simp only [cleanCount, List.countP_set hi, hc, hd, Bool.not_false, Bool.not_true, if_true, Bool.false_eq_true,
    if_false] at pos ⊢
  omega

/-- what the walk from `i` has done to the flags when it has led from `s` to `s'` -/
structure Marked (s : Blob) (i : Nat) (s' : Blob) : Prop where
  hash : ∀ j, hashB s'.blocks j = hashB s.blocks j
  mono : ∀ j, dirtyB s.blocks j = true → dirtyB s'.blocks j = true
  start : dirtyB s'.blocks i = true
  up : ∀ j q, dirtyB s'.blocks j = true → dirtyB s.blocks j = false → parentOf s j = some q →
    dirtyB s'.blocks q = true

/-- The walk stops at the first dirty block and cleans none, so it ends before the fuel does when all
parent pointers are in range; success needs no more, and `delete` and `insert_subtree_at_key` run the walk
on states that are not consistent yet.  Started at a live internal block of a blob whose live internal
blocks have live internal parents (`PI`), it only sets dirty flags of such blocks (`SameShape`), as `Marked`
describes. -/
theorem markDirtyAux_spec (f : Nat) (i : Nat) (s : Blob) (hr : RangeP s) (hi : i < s.blocks.length)
    (hc : cleanCount s.blocks < f) :
    Ok (markDirtyAux f i) s (fun _ s' => s'.blocks.length = s.blocks.length ∧
      (PI s → i ∉ s.free → (∃ d h p l r, s.blocks[i]? = some { dirty := d, node := .internal h p l r }) →
        SameShape s s' ∧ Marked s i s')) := by
  induction f generalizing i s with
  | zero => omega
  | succ f ih =>
    unfold markDirtyAux
    obtain ⟨b, hb⟩ := exists_block hi
    refine Ok.bind_eq (getBlock_eq hb) ?_
    by_cases hd : b.dirty = true
    · rw [if_pos hd]
      have hdi : dirtyB s.blocks i = true := (dirtyB_get hb).trans hd
      exact Ok.pure ⟨rfl, fun _ _ _ => ⟨SameShape.refl s, fun _ => rfl, fun _ h => h, hdi,
        fun j _ h1 h2 _ => absurd (h2 ▸ h1) Bool.false_ne_true⟩⟩
    · rw [if_neg hd]
      -- one step: the block at `i` becomes dirty
      obtain ⟨s1, hs1⟩ : ∃ s1, s.write i { b with dirty := true } = s1 := ⟨_, rfl⟩
      have hw : writeBlock i { b with dirty := true } s = (.ok (), s1) := by
        rw [← hs1]; exact writeBlock_run_le i _ s (Nat.le_of_lt hi)
      have hlen : s1.blocks.length = s.blocks.length := by rw [← hs1]; exact write_len s i _ hi
      have hg : ∀ j, s1.blocks[j]? = if j = i then some { b with dirty := true } else s.blocks[j]? := by
        rw [← hs1]; exact write_get s i _ hi
      have hr1 : RangeP s1 := by rw [← hs1]; exact hr.write hi (fun q hq => hr i b hb q hq)
      have hss : i ∉ s.free → (∃ d h p l r, s.blocks[i]? = some { dirty := d, node := .internal h p l r }) →
          SameShape s s1 := by
        rintro hif ⟨d, h, p, l, r, hb'⟩
        rw [hb] at hb'; cases hb'
        rw [← hs1]; exact sameShape_write s i d true h h p l r hb hif
      have hH : ∀ j, hashB s1.blocks j = hashB s.blocks j := fun j => by
        by_cases hj : j = i
        · rw [hj, hashB_get ((hg i).trans (if_pos rfl)), hashB_get hb]
        · exact (dh_of_get ((hg j).trans (if_neg hj))).2
      have hD : ∀ j, j ≠ i → dirtyB s1.blocks j = dirtyB s.blocks j :=
        fun j hj => (dh_of_get ((hg j).trans (if_neg hj))).1
      have hDi : dirtyB s1.blocks i = true := dirtyB_get ((hg i).trans (if_pos rfl))
      have hP : ∀ j, parentOf s1 j = parentOf s j := fun j => by
        by_cases hj : j = i
        · rw [hj]; exact (parentOf_block ((hg i).trans (if_pos rfl))).trans (parentOf_block hb).symm
        · exact parentOf_congr ((hg j).trans (if_neg hj))
      have mono1 : ∀ j, dirtyB s.blocks j = true → dirtyB s1.blocks j = true := fun j h => by
        by_cases hj : j = i
        · rw [hj]; exact hDi
        · rw [hD j hj]; exact h
      have new1 : ∀ j, dirtyB s1.blocks j = true → dirtyB s.blocks j = false → j = i := fun j h1 h2 =>
        Classical.byContradiction fun hj => by rw [hD j hj, h2] at h1; cases h1
      refine Ok.bind_eq hw ?_
      cases hp : b.node.parent with
      | none =>
        refine Ok.pure ⟨hlen, fun _ hif hint => ⟨hss hif hint, hH, mono1, hDi, fun j q h1 h2 h3 => ?_⟩⟩
        rw [new1 j h1 h2, parentOf_block hb, hp] at h3
        cases h3
      | some p =>
        simp only
        refine (ih p s1 hr1 (by rw [hlen]; exact hr i b hb p hp) ?_).mono ?_
        · have := cleanCount_set s.blocks i b { b with dirty := true } hb (by simpa using hd) rfl
          rw [← hs1, write_blocks_lt s i _ hi]; omega
        · intro _ s' ⟨hl', hS⟩
          refine ⟨hl'.trans hlen, fun hpi hif hint => ?_⟩
          have h1 := hss hif hint
          obtain ⟨d, h, p0, l, r, hbi⟩ := hint
          rw [hb] at hbi; cases hbi
          cases hp
          obtain ⟨hpf, dp, ph, pp, pl, pr, hpb⟩ := hpi i hif d h p l r hb
          obtain ⟨dp', ph', hpb1⟩ := h1.internal hpb
          obtain ⟨h2, m2⟩ := hS (hpi.sameShape h1) (by rw [h1.free]; exact hpf) ⟨_, _, _, _, _, hpb1⟩
          refine ⟨h1.trans h2, fun j => (m2.hash j).trans (hH j), fun j hj => m2.mono j (mono1 j hj),
            m2.mono i hDi, fun j q a1 a2 a3 => ?_⟩
          by_cases hj : j = i
          · rw [hj, parentOf_block hb] at a3
            cases a3
            exact m2.start
          · exact m2.up j q a1 ((hD j hj).trans a2) ((hP j).trans a3)

theorem markLineageDirty_spec (i : Nat) (s : Blob) (hr : RangeP s) (hi : i < s.blocks.length) :
    Ok (markLineageDirty i) s (fun _ s' => s'.blocks.length = s.blocks.length ∧
      (PI s → i ∉ s.free → (∃ d h p l r, s.blocks[i]? = some { dirty := d, node := .internal h p l r }) →
        SameShape s s' ∧ Marked s i s')) :=
  markDirtyAux_spec _ i s hr hi (Nat.lt_succ_of_le (cleanCount_le s.blocks))

theorem markLineageDirty_ok (i : Nat) (s : Blob) (hr : RangeP s) (hi : i < s.blocks.length) :
    Ok (markLineageDirty i) s (fun _ _ => True) :=
  (markLineageDirty_spec i s hr hi).mono fun _ _ _ => trivial

theorem markLineageDirty_sameShape (i : Nat) (s : Blob) (hinv : LInv s) (hi : i ∉ s.free)
    (hb : ∃ d h p l r, s.blocks[i]? = some { dirty := d, node := .internal h p l r }) :
    Ok (markLineageDirty i) s (fun _ s' => SameShape s s') := by
  obtain ⟨d, h, p, l, r, hb'⟩ := hb
  exact (markLineageDirty_spec i s hinv.rangeP (lt_of_block hb')).mono
    fun _ _ hS => (hS.2 hinv.pi hi ⟨_, _, _, _, _, hb'⟩).1

/-- the form in which `fail_unchanged` (Props/C18) uses an operation: when it does not succeed it has not changed the
state -/
def KeepOrOk {α : Type} (x : M α) (s : Blob) : Prop := (x s).2 = s ∨ Ok x s (fun _ _ => True)

theorem KeepOrOk.of_ok {α : Type} {x : M α} {s : Blob} (h : Ok x s (fun _ _ => True)) : KeepOrOk x s := Or.inr h

theorem KeepOrOk.error_unchanged {α : Type} {x : M α} {s : Blob} (h : KeepOrOk x s)
    (he : errOf (x s).1 ≠ none) : (x s).2 = s := by
  rcases h with h | ⟨a, s', e, _⟩
  · exact h
  · rw [e] at he; exact absurd rfl he

theorem discard_run {α : Type} (x : M α) (s : Blob) :
    (do let _ ← x; pure () : M Unit) s = match x s with
      | (.ok _, s') => (.ok (), s')
      | (.error e, s') => (.error e, s') := by
  show (x >>= fun _ => pure ()) s = _
  rw [bind_run]
  cases x s with
  | mk r s' => cases r <;> rfl

theorem discard_snd {α : Type} (x : M α) (s : Blob) : ((do let _ ← x; pure () : M Unit) s).2 = (x s).2 := by
  rw [discard_run]
  cases x s with
  | mk r s' => cases r <;> rfl

/-- the form in which `insert` and `upsert` are analysed: a check fails before anything is written, or the operation
succeeds in a state with `Q`.  It gives `KeepOrOk`, and what holds of the start state and of `Q` holds afterwards
whatever was returned (`FailOr.snd`: preservation of `LInv`). -/
def FailOr {α : Type} (x : M α) (s : Blob) (Q : α → Blob → Prop) : Prop :=
  (∃ e, x s = (.error e, s)) ∨ Ok x s Q

theorem FailOr.keepOrOk {α : Type} {x : M α} {s : Blob} {Q : α → Blob → Prop} (h : FailOr x s Q) :
    KeepOrOk x s := by
  rcases h with ⟨e, he⟩ | h
  · exact Or.inl (by rw [he])
  · exact Or.inr (h.mono fun _ _ _ => trivial)

theorem FailOr.of_eq {α : Type} {x y : M α} {s : Blob} {Q : α → Blob → Prop} (e : x s = y s)
    (h : FailOr y s Q) : FailOr x s Q := by
  unfold FailOr Ok at *
  rw [e]; exact h

theorem FailOr.discard {α : Type} {x : M α} {s : Blob} {Q : α → Blob → Prop} {R : Unit → Blob → Prop}
    (h : FailOr x s Q) (hqr : ∀ a s', Q a s' → R () s') : FailOr (do let _ ← x; pure ()) s R := by
  rcases h with ⟨e, he⟩ | ⟨a, s', he, q⟩
  · exact Or.inl ⟨e, by show (x >>= fun _ => pure ()) s = _; rw [bind_run, he]⟩
  · exact Or.inr ⟨(), s', by show (x >>= fun _ => pure ()) s = _; rw [bind_run, he]; rfl, hqr a s' q⟩

theorem FailOr.snd {α : Type} {x : M α} {s : Blob} {Q : α → Blob → Prop} {P : Blob → Prop}
    (h : FailOr x s Q) (hs : P s) (hq : ∀ a s', Q a s' → P s') : P (x s).2 := by
  rcases h with ⟨e, he⟩ | ⟨a, s', he, q⟩
  · rw [he]; exact hs
  · rw [he]; exact hq a s' q

end ChiaModel.Blob
