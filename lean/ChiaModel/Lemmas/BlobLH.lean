import ChiaModel.Lemmas.BlobRep
/-
C18, representation: the hash invariant on the blocks of a stored tree.
`LH bl hole t`: every clean node of `t` other than `hole` has clean children and stores the hash of their
stored hashes.  An operation that changes a child of node `i` leaves `LH bl (some i) t`; the dirty-marking
walk from `i` restores `LH bl none t` (`Good.markLineageDirty`).
-/
namespace ChiaModel.Blob
open List M

variable {bl bl' : List Block} {t : IT}

/-- `LH` ("local hashes"): the hash invariant of the stored tree, node by node; the clause of the node
`hole` is not required -/
def LH (bl : List Block) (hole : Option Nat) : IT → Prop
  | .leaf _ _ _ _ => True
  | .node i l r => LH bl hole l ∧ LH bl hole r ∧
      (some i ≠ hole → dirtyB bl i = false →
        dirtyB bl l.idx = false ∧ dirtyB bl r.idx = false
          ∧ hashB bl i = internalHash (hashB bl l.idx) (hashB bl r.idx))

theorem LH.weaken (hole : Option Nat) (h : LH bl none t) : LH bl hole t := by
  induction t with
  | leaf i k v hh => trivial
  | node i l r ihl ihr =>
    obtain ⟨a, b, c⟩ := h
    exact ⟨ihl a, ihr b, fun _ hd => c (by simp) hd⟩

theorem LH.congr {hole : Option Nat}
    (hag : ∀ j ∈ t.indices, dirtyB bl' j = dirtyB bl j ∧ hashB bl' j = hashB bl j) (h : LH bl hole t) :
    LH bl' hole t := by
  induction t with
  | leaf i k v hh => trivial
  | node i l r ihl ihr =>
    obtain ⟨a, b, c⟩ := h
    have hi := hag i (by simp [IT.indices])
    have hl := hag l.idx (by simp [IT.indices, l.idx_mem])
    have hr := hag r.idx (by simp [IT.indices, r.idx_mem])
    refine ⟨ihl (fun j hj => hag j (by simp [IT.indices, hj])) a,
      ihr (fun j hj => hag j (by simp [IT.indices, hj])) b, ?_⟩
    intro hne hd
    rw [hi.1] at hd
    rw [hl.1, hr.1, hi.2, hl.2, hr.2]
    exact c hne hd

def LHo (bl : List Block) : Option IT → Prop
  | none => True
  | some t => LH bl none t

/-- The flags the walk from `i` has set close the hole at `i`: a node that is clean afterwards was clean before
and is not `i`, so its clause held before; none of its children has become dirty, since the parent of a newly
dirty block is dirty. -/
theorem LH.marked {s s' : Blob} {i : Nat} {p : Option Nat} (hm : Marked s i s') (hr : Rep s.blocks p t) :
    LH s.blocks (some i) t → LH s'.blocks none t := by
  induction t generalizing p with
  | leaf j k v h => intro _; trivial
  | node j a b iha ihb =>
    intro hl
    obtain ⟨_, ra, rb⟩ := hr
    obtain ⟨la, lb, c⟩ := hl
    refine ⟨iha ra la, ihb rb lb, fun _ hdj => ?_⟩
    have clean : ∀ x, dirtyB s'.blocks x = false → dirtyB s.blocks x = false := fun x hx =>
      Bool.eq_false_iff.mpr fun h => absurd (hm.mono x h) (Bool.eq_false_iff.mp hx)
    have hji : j ≠ i := fun e => absurd (e ▸ hm.start) (Bool.eq_false_iff.mp hdj)
    obtain ⟨ca, cb, ch⟩ := c (fun e => hji (Option.some.inj e)) (clean j hdj)
    have kid : ∀ {x : IT}, Rep s.blocks (some j) x → dirtyB s.blocks x.idx = false → dirtyB s'.blocks x.idx = false :=
      fun rx hxc => Bool.eq_false_iff.mpr fun h =>
        absurd (hm.up _ j h hxc ((parentOf_eq s _).trans rx.root_parent)) (Bool.eq_false_iff.mp hdj)
    rw [hm.hash, hm.hash, hm.hash]
    exact ⟨kid ra ca, kid rb cb, ch⟩

/-- `insert_subtree_at_key` runs the walk before its last write, which puts a clean block `B` over the clean leaf
block `j`.  The walk neither starts at `j` nor passes through it (a block it passes through ends dirty, and `j` is
as before), so what it has done reads the same with that write made first. -/
theorem Marked.write {s s' : Blob} {i j : Nat} (hm : Marked s i s') (hss : SameShape s s') {h : Hash} {p : Option Nat}
    {k : KeyId} {v : ValueId} (hj : s.blocks[j]? = some { dirty := false, node := .leaf h p k v }) (hij : i ≠ j)
    {B : Block} (hB : B.dirty = false) : Marked (s.write j B) i (s'.write j B) := by
  have w : ∀ a : Blob, a.blocks.length = s.blocks.length → (a.write j B).blocks[j]? = some B ∧ ∀ x, x ≠ j →
      (a.write j B).blocks[x]? = a.blocks[x]? := fun a ha =>
    have e := write_get a j B (ha ▸ lt_of_block hj)
    ⟨(e j).trans (if_pos rfl), fun x hx => (e x).trans (if_neg hx)⟩
  obtain ⟨ej, eo⟩ := w s rfl
  obtain ⟨ej', eo'⟩ := w s' hss.len
  have cj : dirtyB s'.blocks j = false := dirtyB_get (hss.leaf hj)
  refine ⟨fun x => ?_, fun x hx => ?_, ?_, fun x q h1 h2 h3 => ?_⟩
  · by_cases hxj : x = j
    · rw [hxj, hashB_get ej', hashB_get ej]
    · rw [(dh_of_get (eo' x hxj)).2, (dh_of_get (eo x hxj)).2]; exact hm.hash x
  · have hxj : x ≠ j := fun e => by rw [e, dirtyB_get ej, hB] at hx; cases hx
    rw [(dh_of_get (eo' x hxj)).1]; exact hm.mono x ((dh_of_get (eo x hxj)).1 ▸ hx)
  · rw [(dh_of_get (eo' i hij)).1]; exact hm.start
  · have hxj : x ≠ j := fun e => by rw [e, dirtyB_get ej', hB] at h1; cases h1
    rw [(dh_of_get (eo' x hxj)).1] at h1
    rw [(dh_of_get (eo x hxj)).1] at h2
    rw [parentOf_congr (eo x hxj)] at h3
    have hq := hm.up x q h1 h2 h3
    have hqj : q ≠ j := fun e => by rw [e, cj] at hq; cases hq
    rw [(dh_of_get (eo' q hqj)).1]; exact hq

theorem markLineageDirty_shape (i : Nat) (s : Blob) (hp : PI s) (hr : RangeP s) (hi : i ∉ s.free)
    (hb : ∃ d h p l r, s.blocks[i]? = some { dirty := d, node := .internal h p l r }) :
    ∃ s', markLineageDirty i s = (.ok (), s') ∧ SameShape s s' ∧ Marked s i s' := by
  obtain ⟨d, h, p, l, r, hb'⟩ := hb
  obtain ⟨_, s', e, _, hs⟩ := markLineageDirty_spec i s hr (lt_of_block hb')
  exact ⟨s', e, hs hp hi ⟨_, _, _, _, _, hb'⟩⟩

theorem Good.markLineageDirty {s : Blob} (g : Good s t) {i : Nat} (hi : i ∉ s.free)
    (hb : ∃ d h p l r, s.blocks[i]? = some { dirty := d, node := .internal h p l r }) :
    ∃ S, markLineageDirty i s = (.ok (), S) ∧ Good S t ∧ (LH s.blocks (some i) t → LH S.blocks none t) := by
  obtain ⟨S, e, hss, hm⟩ := markLineageDirty_shape i s g.linv.pi g.range hi hb
  exact ⟨S, e, g.sameShape hss, LH.marked hm g.rep⟩

end ChiaModel.Blob
