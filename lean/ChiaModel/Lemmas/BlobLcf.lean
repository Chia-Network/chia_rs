import ChiaModel.Lemmas.BlobRep
/-
C18, iterators on a stored tree: `LeftChildFirstIterator`, for any block predicate
(`calculate_lazy_hashes` filters on the dirty flag, `MerkleBlob::new` does not filter).  Central: `lcf_good` — over
the blocks of a stored tree the iteration ends without error and yields `IT.lcfOut`: children first, descending only
below nodes that satisfy the predicate.  It is `lcfAux_sub`, the statement for one subtree on top of the stack, at
the root.
-/
namespace ChiaModel.Blob
open List M

/-- the iterator's check of a parent pointer: the root has none, the parent of any other node is among the
internal nodes entered so far (`q`, which only grows) -/
def ParOk (q : List Nat) (i : Nat) : Option Nat → Prop
  | none => i = 0
  | some p => i ≠ 0 ∧ p ∈ q

theorem ParOk.append {q : List Nat} {i : Nat} {p : Option Nat} (a : List Nat) (h : ParOk q i p) : ParOk (a ++ q) i p := by
  cases p with
  | none => exact h
  | some p => exact ⟨h.1, List.mem_append_right _ h.2⟩

section step
variable {bl : List Block} {pred : Block → Bool} {f : Nat} {i : Nat} {st : List (Bool × Nat)}
  {q : List Nat} {acc : List (Nat × Block)}

theorem lcfAux_skip {v : Bool} {b : Block} (hb : bl[i]? = some b) (hp : pred b = false) :
    lcfAux bl pred (f + 1) ((v, i) :: st) q acc = lcfAux bl pred f st q acc := by
  simp only [lcfAux, hb, hp, Bool.not_false, if_true]

/-- one step at a block that satisfies `pred` and passes the parent check: the case table of the iterator -/
theorem lcfAux_step {v : Bool} {b : Block} (hb : bl[i]? = some b) (hp : pred b = true)
    (hpar : ParOk q i b.node.parent) :
    lcfAux bl pred (f + 1) ((v, i) :: st) q acc =
      match b.node with
      | .leaf _ _ _ _ => if b.dirty then (acc.reverse, false) else lcfAux bl pred f st q ((i, b) :: acc)
      | .internal _ _ l r =>
        if v then lcfAux bl pred f st q ((i, b) :: acc)
        else if l = r || q.contains l || q.contains r then (acc.reverse, false)
        else if q.contains i then (acc.reverse, false)
        else lcfAux bl pred f ((false, l) :: (false, r) :: (true, i) :: st) (i :: q) acc := by
  obtain ⟨d, n⟩ := b
  -- the parent check passes by `hpar`, whichever the node is; the rest is the definition
  cases n <;> rename_i p _ _ <;> cases p with
  | none =>
    cases (show i = 0 from hpar)
    simp only [lcfAux, hb, hp, Node.parent, Bool.not_true, Bool.false_eq_true, if_false, decide_true]
  | some p' =>
    simp only [lcfAux, hb, hp, Node.parent, Bool.not_true, Bool.false_eq_true, if_false, if_neg hpar.1,
      List.contains_iff_mem.mpr hpar.2]

theorem lcfAux_leaf {v : Bool} {h : Hash} {p : Option Nat} {k : KeyId} {w : ValueId}
    (hb : bl[i]? = some { dirty := false, node := .leaf h p k w })
    (hp : pred { dirty := false, node := .leaf h p k w } = true) (hpar : ParOk q i p) :
    lcfAux bl pred (f + 1) ((v, i) :: st) q acc
      = lcfAux bl pred f st q ((i, { dirty := false, node := .leaf h p k w }) :: acc) := by
  rw [lcfAux_step hb hp hpar]; rfl

theorem lcfAux_visited {d : Bool} {hh : Hash} {p : Option Nat} {l r : Nat}
    (hb : bl[i]? = some { dirty := d, node := .internal hh p l r })
    (hp : pred { dirty := d, node := .internal hh p l r } = true) (hpar : ParOk q i p) :
    lcfAux bl pred (f + 1) ((true, i) :: st) q acc
      = lcfAux bl pred f st q ((i, { dirty := d, node := .internal hh p l r }) :: acc) := by
  rw [lcfAux_step hb hp hpar]; rfl

theorem lcfAux_push {d : Bool} {hh : Hash} {p : Option Nat} {l r : Nat}
    (hb : bl[i]? = some { dirty := d, node := .internal hh p l r })
    (hp : pred { dirty := d, node := .internal hh p l r } = true) (hpar : ParOk q i p)
    (hlr : l ≠ r) (hl : l ∉ q) (hr : r ∉ q) (hi : i ∉ q) :
    lcfAux bl pred (f + 1) ((false, i) :: st) q acc
      = lcfAux bl pred f ((false, l) :: (false, r) :: (true, i) :: st) (i :: q) acc := by
  rw [lcfAux_step hb hp hpar]
  simp [hlr, hl, hr, hi]

end step

def IT.lcfOut (pred : Block → Bool) (bl : List Block) : IT → List (Nat × Block)
  | .leaf i _ _ _ => if pred (blockAt bl i) then [(i, blockAt bl i)] else []
  | .node i l r =>
    if pred (blockAt bl i) then IT.lcfOut pred bl l ++ IT.lcfOut pred bl r ++ [(i, blockAt bl i)] else []

/-- the internal nodes the iteration enters below a node, latest first -/
def IT.lcfSeen (pred : Block → Bool) (bl : List Block) : IT → List Nat
  | .leaf _ _ _ _ => []
  | .node i l r => if pred (blockAt bl i) then IT.lcfSeen pred bl r ++ IT.lcfSeen pred bl l ++ [i] else []

/-- the pops it takes: one for a leaf or a skipped node, two for an entered node -/
def IT.lcfCost (pred : Block → Bool) (bl : List Block) : IT → Nat
  | .leaf _ _ _ _ => 1
  | .node i l r => if pred (blockAt bl i) then IT.lcfCost pred bl l + IT.lcfCost pred bl r + 2 else 1

theorem IT.lcfSeen_subset (pred : Block → Bool) (bl : List Block) (t : IT) : ∀ j ∈ t.lcfSeen pred bl, j ∈ t.indices := by
  induction t with
  | leaf i k v h => exact fun _ h => absurd h List.not_mem_nil
  | node i l r ihl ihr =>
    intro j hj
    simp only [IT.lcfSeen] at hj
    split at hj
    · simp only [List.mem_append, List.mem_singleton] at hj
      simp only [IT.indices, List.mem_cons, List.mem_append]
      rcases hj with (hj | hj) | hj
      · exact Or.inr (Or.inr (ihr j hj))
      · exact Or.inr (Or.inl (ihl j hj))
      · exact Or.inl hj
    · exact absurd hj List.not_mem_nil

theorem IT.lcfCost_le (pred : Block → Bool) (bl : List Block) (t : IT) : t.lcfCost pred bl ≤ 2 * t.indices.length := by
  induction t with
  | leaf i k v h => exact Nat.le_succ 1
  | node i l r ihl ihr =>
    simp only [IT.lcfCost, IT.indices, List.length_cons, List.length_append]
    split <;> omega

/-- a stored subtree on top of the stack, none of its nodes visited: the iterator spends `lcfCost` pops on it, yields
`lcfOut`, adds `lcfSeen` to the visited list and goes on with the rest of the stack, whatever that is.  A stack
loop is compositional in this way, so the induction is on the tree and no invariant about the whole stack is
needed: a leaf and a node that does not satisfy `pred` are popped once; a node that does is replaced by its two
children and itself marked visited, the children are two instances of the statement, and the node is popped again. -/
theorem lcfAux_sub (pred : Block → Bool) (bl : List Block) (c : IT) :
    ∀ (p : Option Nat) (f : Nat) (st : List (Bool × Nat)) (q : List Nat) (acc : List (Nat × Block)),
    Rep bl p c → c.indices.Nodup → (∀ j ∈ c.indices, j ∉ q) → ParOk q c.idx p → (0 ∈ c.indices → c.idx = 0) →
    lcfAux bl pred (c.lcfCost pred bl + f) ((false, c.idx) :: st) q acc
      = lcfAux bl pred f st (c.lcfSeen pred bl ++ q) ((c.lcfOut pred bl).reverse ++ acc) := by
  induction c with
  | leaf i k v h =>
    intro p f st q acc hrep _ _ hpar _
    simp only [Rep] at hrep
    rw [IT.lcfCost, Nat.add_comm, IT.idx_leaf]
    cases hp : pred { dirty := false, node := .leaf h p k v } with
    | false => rw [lcfAux_skip hrep hp]; simp [IT.lcfSeen, IT.lcfOut, blockAt_of_get hrep, hp]
    | true => rw [lcfAux_leaf hrep hp hpar]; simp [IT.lcfSeen, IT.lcfOut, blockAt_of_get hrep, hp]
  | node i l r ihl ihr =>
    intro p f st q acc hrep hn hq hpar hz
    obtain ⟨⟨d, hh, hb⟩, hl, hr⟩ := hrep
    have hbA := blockAt_of_get hb
    rw [IT.idx_node]
    cases hp : pred { dirty := d, node := .internal hh p l.idx r.idx } with
    | false =>
      rw [show (IT.node i l r).lcfCost pred bl = 1 by simp [IT.lcfCost, hbA, hp], Nat.add_comm, lcfAux_skip hb hp]
      simp [IT.lcfSeen, IT.lcfOut, hbA, hp]
    | true =>
      simp only [IT.indices, List.nodup_cons, List.mem_append, not_or] at hn
      obtain ⟨⟨hil, hir⟩, hlr⟩ := hn
      obtain ⟨hnl, hnr, hdis⟩ := nodup_append_disj hlr
      have hq' : ∀ j, j ∈ l.indices ∨ j ∈ r.indices → j ∉ q := fun j hj =>
        hq j (List.mem_cons_of_mem _ (List.mem_append.mpr hj))
      -- index 0 can only be the root `i`, so it is not below `i`
      have h0 : ∀ j, j ∈ l.indices ∨ j ∈ r.indices → j ≠ 0 := fun j hj e => by
        have : i = 0 := hz (List.mem_cons_of_mem _ (List.mem_append.mpr (e ▸ hj)))
        exact hj.elim (fun a => hil (this ▸ e ▸ a)) (fun a => hir (this ▸ e ▸ a))
      rw [show (IT.node i l r).lcfCost pred bl + f
          = (l.lcfCost pred bl + (r.lcfCost pred bl + (f + 1))) + 1 by simp only [IT.lcfCost, hbA, hp, if_true]; omega,
        lcfAux_push hb hp hpar (fun e => hdis _ l.idx_mem (e ▸ r.idx_mem)) (hq' _ (Or.inl l.idx_mem))
          (hq' _ (Or.inr r.idx_mem)) (hq i List.mem_cons_self),
        ihl (some i) _ _ _ _ hl hnl ?_ ⟨h0 _ (Or.inl l.idx_mem), List.mem_cons_self⟩
          (fun hm => absurd rfl (h0 0 (Or.inl hm))),
        ihr (some i) _ _ _ _ hr hnr ?_ ⟨h0 _ (Or.inr r.idx_mem), List.mem_append_right _ List.mem_cons_self⟩
          (fun hm => absurd rfl (h0 0 (Or.inr hm))),
        lcfAux_visited hb hp (((show ParOk (i :: q) i p from hpar.append [i]).append _).append _)]
      · simp [IT.lcfSeen, IT.lcfOut, hbA, hp]
      · intro j hj hm
        rcases List.mem_append.mp hm with a | a
        · exact hdis j (IT.lcfSeen_subset pred bl l j a) hj
        · rcases List.mem_cons.mp a with a | a
          · exact hir (a ▸ hj)
          · exact hq' j (Or.inr hj) a
      · intro j hj hm
        rcases List.mem_cons.mp hm with a | a
        · exact hil (a ▸ hj)
        · exact hq' j (Or.inl hj) a

theorem lcf_good (pred : Block → Bool) {s : Blob} {t : IT} (g : Good s t) :
    lcf s.blocks pred = (t.lcfOut pred s.blocks, true) := by
  have hc := t.lcfCost_le pred s.blocks
  have hlen := g.indices_le
  obtain ⟨f, hf⟩ : ∃ f, 4 * s.blocks.length + 4 = t.lcfCost pred s.blocks + (f + 1) :=
    ⟨4 * s.blocks.length + 4 - t.lcfCost pred s.blocks - 1, by omega⟩
  have := lcfAux_sub pred s.blocks t none (f + 1) [] [] [] g.rep g.nodup (fun _ _ => List.not_mem_nil) g.root (fun _ => g.root)
  unfold lcf
  rw [g.blocks_ne, if_neg Bool.false_ne_true, hf, ← g.root, this]
  simp [lcfAux]

end ChiaModel.Blob
