import ChiaModel.Lemmas.BlobHashes
/-
C18, `get_proof_of_inclusion` on a stored tree.  Central: `proof_commutes` — when all nodes are clean
the walk up the parent pointers returns `HT.proofOf` of the abstraction.
-/
namespace ChiaModel.Blob
open List M

theorem lineage_mono {bl : List Block} {f : Nat} {p : Option Nat} {lin : List (Nat × Block)}
    (h : lineage bl f p = .ok lin) {g : Nat} (hfg : f ≤ g) : lineage bl g p = .ok lin := by
  fun_induction lineage bl f p generalizing g lin with
  | case1 => simpa only [lineage] using h  -- no parent: the empty lineage at any fuel
  | case5 f pi pb hb rest hr ih =>  -- the block is there and the walk from its parent succeeds
    obtain ⟨g, rfl⟩ : ∃ g', g = g' + 1 := ⟨g - 1, by omega⟩
    cases h
    simp only [lineage, hb, ih hr (Nat.le_of_succ_le_succ hfg)]
  | _ => cases h  -- the failing arms: fuel spent, no block, the rest fails

theorem HT.proofOf_none_of_not_mem (k : KeyId) (t : HT) (h : k ∉ t.erase.keys) : t.proofOf k = none := by
  induction t with
  | leaf k' v hh =>
    simp only [HT.erase, T.keys, List.mem_singleton] at h
    simp only [HT.proofOf]
    rw [if_neg (fun e => h e.symm)]
  | node hh d l r ihl ihr =>
    simp only [HT.erase, T.keys, List.mem_append, not_or] at h
    simp only [HT.proofOf, ihl h.1, ihr h.2]

/-- the walk from a leaf of the stored subtree `c` up to the root of `c`, then on along `lin`: given the
lineage `lin` of the root of `c` (fuel `f`) and the layers `rest` read along it, the leaf has a lineage within
fuel `c.depth + f` whose layers are those of `HT.proofOf` followed by `rest`.  By induction on `c` from its root
down to the leaf: at a node the child's lineage is the node's block followed by `lin` (`hlin1`, one more unit of
fuel) and its layers start with the sibling's hash (`hpl1`), so the accumulators grow on the way down while
`HT.proofOf` builds the same layers on the way up. -/
theorem lineage_sub {bl : List Block} (c : IT) :
    ∀ (pp : Option Nat), Rep bl pp c → c.indices.Nodup → (c.leaves.map (·.2.1)).Nodup →
    (c.toHT bl).allClean = true →
    ∀ (idx : Nat) (k : KeyId) (v : ValueId) (h : Hash), (idx, k, v, h) ∈ c.leaves →
    ∀ (f : Nat) (lin : List (Nat × Block)) (rest : List (Side × Hash × Hash)),
    lineage bl f pp = .ok lin → proofLayers bl c.idx lin = .ok rest →
    ∃ p lin', (c.toHT bl).proofOf k = some p ∧ p.nodeHash = h
      ∧ lineage bl (c.depth + f) (parentOfL bl idx) = .ok lin' ∧ proofLayers bl idx lin' = .ok (p.layers ++ rest) := by
  induction c with
  | leaf i k' v' h' =>
    intro pp hrep _ _ _ idx k v h hm f lin rest hlin hpl
    simp only [IT.leaves, List.mem_singleton, Prod.mk.injEq] at hm
    obtain ⟨e1, e2, e3, e4⟩ := hm
    subst e1; subst e2; subst e3; subst e4
    simp only [Rep] at hrep
    have : parentOfL bl idx = pp := by simp [parentOfL, hrep, Node.parent]
    rw [this]
    exact ⟨{ nodeHash := h, layers := [] }, lin, by simp [IT.toHT, HT.proofOf], rfl,
      by rw [IT.depth, Nat.zero_add]; exact hlin, hpl⟩
  | node i l r ihl ihr =>
    intro pp hrep hn hkn hclean idx k v h hm f lin rest hlin hpl
    simp only [Rep] at hrep
    obtain ⟨⟨d, hh, hb⟩, hl, hr⟩ := hrep
    simp only [IT.indices, List.nodup_cons] at hn
    obtain ⟨hnl, hnr, hdis⟩ := nodup_append_disj hn.2
    simp only [IT.leaves, List.map_append] at hkn
    obtain ⟨hkl, hkr, hkd⟩ := nodup_append_disj hkn
    have hbA := blockAt_of_get hb
    simp only [IT.toHT, hbA, HT.allClean, Bool.and_eq_true, Bool.not_eq_true'] at hclean
    obtain ⟨⟨hd, hcl⟩, hcr⟩ := hclean
    subst hd
    have hlr : l.idx ≠ r.idx := fun e => hdis _ l.idx_mem (e ▸ r.idx_mem)
    obtain ⟨bL, hbL, _, _⟩ := hl.root_block
    obtain ⟨bR, hbR, _, _⟩ := hr.root_block
    have hlin1 : lineage bl (f + 1) (some i)
        = .ok ((i, { dirty := false, node := .internal hh pp l.idx r.idx }) :: lin) := by
      simp only [lineage, hb, Node.parent, hlin]
    simp only [IT.leaves, List.mem_append] at hm
    simp only [IT.depth, IT.idx_node] at hpl ⊢
    rcases hm with hm | hm
    · -- the leaf is in the left subtree
      have hpl1 : proofLayers bl l.idx ((i, { dirty := false, node := .internal hh pp l.idx r.idx }) :: lin)
          = .ok ((Side.right, bR.node.hash, hh) :: rest) := by
        have c1 : ¬ (l.idx ≠ r.idx ∧ l.idx ≠ l.idx) := fun hc => hc.2 rfl
        simp only [proofLayers, Bool.false_eq_true, if_false, if_neg c1, if_neg hlr, hbR, hpl, if_true]
      obtain ⟨p, lin', hp, hnh, hlin', hpl'⟩ := ihl (some i) hl hnl hkl hcl idx k v h hm (f + 1) _ _ hlin1 hpl1
      refine ⟨{ p with layers := p.layers ++ [(.right, (r.toHT bl).hash, hh)] }, lin', ?_, hnh, ?_, ?_⟩
      · simp only [IT.toHT, hbA, HT.proofOf, hp, Node.internal_hash]
      · rw [Nat.add_right_comm]
        exact lineage_mono hlin' (Nat.succ_le_succ (Nat.add_le_add_right (Nat.le_max_left _ _) f))
      · rw [hpl', hr.toHT_hash, blockAt_of_get hbR, List.append_assoc, List.singleton_append]
    · -- the leaf is in the right subtree
      have hkl' : k ∉ (l.toHT bl).erase.keys := by
        rw [IT.toHT_erase, IT.erase_keys]
        intro hmem
        exact hkd k hmem (List.mem_map.mpr ⟨_, hm, rfl⟩)
      have hpl1 : proofLayers bl r.idx ((i, { dirty := false, node := .internal hh pp l.idx r.idx }) :: lin)
          = .ok ((Side.left, bL.node.hash, hh) :: rest) := by
        have c1 : ¬ (r.idx ≠ r.idx ∧ r.idx ≠ l.idx) := fun hc => hc.1 rfl
        simp only [proofLayers, Bool.false_eq_true, if_false, if_neg c1, if_true, hbL, if_neg hlr, hpl]
      obtain ⟨p, lin', hp, hnh, hlin', hpl'⟩ := ihr (some i) hr hnr hkr hcr idx k v h hm (f + 1) _ _ hlin1 hpl1
      refine ⟨{ p with layers := p.layers ++ [(.left, (l.toHT bl).hash, hh)] }, lin', ?_, hnh, ?_, ?_⟩
      · simp only [IT.toHT, hbA, HT.proofOf, HT.proofOf_none_of_not_mem k _ hkl', hp, Node.internal_hash]
      · rw [Nat.add_right_comm]
        exact lineage_mono hlin' (Nat.succ_le_succ (Nat.add_le_add_right (Nat.le_max_right _ _) f))
      · rw [hpl', hl.toHT_hash, blockAt_of_get hbL, List.append_assoc, List.singleton_append]

theorem proof_commutes {s : Blob} {t : IT} (g : Good s t) (hclean : (t.toHT s.blocks).allClean = true)
    (k : KeyId) (hk : k ∈ t.erase.keys) :
    ∃ p, proofOfInclusion s k = .ok p ∧ (t.toHT s.blocks).proofOf k = some p := by
  rw [IT.erase_keys] at hk
  obtain ⟨e, he, hek⟩ := List.mem_map.mp hk
  obtain ⟨idx, k', v, h⟩ := e
  simp only at hek
  subst hek
  have hget := g.mapGet_k2i he
  simp only at hget
  obtain ⟨q, hb⟩ := g.rep.leaf_block he
  simp only at hb
  obtain ⟨p, lin, hp, hnh, hlin, hpl⟩ := lineage_sub t none g.rep g.nodup g.keys hclean idx k' v h he
    0 [] [] (by simp only [lineage]) (by simp only [proofLayers])
  have hq : parentOfL s.blocks idx = q := by simp [parentOfL, hb, Node.parent]
  rw [hq] at hlin
  have hlin := lineage_mono hlin (Nat.le_succ_of_le (Nat.le_of_lt g.depth_lt))
  rw [List.append_nil] at hpl
  refine ⟨p, ?_, hp⟩
  unfold proofOfInclusion
  simp only [hget, hb, hlin, hpl]
  cases p with
  | mk nh ls =>
    simp only at hnh
    rw [hnh]

end ChiaModel.Blob
