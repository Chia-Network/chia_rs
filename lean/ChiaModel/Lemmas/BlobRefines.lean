import ChiaModel.Lemmas.BlobLH
/-
C18, per-operation refinement: the statement.
-/
namespace ChiaModel.Blob
open List M

variable {s : Blob}

/-- one operation on a blob with structural invariant `t`: the invariant holds afterwards for some
tree whose erasure is what the L1 operation yields, and both succeed or both fail -/
def Refines (op : Op) (s : Blob) (t : Option IT) : Prop :=
  ∃ t', SInv (step op s).2 t' ∧ t'.map IT.erase = (Tree.step op (t.map IT.erase)).2
    ∧ (errOf (step op s).1 = none ↔ (Tree.step op (t.map IT.erase)).1 = true)
    ∧ (LHo s.blocks t → LHo (step op s).2.blocks t')

theorem Refines.of_fail {op : Op} {t : Option IT} (hs : SInv s t) {e : Err} (h2 : step op s = (.error e, s))
    (h1 : Tree.step op (t.map IT.erase) = (false, t.map IT.erase)) : Refines op s t :=
  ⟨t, by rw [h2]; exact hs, by rw [h1], by rw [h2, h1]; simp [errOf], by rw [h2]; exact id⟩

theorem Refines.of_ok {op : Op} {s S : Blob} {t t' : Option IT} (h2 : step op s = (.ok (), S)) (hS : SInv S t')
    (h1 : Tree.step op (t.map IT.erase) = (true, t'.map IT.erase)) (hl : LHo s.blocks t → LHo S.blocks t') :
    Refines op s t :=
  ⟨t', by rw [h2]; exact hS, by rw [h1], by rw [h2, h1]; simp [errOf], by rw [h2]; exact hl⟩

end ChiaModel.Blob
