import ChiaModel.Lemmas.BlobL2
import ChiaModel.Lemmas.Blob
/-
C18, representation of an L1 tree in the block array.  `Rep bl p t`: the index-annotated tree `t` is stored in the
block list `bl` below a node whose parent pointer is `p`; `Good s t` adds the cache and free-list facts; `SInv s t` is
the structural invariant (`Good`, or the empty blob), and `abs s` is its tree with the indexes erased.
`Good.linv : Good s t → LInv s` ties it to the local invariant: a fact that needs only local consistency is proved
under `LInv`, a fact about the stored tree under `Good`.
-/
namespace ChiaModel.Blob
open List M

def parentOfL (bl : List Block) (j : Nat) : Option Nat :=
  match bl[j]? with
  | some b => b.node.parent
  | none => none

theorem parentOf_eq (s : Blob) (j : Nat) : parentOf s j = parentOfL s.blocks j := rfl

/-- the children of an internal node when `new` goes on `side` of `old` -/
def sideL (side : Side) (new old : Nat) : Nat := match side with | .left => new | .right => old
def sideR (side : Side) (new old : Nat) : Nat := match side with | .left => old | .right => new

theorem IT.idx_node (i : Nat) (l r : IT) : (IT.node i l r).idx = i := rfl
theorem IT.idx_leaf (i : Nat) (k : KeyId) (v : ValueId) (h : Hash) : (IT.leaf i k v h).idx = i := rfl

namespace IT

theorem indices_pos (t : IT) : 0 < t.indices.length := by cases t <;> simp [indices]

theorem idx_mem (t : IT) : t.idx ∈ t.indices := by cases t <;> simp [idx, indices]

theorem erase_entries (t : IT) : t.erase.entries = t.leaves.map (·.2) := by
  induction t with
  | leaf i k v h => rfl
  | node i l r ihl ihr => simp [erase, T.entries, leaves, ihl, ihr]

theorem leaf_idx_mem (t : IT) (e : Nat × KVH) (he : e ∈ t.leaves) : e.1 ∈ t.indices := by
  induction t with
  | leaf i k v h => simp only [leaves, List.mem_singleton] at he; subst he; simp [indices]
  | node i l r ihl ihr =>
    simp only [leaves, List.mem_append] at he
    simp only [indices, List.mem_cons, List.mem_append]
    rcases he with he | he
    · exact Or.inr (Or.inl (ihl he))
    · exact Or.inr (Or.inr (ihr he))

theorem leaves_idx_sublist (t : IT) : (t.leaves.map (·.1)).Sublist t.indices := by
  induction t with
  | leaf i k v h => simp [leaves, indices]
  | node i l r ihl ihr =>
    simp only [leaves, indices, List.map_append]
    exact List.Sublist.cons _ (List.Sublist.append ihl ihr)

theorem depth_lt_indices (t : IT) : t.depth < t.indices.length := by
  induction t with
  | leaf i k v h => simp [depth, indices]
  | node i l r ihl ihr =>
    simp only [depth, indices, List.length_cons, List.length_append]
    omega

theorem leaves_pos (t : IT) : 0 < t.leaves.length := by
  induction t with
  | leaf i k v hh => simp [leaves]
  | node i l r ihl ihr => simp only [leaves, List.length_append]; omega

theorem leaves_length_one (t : IT) (h : t.leaves.length = 1) : ∃ i k v hh, t = .leaf i k v hh := by
  cases t with
  | leaf i k v hh => exact ⟨i, k, v, hh, rfl⟩
  | node i l r =>
    have hl := l.leaves_pos
    have hr := r.leaves_pos
    simp only [leaves, List.length_append] at h
    omega

theorem erase_size (t : IT) : t.erase.size = t.indices.length := by
  induction t with
  | leaf i k v h => rfl
  | node i l r ihl ihr => simp only [erase, T.size, indices, List.length_cons, List.length_append, ihl, ihr]

theorem erase_keys (t : IT) : t.erase.keys = t.leaves.map (·.2.1) := by
  rw [T.keys_eq, erase_entries, List.map_map]; rfl

theorem erase_hashes (t : IT) : t.erase.hashes = t.leaves.map (·.2.2.2) := by
  rw [T.hashes_eq, erase_entries, List.map_map]; rfl

theorem leaves_length_keys (t : IT) : t.erase.keys.length = t.leaves.length := by
  rw [erase_keys, List.length_map]

def nInner : IT → Nat
  | .leaf _ _ _ _ => 0
  | .node _ l r => l.nInner + r.nInner + 1

theorem indices_length (t : IT) : t.indices.length = t.leaves.length + t.nInner := by
  induction t with
  | leaf i k v h => rfl
  | node i l r ihl ihr =>
    simp only [indices, leaves, nInner, List.length_cons, List.length_append, ihl, ihr]; omega

end IT

/-- all indexes / all leaves of a list of trees (the forest a batch builds, the queue of a breadth-first iterator) -/
def fIdx (F : List IT) : List Nat := F.flatMap IT.indices
def fLeaves (F : List IT) : List (Nat × KVH) := F.flatMap IT.leaves

theorem fIdx_nil : fIdx [] = [] := rfl
theorem fLeaves_nil : fLeaves [] = [] := rfl
theorem fIdx_cons (c : IT) (F : List IT) : fIdx (c :: F) = c.indices ++ fIdx F := rfl
theorem fLeaves_cons (c : IT) (F : List IT) : fLeaves (c :: F) = c.leaves ++ fLeaves F := rfl
theorem fIdx_single (c : IT) : fIdx [c] = c.indices := List.append_nil _
theorem fLeaves_single (c : IT) : fLeaves [c] = c.leaves := List.append_nil _
theorem fIdx_append (F G : List IT) : fIdx (F ++ G) = fIdx F ++ fIdx G := List.flatMap_append
theorem fLeaves_append (F G : List IT) : fLeaves (F ++ G) = fLeaves F ++ fLeaves G := List.flatMap_append

theorem mem_fIdx {F : List IT} {c : IT} (hc : c ∈ F) {j : Nat} (hj : j ∈ c.indices) : j ∈ fIdx F :=
  List.mem_flatMap.mpr ⟨c, hc, hj⟩

/-- `t` is stored in `bl` below parent pointer `p` (dirty flags and stored hashes of internal nodes
are not looked at; a leaf is never dirty) -/
def Rep (bl : List Block) : Option Nat → IT → Prop
  | p, .leaf i k v h => bl[i]? = some { dirty := false, node := .leaf h p k v }
  | p, .node i l r =>
    (∃ d hh, bl[i]? = some { dirty := d, node := .internal hh p l.idx r.idx })
      ∧ Rep bl (some i) l ∧ Rep bl (some i) r

variable {bl bl' : List Block} {p : Option Nat} {t : IT}

theorem Rep.congr (h : Rep bl p t) (hag : ∀ j ∈ t.indices, bl'[j]? = bl[j]?) : Rep bl' p t := by
  induction t generalizing p with
  | leaf i k v hh =>
    simp only [Rep] at h ⊢
    rw [hag i (by simp [IT.indices])]; exact h
  | node i l r ihl ihr =>
    simp only [Rep] at h ⊢
    obtain ⟨⟨d, hh, hb⟩, hl, hr⟩ := h
    refine ⟨⟨d, hh, by rw [hag i (by simp [IT.indices])]; exact hb⟩, ?_, ?_⟩
    · exact ihl hl (fun j hj => hag j (by simp [IT.indices, hj]))
    · exact ihr hr (fun j hj => hag j (by simp [IT.indices, hj]))

theorem Rep.lt (h : Rep bl p t) :
    ∀ j ∈ t.indices, j < bl.length := by
  induction t generalizing p with
  | leaf i k v hh =>
    intro j hj
    simp only [IT.indices, List.mem_singleton] at hj
    simp only [Rep] at h
    rw [hj]; exact (List.getElem?_eq_some_iff.mp h).1
  | node i l r ihl ihr =>
    intro j hj
    simp only [Rep] at h
    obtain ⟨⟨d, hh, hb⟩, hl, hr⟩ := h
    simp only [IT.indices, List.mem_cons, List.mem_append] at hj
    rcases hj with e | e | e
    · rw [e]; exact (List.getElem?_eq_some_iff.mp hb).1
    · exact ihl hl j e
    · exact ihr hr j e

/-- the induction behind every walk down a stored tree with fuel above its depth: a leaf takes one unit, an internal
node one unit and then both children with what is left -/
theorem Rep.fuel_induct {bl : List Block} {motive : Option Nat → IT → Nat → Prop}
    (leaf : ∀ p i k v h f, bl[i]? = some { dirty := false, node := .leaf h p k v } → motive p (.leaf i k v h) (f + 1))
    (node : ∀ p i l r d hh f, bl[i]? = some { dirty := d, node := .internal hh p l.idx r.idx } →
      motive (some i) l f → motive (some i) r f → motive p (.node i l r) (f + 1))
    {p : Option Nat} {t : IT} (h : Rep bl p t) {f : Nat} (hf : t.depth < f) : motive p t f := by
  induction t generalizing p f with
  | leaf i k v hh =>
    cases f with
    | zero => exact absurd hf (Nat.not_lt_zero _)
    | succ f => exact leaf p i k v hh f h
  | node i l r ihl ihr =>
    cases f with
    | zero => exact absurd hf (Nat.not_lt_zero _)
    | succ f =>
      obtain ⟨⟨d, hh, hb⟩, hl, hr⟩ := h
      have hf' : max l.depth r.depth < f := Nat.lt_of_succ_lt_succ hf
      exact node p i l r d hh f hb (ihl hl (Nat.lt_of_le_of_lt (Nat.le_max_left _ _) hf'))
        (ihr hr (Nat.lt_of_le_of_lt (Nat.le_max_right _ _) hf'))

theorem Rep.root_block {c : IT} (hc : Rep bl p c) :
    ∃ x, bl[c.idx]? = some x ∧ x.node.parent = p
      ∧ ∀ h q k v, x.node = .leaf h q k v → (c.idx, k, v, h) ∈ c.leaves := by
  cases c with
  | leaf i k' v' h' =>
    simp only [Rep] at hc
    refine ⟨_, hc, rfl, ?_⟩
    intro h q k v hn
    simp only at hn; injection hn with e1 _ e3 e4
    simp [IT.leaves, IT.idx, e1, e3, e4]
  | node i l r =>
    simp only [Rep] at hc
    obtain ⟨⟨d, hh, hb⟩, _, _⟩ := hc
    refine ⟨_, hb, rfl, ?_⟩
    intro h q k v hn; simp at hn

theorem Rep.root_parent (h : Rep bl p t) :
    parentOfL bl t.idx = p := by
  obtain ⟨x, hx, hp, _⟩ := h.root_block
  simp only [parentOfL, hx, hp]

theorem Rep.leaf_block (h : Rep bl p t)
    {e : Nat × KVH} (he : e ∈ t.leaves) :
    ∃ q, bl[e.1]? = some { dirty := false, node := .leaf e.2.2.2 q e.2.1 e.2.2.1 } := by
  induction t generalizing p with
  | leaf i k v hh =>
    simp only [IT.leaves, List.mem_singleton] at he
    subst he
    exact ⟨p, h⟩
  | node i l r ihl ihr =>
    simp only [Rep] at h
    simp only [IT.leaves, List.mem_append] at he
    rcases he with he | he
    · exact ihl h.2.1 he
    · exact ihr h.2.2 he

theorem Rep.reparent {c : IT} {p p' : Option Nat} (h : Rep bl p c) (hn : c.indices.Nodup)
    (hroot : ∀ b, bl[c.idx]? = some b → bl'[c.idx]? = some { b with node := b.node.setParent p' })
    (hrest : ∀ j ∈ c.indices, j ≠ c.idx → bl'[j]? = bl[j]?) : Rep bl' p' c := by
  cases c with
  | leaf i k v hh => exact hroot _ h
  | node i l r =>
    obtain ⟨⟨d, hh, hb⟩, hl, hr⟩ := h
    simp only [IT.indices, List.nodup_cons, List.mem_append, not_or] at hn
    refine ⟨⟨d, hh, hroot _ hb⟩, hl.congr fun j hj => ?_, hr.congr fun j hj => ?_⟩
    · exact hrest j (by simp [IT.indices, hj]) fun (e : j = i) => hn.1.1 (e ▸ hj)
    · exact hrest j (by simp [IT.indices, hj]) fun (e : j = i) => hn.1.2 (e ▸ hj)

/-- what the blocks say at an index of a represented tree -/
structure InfoAt (bl : List Block) (t : IT) (p : Option Nat) (i : Nat) : Prop where
  shape : (∃ k v h q, bl[i]? = some { dirty := false, node := .leaf h q k v } ∧ (i, k, v, h) ∈ t.leaves) ∨
    (∃ d hh q l r, bl[i]? = some { dirty := d, node := .internal hh q l r } ∧ l ∈ t.indices ∧ r ∈ t.indices
      ∧ l ≠ r ∧ parentOfL bl l = some i ∧ parentOfL bl r = some i)
  rootParent : i = t.idx → parentOfL bl i = p
  parent : i ≠ t.idx → ∃ q, q ∈ t.indices ∧ parentOfL bl i = some q ∧
    ∃ d hh pp l r, bl[q]? = some { dirty := d, node := .internal hh pp l r } ∧ (i = l ∨ i = r)

theorem Rep.info (h : Rep bl p t) (hn : t.indices.Nodup) :
    ∀ i ∈ t.indices, InfoAt bl t p i := by
  induction t generalizing p with
  | leaf j k v hh =>
    intro i hi
    simp only [IT.indices, List.mem_singleton] at hi
    subst hi
    simp only [Rep] at h
    exact ⟨Or.inl ⟨k, v, hh, p, h, by simp [IT.leaves]⟩, fun _ => by simp [parentOfL, h, Node.parent],
      fun hne => absurd rfl hne⟩
  | node j l r ihl ihr =>
    intro i hi
    have hrep := h
    simp only [Rep] at h
    obtain ⟨⟨d, hh, hb⟩, hl, hr⟩ := h
    simp only [IT.indices, List.nodup_cons, List.mem_append, not_or] at hn
    obtain ⟨⟨hjl, hjr⟩, hlr⟩ := hn
    obtain ⟨hln, hrn, hdis⟩ := nodup_append_disj hlr
    simp only [IT.indices, List.mem_cons, List.mem_append] at hi
    have lift : ∀ (c : IT), Rep bl (some j) c → (c.idx = l.idx ∨ c.idx = r.idx) →
        (∀ x, x ∈ c.indices → x ∈ (IT.node j l r).indices) → (∀ e, e ∈ c.leaves → e ∈ (IT.node j l r).leaves) →
        j ∉ c.indices → InfoAt bl c (some j) i → i ∈ c.indices → InfoAt bl (.node j l r) p i := by
      intro c hc hcidx hsub hleaf hjc info hic
      have hij : i ≠ j := fun e => hjc (e ▸ hic)
      refine ⟨?_, fun e => absurd e hij, fun _ => ?_⟩
      · rcases info.shape with ⟨k, v, h', q, e1, e2⟩ | ⟨d', hh', q, l', r', e1, e2, e3, e4, e5, e6⟩
        · exact Or.inl ⟨k, v, h', q, e1, hleaf _ e2⟩
        · exact Or.inr ⟨d', hh', q, l', r', e1, hsub _ e2, hsub _ e3, e4, e5, e6⟩
      · by_cases hic' : i = c.idx
        · refine ⟨j, by simp [IT.indices], info.rootParent hic', d, hh, p, l.idx, r.idx, hb, ?_⟩
          rw [hic']; exact hcidx
        · obtain ⟨q, hq, hpq, rest⟩ := info.parent hic'
          exact ⟨q, hsub _ hq, hpq, rest⟩
    rcases hi with e | e | e
    · subst e
      refine ⟨Or.inr ⟨d, hh, p, l.idx, r.idx, hb, ?_, ?_, ?_, hl.root_parent, hr.root_parent⟩,
        fun _ => by simp [parentOfL, hb, Node.parent], fun hne => absurd rfl hne⟩
      · simp [IT.indices, IT.idx_mem]
      · simp [IT.indices, IT.idx_mem]
      · intro e; exact hdis l.idx (IT.idx_mem l) (e ▸ IT.idx_mem r)
    · exact lift l hl (Or.inl rfl) (fun x hx => by simp [IT.indices, hx]) (fun e he => by simp [IT.leaves, he])
        hjl (ihl hl hln i e) e
    · exact lift r hr (Or.inr rfl) (fun x hx => by simp [IT.indices, hx]) (fun e he => by simp [IT.leaves, he])
        hjr (ihr hr hrn i e) e

/-- the blob `s` stores exactly the tree `t`: the blocks reachable from index 0 are `t`, the free list
holds exactly the other indexes, the two caches hold exactly the leaves of `t`, keys and leaf hashes
are pairwise distinct, and every parent pointer ever written (also in stale blocks) is in range -/
structure Good (s : Blob) (t : IT) : Prop where
  rep : Rep s.blocks none t
  root : t.idx = 0
  nodup : t.indices.Nodup
  freeNodup : s.free.Nodup
  free : ∀ i, i ∈ s.free ↔ (i < s.blocks.length ∧ i ∉ t.indices)
  k2i : s.k2i ~ t.leaves.map (fun e => (e.2.1, e.1))
  h2i : s.h2i ~ t.leaves.map (fun e => (e.2.2.2, e.1))
  keys : (t.leaves.map (·.2.1)).Nodup
  hashes : (t.leaves.map (·.2.2.2)).Nodup
  range : RangeP s

def SInv (s : Blob) : Option IT → Prop
  | none => s = Blob.empty
  | some t => Good s t

namespace Good

variable {s : Blob} {t : IT}

theorem live_iff (g : Good s t) (i : Nat) : (i < s.blocks.length ∧ i ∉ s.free) ↔ i ∈ t.indices := by
  constructor
  · rintro ⟨h1, h2⟩
    cases Classical.em (i ∈ t.indices) with
    | inl h => exact h
    | inr h => exact absurd ((g.free i).mpr ⟨h1, h⟩) h2
  · intro h
    exact ⟨g.rep.lt i h, fun hf => ((g.free i).mp hf).2 h⟩

theorem not_mem_of_new (g : Good s t) {x : Nat} (hx : x ∈ s.free ∨ s.blocks.length ≤ x) : x ∉ t.indices :=
  fun hm => ne_of_new hx ((g.live_iff x).mpr hm).1 ((g.live_iff x).mpr hm).2 rfl

theorem kc (g : Good s t) : Cache (·.2.1) [] s.k2i t.leaves := .of_perm g.k2i g.keys

theorem hc (g : Good s t) : Cache (·.2.2.2) [] s.h2i t.leaves := .of_perm g.h2i g.hashes

theorem k2i_keys_nodup (g : Good s t) : (s.k2i.map (·.1)).Nodup := g.kc.keys_nodup

theorem h2i_keys_nodup (g : Good s t) : (s.h2i.map (·.1)).Nodup := g.hc.keys_nodup

theorem mapGet_k2i (g : Good s t) {e : Nat × KVH} (he : e ∈ t.leaves) : mapGet s.k2i e.2.1 = some e.1 := g.kc.get he

theorem mapGet_h2i (g : Good s t) {e : Nat × KVH} (he : e ∈ t.leaves) : mapGet s.h2i e.2.2.2 = some e.1 := g.hc.get he

theorem k2i_length (g : Good s t) : s.k2i.length = t.leaves.length := by
  rw [g.k2i.length_eq, List.length_map]

theorem idx_nodup (g : Good s t) : (t.leaves.map (·.1)).Nodup := g.nodup.sublist t.leaves_idx_sublist

theorem blocks_ne (g : Good s t) : s.blocks.isEmpty = false := by
  have := g.rep.lt 0 (g.root ▸ t.idx_mem)
  cases hb : s.blocks with
  | nil => rw [hb] at this; simp at this
  | cons _ _ => rfl

theorem indices_le (g : Good s t) : t.indices.length ≤ s.blocks.length :=
  nodup_bound _ _ g.nodup g.rep.lt

/-- so the fuel `#blocks + 1` of the walks from the root suffices -/
theorem depth_lt (g : Good s t) : t.depth < s.blocks.length :=
  Nat.lt_of_lt_of_le t.depth_lt_indices g.indices_le

theorem count (g : Good s t) : t.indices.length + s.free.length = s.blocks.length := by
  have hnd : (t.indices ++ s.free).Nodup := by
    rw [List.nodup_append]
    refine ⟨g.nodup, g.freeNodup, ?_⟩
    intro a ha b hb e
    subst e
    exact ((g.free a).mp hb).2 ha
  have hp : (t.indices ++ s.free) ~ List.range s.blocks.length := by
    rw [List.perm_ext_iff_of_nodup hnd List.nodup_range]
    intro a
    simp only [List.mem_append, List.mem_range]
    constructor
    · rintro (h | h)
      · exact g.rep.lt a h
      · exact ((g.free a).mp h).1
    · intro h
      by_cases hm : a ∈ t.indices
      · exact Or.inl hm
      · exact Or.inr ((g.free a).mpr ⟨h, hm⟩)
  have := hp.length_eq
  simpa using this

theorem mem_keys_iff (g : Good s t) (k : KeyId) :
    (mapGet s.k2i k).isSome = true ↔ k ∈ t.erase.keys := by
  rw [IT.erase_keys]
  exact g.kc.isSome_iff k

theorem mem_hashes_iff (g : Good s t) (h : Hash) :
    (mapGet s.h2i h).isSome = true ↔ h ∈ t.erase.hashes := by
  rw [IT.erase_hashes]
  exact g.hc.isSome_iff h

theorem leaf_of_key (g : Good s t) {k : KeyId} {i : Nat} (h : mapGet s.k2i k = some i) :
    ∃ v hh, (i, k, v, hh) ∈ t.leaves := by
  obtain ⟨⟨i', k', v, hh⟩, he, rfl, rfl⟩ := g.kc.of_get h
  exact ⟨v, hh, he⟩

theorem key_iff_idx (g : Good s t) {idx : Nat} {ok : KeyId} {ov : ValueId} {oh : Hash}
    (hleaf : (idx, ok, ov, oh) ∈ t.leaves) : ∀ e ∈ t.leaves, (e.2.1 = ok ↔ e.1 = idx) :=
  g.kc.eq_iff_idx g.idx_nodup hleaf

theorem key_none_iff (g : Good s t) (k : KeyId) : mapGet s.k2i k = none ↔ k ∉ t.erase.keys := by
  rw [IT.erase_keys]
  exact g.kc.get_none

theorem key_of_get (g : Good s t) {k : KeyId} {i : Nat} (h : mapGet s.k2i k = some i) : k ∈ t.erase.keys :=
  (g.mem_keys_iff k).mp (by rw [h]; rfl)

theorem fresh_key (g : Good s t) {k : KeyId} (hk : k ∉ t.erase.keys) : mapGet s.k2i k = none :=
  (g.key_none_iff k).mpr hk

theorem fresh_hash (g : Good s t) {h : Hash} (hh : h ∉ t.erase.hashes) :
    mapGet s.h2i h = none := Option.not_isSome_iff_eq_none.mp (fun a => hh ((g.mem_hashes_iff h).mp a))

end Good

/-- what a write at a live index keeps when the written block has its parent pointer in range and, if it is
a leaf, its cache entries are already there: `n` blocks, the free list `fr`, the pointer range, and
caches holding the leaves `L` on top of `mk`, `mh` -/
structure Kept (n : Nat) (fr : List Nat) (mk : List (KeyId × Nat)) (mh : List (Hash × Nat)) (L : List (Nat × KVH))
    (s : Blob) : Prop where
  len : s.blocks.length = n
  free : s.free = fr
  range : RangeP s
  kc : Cache (·.2.1) mk s.k2i L
  hc : Cache (·.2.2.2) mh s.h2i L

namespace Kept

variable {n : Nat} {fr : List Nat} {mk : List (KeyId × Nat)} {mh : List (Hash × Nat)} {L : List (Nat × KVH)} {s : Blob}

theorem write (k : Kept n fr mk mh L s) {i : Nat} {b : Block} (hi : i < n) (hf : i ∉ fr)
    (hp : ∀ p, b.node.parent = some p → p < n) (hl : ∀ h q k v, b.node = .leaf h q k v → (i, k, v, h) ∈ L) :
    Kept n fr mk mh L (s.write i b) := by
  have hi' : i < s.blocks.length := k.len ▸ hi
  obtain ⟨d, nd⟩ := b
  refine ⟨(write_len s i _ hi').trans k.len, by rw [write_free, k.free, List.erase_of_not_mem hf],
    k.range.write hi' (k.len ▸ hp), ?_, ?_⟩
  · cases nd with
    | internal h q l r => exact k.kc
    | leaf h q key v => exact k.kc.insert_same (hl h q key v rfl)
  · cases nd with
    | internal h q l r => exact k.hc
    | leaf h q key v => exact k.hc.insert_same (hl h q key v rfl)

theorem setParent (k : Kept n fr mk mh L s) {i : Nat} {x : Block} (p : Option Nat) (hi : i < n) (hf : i ∉ fr)
    (hp : ∀ q, p = some q → q < n) (hl : ∀ h q k v, x.node = .leaf h q k v → (i, k, v, h) ∈ L) :
    Kept n fr mk mh L (s.write i { x with node := x.node.setParent p }) := by
  refine k.write hi hf (fun q hq => hp q (by rw [← hq, Node.setParent_parent])) fun h q key v hn => ?_
  obtain ⟨d, nd⟩ := x
  cases nd with
  | internal _ _ _ _ => cases hn
  | leaf h0 q0 k0 v0 =>
    cases hn
    exact hl h q0 key v rfl

end Kept

/-- Two trees `a`, `b` stored in `s` get the common parent `i`: their roots are re-parented to `i`, then an internal
block with the children `a.idx`, `b.idx` is written at `i` (`pairLevel` of `batch_insert`, where `i` is newly
allocated; `deletePromoteRoot`, where `i = 0` and the sibling of the deleted leaf becomes the root).  The three
indexes are live, so `Kept` stays; the blocks afterwards are known pointwise, they store `node i a b`, and below `i`
dirty flags and stored hashes are as before. -/
theorem adopt {n : Nat} {fr : List Nat} {mk : List (KeyId × Nat)} {mh : List (Hash × Nat)} {L : List (Nat × KVH)}
    {s : Blob} (k : Kept n fr mk mh L s) {a b : IT} {pa pb : Option Nat} (ra : Rep s.blocks pa a)
    (rb : Rep s.blocks pb b) {i : Nat} (hn : (IT.node i a b).indices.Nodup) (hi : i < n) (hif : i ∉ fr)
    (haf : a.idx ∉ fr) (hbf : b.idx ∉ fr) (hL : ∀ e, e ∈ a.leaves ∨ e ∈ b.leaves → e ∈ L)
    {ba bb : Block} (hba : s.blocks[a.idx]? = some ba) (hbb : s.blocks[b.idx]? = some bb)
    (d : Bool) (h : Hash) (p : Option Nat) (hp : ∀ q, p = some q → q < n) :
    ∃ X1 X2 F, updateParent a.idx (some i) s = (.ok { ba with node := ba.node.setParent (some i) }, X1)
      ∧ updateParent b.idx (some i) X1 = (.ok { bb with node := bb.node.setParent (some i) }, X2)
      ∧ writeBlock i { dirty := d, node := .internal h p a.idx b.idx } X2 = (.ok (), F)
      ∧ Kept n fr mk mh L F
      ∧ (∀ j, F.blocks[j]? = if j = i then some { dirty := d, node := .internal h p a.idx b.idx }
          else if j = b.idx then some { bb with node := bb.node.setParent (some i) }
          else if j = a.idx then some { ba with node := ba.node.setParent (some i) } else s.blocks[j]?)
      ∧ Rep F.blocks p (.node i a b)
      ∧ ∀ x, x ∈ a.indices ∨ x ∈ b.indices →
          dirtyB F.blocks x = dirtyB s.blocks x ∧ hashB F.blocks x = hashB s.blocks x := by
  simp only [IT.indices, List.nodup_cons, List.mem_append, not_or] at hn
  obtain ⟨⟨hia, hib⟩, hab⟩ := hn
  obtain ⟨han, hbn, hdis⟩ := nodup_append_disj hab
  have hne : a.idx ≠ b.idx := fun e => hdis _ a.idx_mem (e ▸ b.idx_mem)
  have hai : a.idx ≠ i := fun e => hia (e ▸ a.idx_mem)
  have hbi : b.idx ≠ i := fun e => hib (e ▸ b.idx_mem)
  obtain ⟨xa, hxa, _, hal⟩ := ra.root_block
  obtain ⟨xb, hxb, _, hbl⟩ := rb.root_block
  rw [hba] at hxa
  rw [hbb] at hxb
  cases hxa
  cases hxb
  have la : a.idx < s.blocks.length := lt_of_block hba
  have pn : ∀ q, some i = some q → q < n := fun q e => by cases e; exact hi
  have k1 := k.setParent (x := ba) (some i) (k.len ▸ la) haf pn fun h q k v hn => hL _ (Or.inl (hal h q k v hn))
  generalize hX1 : s.write a.idx { ba with node := ba.node.setParent (some i) } = X1 at k1
  have hbb1 : X1.blocks[b.idx]? = some bb := by
    rw [← hX1, write_get _ _ _ la, if_neg (fun e => hne e.symm)]; exact hbb
  have lb : b.idx < X1.blocks.length := lt_of_block hbb1
  have k2 := k1.setParent (x := bb) (some i) (k1.len ▸ lb) hbf pn fun h q k v hn => hL _ (Or.inr (hbl h q k v hn))
  generalize hX2 : X1.write b.idx { bb with node := bb.node.setParent (some i) } = X2 at k2
  have hi2 : i < X2.blocks.length := by rw [k2.len]; exact hi
  have eB : ∀ j, (X2.write i { dirty := d, node := .internal h p a.idx b.idx }).blocks[j]?
      = if j = i then some { dirty := d, node := .internal h p a.idx b.idx }
        else if j = b.idx then some { bb with node := bb.node.setParent (some i) }
        else if j = a.idx then some { ba with node := ba.node.setParent (some i) } else s.blocks[j]? := fun j => by
    rw [write_get _ _ _ hi2, ← hX2, write_get _ _ _ lb, ← hX1, write_get _ _ _ la]
  refine ⟨X1, X2, _, hX1 ▸ updateParent_run a.idx (some i) s ba hba, hX2 ▸ updateParent_run b.idx (some i) X1 bb hbb1,
    writeBlock_run_le _ _ _ (Nat.le_of_lt hi2), k2.write hi hif hp (fun _ _ _ _ hn => by cases hn), eB,
    ⟨⟨d, h, (eB i).trans (if_pos rfl)⟩, ?_, ?_⟩, fun x hx => ?_⟩
  · refine ra.reparent han (fun y hy => ?_) fun j hj hja => ?_
    · rw [hba] at hy
      cases hy
      rw [eB, if_neg hai, if_neg hne, if_pos rfl]
    · rw [eB, if_neg (fun (e : j = i) => hia (e ▸ hj)), if_neg (fun (e : j = b.idx) => hdis j hj (e ▸ b.idx_mem)), if_neg hja]
  · refine rb.reparent hbn (fun y hy => ?_) fun j hj hjb => ?_
    · rw [hbb] at hy
      cases hy
      rw [eB, if_neg hbi, if_pos rfl]
    · rw [eB, if_neg (fun (e : j = i) => hib (e ▸ hj)), if_neg hjb, if_neg (fun (e : j = a.idx) => hdis _ a.idx_mem (e ▸ hj))]
  · have hxi : x ≠ i := fun e => hx.elim (fun h => hia (e ▸ h)) fun h => hib (e ▸ h)
    by_cases e1 : x = b.idx
    · rw [e1]; exact dh_setParent hbb ((eB _).trans (by rw [if_neg hbi, if_pos rfl]))
    · by_cases e2 : x = a.idx
      · rw [e2]; exact dh_setParent hba ((eB _).trans (by rw [if_neg hai, if_neg hne, if_pos rfl]))
      · exact dh_of_get ((eB x).trans (by rw [if_neg hxi, if_neg e1, if_neg e2]))

theorem Good.linv {s : Blob} (g : Good s t) : LInv s where
  freeLt := fun i hi => ((g.free i).mp hi).1
  freeNodup := g.freeNodup
  parentRange := fun i _ => parentRange_of_rangeP g.range i
  root := rootOk_iff.mpr fun _ => ⟨fun hf => ((g.free 0).mp hf).2 (g.root ▸ t.idx_mem), g.root ▸ g.rep.root_parent⟩
  node := by
    intro i hil hif
    have info := g.rep.info g.nodup i ((g.live_iff i).mp ⟨hil, hif⟩)
    have liveOf : ∀ x, x ∈ t.indices → x < s.blocks.length ∧ x ∉ s.free := fun x hx => (g.live_iff x).mpr hx
    refine ⟨okChildren_iff.mpr fun d h p l r hb => ?_, okParent_iff.mpr fun b hb => ⟨fun p hp => ?_, fun hp hleaf => ?_⟩,
      okLeaf_iff.mpr fun d h p k v hb => ?_⟩
    · rcases info.shape with ⟨_, _, _, _, e1, _⟩ | ⟨_, _, _, _, _, e1, e2, e3, e4, e5, e6⟩
      · exact absurd rfl (internal_ne_leaf hb e1)
      · rw [hb] at e1
        cases e1
        exact ⟨(liveOf _ e2).1, (liveOf _ e3).1, (liveOf _ e2).2, (liveOf _ e3).2, e4, e5, e6⟩
    · have hpo : parentOfL s.blocks i = some p := by simp only [parentOfL, hb, hp]
      have hne : i ≠ t.idx := fun e => by
        have := info.rootParent e
        rw [hpo] at this
        cases this
      obtain ⟨q, hq, hpq, rest⟩ := info.parent hne
      rw [hpo] at hpq
      cases hpq
      exact ⟨(liveOf _ hq).2, rest⟩
    · -- a parentless leaf block is the root, so the tree is a single leaf
      have hie : i = t.idx := Classical.byContradiction fun h => by
        obtain ⟨q, _, hpq, _⟩ := info.parent h
        simp [parentOfL, hb, hp] at hpq
      cases t with
      | leaf j k v h => rw [g.k2i_length]; rfl
      | node j l r =>
        obtain ⟨⟨d, hh, hjb⟩, _, _⟩ := g.rep
        rw [hie, show (IT.node j l r).idx = j from rfl, hjb] at hb
        cases hb
        cases hleaf
    · rcases info.shape with ⟨_, _, _, _, e1, e2⟩ | ⟨_, _, _, _, _, e1, _⟩
      · rw [hb] at e1
        cases e1
        exact ⟨g.mapGet_k2i e2, g.mapGet_h2i e2⟩
      · exact absurd rfl (internal_ne_leaf e1 hb)
  keys := by
    intro e he
    obtain ⟨lf, hlf, rfl⟩ := List.mem_map.mp (g.k2i.mem_iff.mp he)
    obtain ⟨q, hb⟩ := g.rep.leaf_block hlf
    exact okKey_intro (fun hf => ((g.free lf.1).mp hf).2 (t.leaf_idx_mem lf hlf)) hb
  hashes := by
    intro e he
    obtain ⟨lf, hlf, rfl⟩ := List.mem_map.mp (g.h2i.mem_iff.mp he)
    obtain ⟨q, hb⟩ := g.rep.leaf_block hlf
    exact okHash_intro (fun hf => ((g.free lf.1).mp hf).2 (t.leaf_idx_mem lf hlf)) hb
  keysNodup := g.k2i_keys_nodup

theorem SInv.key_iff {s : Blob} {t : Option IT} (hs : SInv s t) (k : KeyId) :
    (mapGet s.k2i k).isSome = true ↔ k ∈ Tree.keys (t.map IT.erase) := by
  cases t with
  | none => simp only [SInv] at hs; subst hs; simp [Blob.empty, mapGet, Tree.keys]
  | some t => exact Good.mem_keys_iff hs k

theorem SInv.hash_iff {s : Blob} {t : Option IT} (hs : SInv s t) (h : Hash) :
    (mapGet s.h2i h).isSome = true ↔ h ∈ Tree.hashes (t.map IT.erase) := by
  cases t with
  | none => simp only [SInv] at hs; subst hs; simp [Blob.empty, mapGet, Tree.hashes]
  | some t => exact Good.mem_hashes_iff hs h

theorem SInv.k2i_len {s : Blob} {t : Option IT} (hs : SInv s t) :
    s.k2i.length = (Tree.keys (t.map IT.erase)).length := by
  cases t with
  | none => simp only [SInv] at hs; subst hs; rfl
  | some t =>
    have g : Good s t := hs
    rw [g.k2i_length]; exact (IT.leaves_length_keys t).symm

theorem SInv.keys_nodup {s : Blob} {t : Option IT} (hs : SInv s t) : (Tree.keys (t.map IT.erase)).Nodup := by
  cases t with
  | none => exact List.nodup_nil
  | some t =>
    have g : Good s t := hs
    show t.erase.keys.Nodup
    rw [IT.erase_keys]
    exact g.keys

def IT.toHT (bl : List Block) : IT → HT
  | .leaf _ k v h => .leaf k v h
  | .node i l r => .node (blockAt bl i).node.hash (blockAt bl i).dirty (IT.toHT bl l) (IT.toHT bl r)

theorem IT.toHT_erase (bl : List Block) (t : IT) : (t.toHT bl).erase = t.erase := by
  induction t with
  | leaf i k v h => rfl
  | node i l r ihl ihr => simp [IT.toHT, HT.erase, IT.erase, ihl, ihr]

theorem absHAux_leaf {bl : List Block} {f i : Nat} {p : Option Nat} {h : Hash} {k : KeyId} {v : ValueId}
    (hb : bl[i]? = some { dirty := false, node := .leaf h p k v }) :
    absHAux bl (f + 1) i p = some (.leaf k v h) := by
  simp only [absHAux, hb, Node.parent, ne_eq, not_true_eq_false, if_false, Bool.false_eq_true]

theorem absHAux_node {bl : List Block} {f i : Nat} {p : Option Nat} {d : Bool} {hh : Hash} {l r : Nat} {tl tr : HT}
    (hb : bl[i]? = some { dirty := d, node := .internal hh p l r })
    (hl : absHAux bl f l (some i) = some tl) (hr : absHAux bl f r (some i) = some tr) :
    absHAux bl (f + 1) i p = some (.node hh d tl tr) := by
  simp only [absHAux, hb, Node.parent, ne_eq, not_true_eq_false, if_false, hl, hr]

theorem Rep.absH {bl : List Block} {p : Option Nat} {t : IT} (h : Rep bl p t) (f : Nat) (hf : t.depth < f) :
    absHAux bl f t.idx p = some (t.toHT bl) :=
  h.fuel_induct (motive := fun p t f => absHAux bl f t.idx p = some (t.toHT bl)) (fun _ _ _ _ _ _ hb => absHAux_leaf hb)
    (fun p i l r d hh f hb ihl ihr => by rw [IT.idx_node, absHAux_node hb ihl ihr, IT.toHT, blockAt_of_get hb]; rfl) hf

theorem Good.absH {s : Blob} {t : IT} (g : Good s t) : absH s = some (some (t.toHT s.blocks)) := by
  have e1 := g.rep.absH (s.blocks.length + 1) (Nat.lt_succ_of_lt g.depth_lt)
  rw [g.root] at e1
  unfold Blob.absH
  rw [g.blocks_ne]
  simp [e1]

theorem SInv.good_of_absH {s : Blob} {t : Option IT} {ht : HT} (hs : SInv s t) (ha : absH s = some (some ht)) :
    ∃ it, Good s it ∧ it.toHT s.blocks = ht := by
  cases t with
  | none =>
    simp only [SInv] at hs
    subst hs
    have : absH Blob.empty = some none := rfl
    rw [this] at ha
    cases ha
  | some it =>
    have e := Good.absH hs
    rw [ha] at e
    injection e with e
    injection e with e
    exact ⟨it, hs, e.symm⟩

theorem Good.abs {s : Blob} (g : Good s t) : abs s = some (some t.erase) := by
  simp only [Blob.abs, g.absH, IT.toHT_erase]

theorem SInv.abs {s : Blob} {t : Option IT} (h : SInv s t) : abs s = some (t.map IT.erase) := by
  cases t with
  | none => simp only [SInv] at h; subst h; rfl
  | some t => exact Good.abs h

theorem SameShape.rep {a b : Blob} (h : SameShape a b) {p : Option Nat} {t : IT} (hr : Rep a.blocks p t) :
    Rep b.blocks p t := by
  induction t generalizing p with
  | leaf i k v hh => exact h.leaf hr
  | node i l r ihl ihr =>
    obtain ⟨⟨d, hh, hb⟩, hl, hr'⟩ := hr
    exact ⟨h.internal hb, ihl hl, ihr hr'⟩

theorem Good.sameShape {s s' : Blob} {t : IT} (g : Good s t) (h : SameShape s s') : Good s' t where
  rep := h.rep g.rep
  root := g.root
  nodup := g.nodup
  freeNodup := by rw [h.free]; exact g.freeNodup
  free := by intro i; rw [h.free, h.len]; exact g.free i
  k2i := by rw [h.k2i]; exact g.k2i
  h2i := by rw [h.h2i]; exact g.h2i
  keys := g.keys
  hashes := g.hashes
  range := h.range g.range

end ChiaModel.Blob
