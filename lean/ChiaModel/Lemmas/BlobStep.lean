import ChiaModel.Lemmas.BlobInsRef
import ChiaModel.Lemmas.BlobUpsRef
import ChiaModel.Lemmas.BlobDelRef
import ChiaModel.Lemmas.BlobBatchRef
import ChiaModel.Lemmas.BlobHInv
/-
C18: every operation refines its L1 counterpart and keeps the hash invariant (`step_refines`): the four
per-operation files and, for `calculate_lazy_hashes`, `hashes_refines`.  `hashesOk_iff`: on a state
satisfying the structural invariant `hashesOk` of the model is `LHo` of the stored tree.
-/
namespace ChiaModel.Blob
open List M

theorem hashes_refines {s : Blob} {t : Option IT} (hs : SInv s t) : Refines .hashes s t := by
  unfold Refines
  have hstep : step .hashes s = calcLazyHashes s := rfl
  have hT : Tree.step .hashes (t.map IT.erase) = (true, t.map IT.erase) := rfl
  rw [hstep, hT]
  cases t with
  | none =>
    simp only [SInv] at hs
    subst hs
    have he : calcLazyHashes Blob.empty = (.ok (), Blob.empty) := rfl
    rw [he]
    exact ⟨none, rfl, rfl, by simp [errOf], fun _ => trivial⟩
  | some t =>
    have g : Good s t := hs
    obtain ⟨S, hrun, ss, hTT⟩ := calcLazyHashes_good g
    rw [hrun]
    refine ⟨some t, Good.sameShape hs ss, rfl, by simp [errOf], ?_⟩
    intro hl
    have hl' : LH s.blocks none t := hl
    show LH S.blocks none t
    rw [LH_iff_good (ss.rep g.rep), hTT]
    exact ((LH_iff_good g.rep).mp hl').recompute

theorem step_refines {s : Blob} {t : Option IT} (hs : SInv s t) (op : Op) : Refines op s t := by
  cases op with
  | ins k v h loc => exact ins_refines hs k v h loc
  | ups k v h => exact ups_refines hs k v h
  | del k => exact del_refines hs k
  | batch l => exact batch_refines hs l
  | hashes => exact hashes_refines hs

theorem hashesOk_iff {s : Blob} {t : Option IT} (hs : SInv s t) : hashesOk s = true ↔ LHo s.blocks t := by
  cases t with
  | none => simp only [SInv] at hs; subst hs; exact ⟨fun _ => trivial, fun _ => rfl⟩
  | some t =>
    have g : Good s t := hs
    unfold hashesOk
    rw [g.absH]
    show (t.toHT s.blocks).check.isSome = true ↔ LH s.blocks none t
    rw [LH_iff_good g.rep, HT.good_iff_check]

theorem Good.rootHash {s : Blob} {t : IT} (g : Good s t) (hc : (t.toHT s.blocks).rootClean = true) :
    rootHash s = .ok (some (t.toHT s.blocks).hash) := by
  have hne : s.k2i.isEmpty = false := by
    have := g.k2i_length
    have hp := t.leaves_pos
    cases hk : s.k2i with
    | nil => rw [hk] at this; simp at this; omega
    | cons _ _ => rfl
  -- flag and stored hash at the root of `toHT` are those of block 0
  obtain ⟨b, hb, _, _⟩ := g.rep.root_block
  rw [g.rep.rootClean, dirtyB_get hb, Bool.not_eq_true'] at hc
  rw [g.rep.toHT_hash, blockAt_of_get hb]
  rw [g.root] at hb
  simp only [Blob.rootHash, hne, hb, hc, Bool.false_eq_true, if_false]

end ChiaModel.Blob
