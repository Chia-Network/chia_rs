import ChiaModel.Lemmas.BlobInsOk
/-
C18, block array under `LInv`: `upsert`.  Central: `upsert_failOr` — `upsert` fails on one of its checks without
touching the state, or succeeds in a state satisfying `LInv`.
-/
namespace ChiaModel.Blob
open M

/-- the blob after the leaf rewrite of `upsert` (before dirty marking) -/
def upsState (s : Blob) (idx : Nat) (d : Bool) (oh newHash : Hash) (p : Option Nat) (key : KeyId) (value : ValueId) : Blob :=
  ({ s with k2i := mapErase s.k2i key, h2i := mapErase s.h2i oh, free := freeInsert s.free idx } : Blob).write idx
    { dirty := d, node := .leaf newHash p key value }

section
variable {s : Blob} {idx : Nat} {d : Bool} {oh newHash : Hash} {p : Option Nat} {key : KeyId} {value : ValueId}

theorem upsState_get (hil : idx < s.blocks.length) (j : Nat) :
    (upsState s idx d oh newHash p key value).blocks[j]?
      = if j = idx then some { dirty := d, node := .leaf newHash p key value } else s.blocks[j]? :=
  write_get _ _ _ (by exact hil) j

theorem upsState_len (hil : idx < s.blocks.length) :
    (upsState s idx d oh newHash p key value).blocks.length = s.blocks.length :=
  write_len _ _ _ (by exact hil)

theorem upsState_free (hif : idx ∉ s.free) : (upsState s idx d oh newHash p key value).free = s.free :=
  (write_free _ _ _).trans (freeInsert_erase _ _ hif)

end

theorem upsState_linv {s : Blob} (hinv : LInv s) (idx : Nat) (d : Bool) (oh newHash : Hash) (p : Option Nat)
    (key : KeyId) (v0 value : ValueId) (hg : mapGet s.k2i key = some idx)
    (hb : s.blocks[idx]? = some { dirty := d, node := .leaf oh p key v0 })
    (hc : mapGet s.h2i newHash = none ∨ mapGet s.h2i newHash = some idx) :
    LInv (upsState s idx d oh newHash p key value) := by
  have hif : idx ∉ s.free := (hinv.key_leaf hg).1
  have hil : idx < s.blocks.length := lt_of_block hb
  obtain ⟨_, chh⟩ := hinv.leaf_cached hif hb
  have eB : ∀ j, (upsState s idx d oh newHash p key value).blocks[j]? = _ := upsState_get hil
  have eL : (upsState s idx d oh newHash p key value).blocks.length = _ := upsState_len hil
  have eF : (upsState s idx d oh newHash p key value).free = _ := upsState_free hif
  have eK : (upsState s idx d oh newHash p key value).k2i = mapInsert (mapErase s.k2i key) key idx := rfl
  have eH : (upsState s idx d oh newHash p key value).h2i = mapInsert (mapErase s.h2i oh) newHash idx := rfl
  have hR : RangeP (upsState s idx d oh newHash p key value) :=
    RangeP.write (s := { s with k2i := mapErase s.k2i key, h2i := mapErase s.h2i oh, free := freeInsert s.free idx })
      (hinv.rangeP.congr rfl) hil (fun q hq => hinv.rangeP idx _ hb q hq)
  generalize upsState s idx d oh newHash p key value = sw at *
  have bIdx : sw.blocks[idx]? = some { dirty := d, node := .leaf newHash p key value } := by rw [eB idx, if_pos rfl]
  have bOther : ∀ j, j ≠ idx → sw.blocks[j]? = s.blocks[j]? := fun j hj => by rw [eB j, if_neg hj]
  have eP : ∀ j, parentOf sw j = parentOf s j := by
    intro j
    by_cases hj : j = idx
    · rw [hj]; exact (parentOf_block bIdx).trans (parentOf_block hb).symm
    · exact parentOf_congr (bOther j hj)
  -- the parent clause only looks at the parent's block, an internal one, which is unchanged
  have parentBlock : ∀ {j q : Nat}, (q ∉ s.free ∧ ∃ dq qh qp ql qr,
        s.blocks[q]? = some { dirty := dq, node := .internal qh qp ql qr } ∧ (j = ql ∨ j = qr)) →
      q ∉ sw.free ∧ ∃ dq qh qp ql qr,
        sw.blocks[q]? = some { dirty := dq, node := .internal qh qp ql qr } ∧ (j = ql ∨ j = qr) := by
    rintro j q ⟨hq, dq, qh, qp, ql, qr, hqb, hc⟩
    have : q ≠ idx := internal_ne_leaf hqb hb
    exact ⟨by rw [eF]; exact hq, dq, qh, qp, ql, qr, (bOther q this).trans hqb, hc⟩
  -- an entry of either cache that is not the one of the rewritten leaf keeps its leaf
  have entries : ∀ {κ : Type} [DecidableEq κ] (proj : Hash → KeyId → κ) (m : List (κ × Nat)),
      (∀ e ∈ m, EntryOk proj s e) →
      ∀ e ∈ mapInsert (mapErase m (proj oh key)) (proj newHash key) idx, EntryOk proj sw e := by
    intro κ _ proj m hm e he
    rcases mem_mapInsert _ _ _ _ he with e1 | ⟨he2, _⟩
    · subst e1
      exact ⟨by rw [eF]; exact hif, _, _, _, _, _, bIdx, rfl⟩
    · have he3 := List.mem_filter.mp he2
      simp only [ne_eq, decide_eq_true_eq] at he3
      obtain ⟨hf, d0, h0, p0, k0, v0', hb0, hpk⟩ := hm e he3.1
      have : e.2 ≠ idx := fun e' => by rw [e', hb] at hb0; cases hb0; exact he3.2 hpk.symm
      exact ⟨by rw [eF]; exact hf, d0, h0, p0, k0, v0', (bOther e.2 this).trans hb0, hpk⟩
  refine ⟨by rw [eF, eL]; exact hinv.freeLt, by rw [eF]; exact hinv.freeNodup,
    fun j _ => parentRange_of_rangeP hR j, ?_, ?_, ?_, ?_, ?_⟩
  · exact rootOk_iff.mpr fun h0 => by rw [eF, eP]; exact hinv.root_live (eL ▸ h0)
  · intro j hj hjf
    rw [eL] at hj; rw [eF] at hjf
    obtain ⟨c1, c2, c3⟩ := hinv.node j hj hjf
    by_cases hji : j = idx
    · rw [hji] at c2 ⊢
      refine ⟨by simp only [okChildren, bIdx], okParent_iff.mpr ?_, by
        simp only [okLeaf, bIdx, eK, eH]; exact ⟨mapGet_insert_self _ _ _, mapGet_insert_self _ _ _⟩⟩
      intro b hbT
      rw [bIdx] at hbT
      cases hbT
      obtain ⟨a1, a2⟩ := okParent_iff.mp c2 _ hb
      rw [eK, length_erase_insert _ _ _ _ hinv.keysNodup hg]
      exact ⟨fun q hq => parentBlock (a1 q hq), a2⟩
    · refine ⟨?_, okParent_iff.mpr ?_, okLeaf_iff.mpr ?_⟩
      · simp only [okChildren, bOther j hji, eL, eF, eP] at c1 ⊢; exact c1
      · intro b hbT
        rw [bOther j hji] at hbT
        obtain ⟨a1, a2⟩ := okParent_iff.mp c2 b hbT
        rw [eK, length_erase_insert _ _ _ _ hinv.keysNodup hg]
        exact ⟨fun q hq => parentBlock (a1 q hq), a2⟩
      · intro dj hh pj kk vv hbT
        rw [bOther j hji] at hbT
        obtain ⟨a1, a2⟩ := okLeaf_iff.mp c3 _ _ _ _ _ hbT
        have n1 : kk ≠ key := fun e => by rw [e, hg] at a1; cases a1; exact hji rfl
        have n2 : hh ≠ oh := fun e => by rw [e, chh] at a2; cases a2; exact hji rfl
        have n3 : hh ≠ newHash := fun e => by
          rw [e] at a2
          rcases hc with hc | hc
          · rw [hc] at a2; cases a2
          · rw [hc] at a2; cases a2; exact hji rfl
        rw [eK, eH, mapGet_insert_ne _ _ _ _ n1, mapGet_erase_ne _ _ _ n1, mapGet_insert_ne _ _ _ _ n3,
          mapGet_erase_ne _ _ _ n2]
        exact ⟨a1, a2⟩
  · rw [eK]
    exact fun e he => okKey_iff.mpr
      (entries (fun _ k => k) s.k2i (fun e he => okKey_iff.mp (hinv.keys e he)) e he)
  · rw [eH]
    exact fun e he => okHash_iff.mpr
      (entries (fun h _ => h) s.h2i (fun e he => okHash_iff.mp (hinv.hashes e he)) e he)
  · rw [eK]
    exact mapInsert_keys_nodup _ _ _ (hinv.keysNodup.sublist ((List.filter_sublist).map _))

theorem upsert_run (key : KeyId) (value : ValueId) (newHash : Hash) (s : Blob) :
    upsert key value newHash s =
      match mapGet s.k2i key with
      | none => (do let _ ← insert key value newHash .auto; pure () : M Unit) s
      | some idx =>
        match s.blocks[idx]? with
        | none => (do let _ ← insert key value newHash .auto; pure () : M Unit) s
        | some b =>
          match b.node with
          | .internal _ _ _ _ => (.error .panic, s)
          | .leaf oh p _ _ =>
            if (match mapGet s.h2i newHash with
                | some other => decide (other ≠ idx)
                | none => false) then (.error .err, s)
            else (match p with
                | some pi => markLineageDirty pi
                | none => pure () : M Unit) (upsState s idx b.dirty oh newHash p key value) := by
  unfold upsert
  simp only [bind_run, M.get]
  cases hg : mapGet s.k2i key with
  | none => rfl
  | some idx =>
    simp only
    cases hb : s.blocks[idx]? with
    | none => rfl
    | some b =>
      obtain ⟨d, n⟩ := b
      cases n with
      | internal _ _ _ _ => rfl
      | leaf oh p k0 v0 =>
        have hil : idx < s.blocks.length := lt_of_block hb
        simp only [ite_run, throw_run, bind_run, removeLeaf_run, hg]
        rw [writeBlock_run_le _ _ _ (by exact Nat.le_of_lt hil)]
        rfl

theorem upsert_failOr {s : Blob} (hinv : LInv s) (key : KeyId) (value : ValueId) (newHash : Hash) :
    FailOr (upsert key value newHash) s (fun _ s' => LInv s') := by
  have hins : FailOr (do let _ ← insert key value newHash .auto; pure () : M Unit) s (fun _ s' => LInv s') :=
    (insert_failOr hinv key value newHash .auto (Or.inl rfl)).discard fun _ _ q => q.1
  unfold FailOr Ok
  rw [upsert_run]
  cases hg : mapGet s.k2i key with
  | none => exact hins
  | some idx =>
    simp only
    cases hb : s.blocks[idx]? with
    | none => exact hins
    | some b =>
      obtain ⟨d, n⟩ := b
      cases n with
      | internal hh p l r => exact Or.inl ⟨.panic, rfl⟩
      | leaf oh p k0 v0 =>
        simp only
        obtain ⟨hif, d1, hh1, p1, v1, hb1⟩ := hinv.key_leaf hg
        rw [hb] at hb1
        cases hb1
        have accepted : (mapGet s.h2i newHash = none ∨ mapGet s.h2i newHash = some idx) →
            ∃ a s', (match p with
                | some pi => markLineageDirty pi
                | none => pure () : M Unit) (upsState s idx d oh newHash p key value) = (.ok a, s') ∧ LInv s' := by
          intro hc
          have hT := upsState_linv hinv idx d oh newHash p key v0 value hg hb hc
          cases p with
          | none => exact ⟨(), _, rfl, hT⟩
          | some pi =>
            obtain ⟨hpf, dp, ph, pp, pl, pr, hpb, _⟩ := hinv.parent_of hif hb rfl
            have hne : pi ≠ idx := internal_ne_leaf hpb hb
            have hil : idx < s.blocks.length := lt_of_block hb
            obtain ⟨_, S, eS, hS⟩ := markLineageDirty_sameShape pi _ hT
              (by rw [upsState_free hif]; exact hpf)
              ⟨dp, ph, pp, pl, pr, by rw [upsState_get hil, if_neg hne]; exact hpb⟩
            exact ⟨_, S, eS, hS.linv hT⟩
        cases hm : mapGet s.h2i newHash with
        | none => exact Or.inr (accepted (Or.inl hm))
        | some other =>
          by_cases ho : other = idx
          · simp only [ho, ne_eq, not_true_eq_false, decide_false, Bool.false_eq_true, if_false]
            exact Or.inr (accepted (Or.inr (by rw [hm, ho])))
          · simp only [ne_eq, ho, not_false_eq_true, decide_true, if_true]
            exact Or.inl ⟨.err, rfl⟩

theorem upsert_keepOrOk {s : Blob} (hinv : LInv s) (key : KeyId) (value : ValueId) (newHash : Hash) :
    KeepOrOk (upsert key value newHash) s :=
  (upsert_failOr hinv key value newHash).keepOrOk

end ChiaModel.Blob
