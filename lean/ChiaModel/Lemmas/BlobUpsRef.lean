import ChiaModel.Lemmas.BlobInsRef
import ChiaModel.Lemmas.BlobUpsOk
/-
C18, per-operation refinement: `upsert`.  An absent key is inserted (BlobInsRef); an accepted upsert of a present
key rewrites its leaf in place (`upsert_good`).  Central: `ups_refines`.
-/
namespace ChiaModel.Blob
open List M

variable {s : Blob} {t : IT}

/-- the hash check of `upsert`, on the tree -/
theorem Good.otherHashes_iff (g : Good s t) {idx : Nat} {key : KeyId} {v0 : ValueId} {oh : Hash}
    (hleaf : (idx, key, v0, oh) ∈ t.leaves) (nh : Hash) :
    nh ∈ Tree.otherHashes key t.erase ↔ ∃ other, mapGet s.h2i nh = some other ∧ other ≠ idx := by
  rw [Tree.otherHashes_eq, IT.erase_entries]
  have hki := g.key_iff_idx hleaf
  constructor
  · intro hm
    obtain ⟨e, he, heh⟩ := List.mem_map.mp hm
    obtain ⟨he1, he2⟩ := List.mem_filter.mp he
    obtain ⟨e', he', hee⟩ := List.mem_map.mp he1
    simp only [ne_eq, decide_eq_true_eq] at he2
    refine ⟨e'.1, ?_, fun hi => he2 ?_⟩
    · rw [← heh, ← hee]; exact g.mapGet_h2i he'
    · rw [← hee]
      exact (hki e' he').mpr hi
  · rintro ⟨other, hm, hne⟩
    obtain ⟨e, he, e1, e2⟩ := g.hc.of_get hm
    refine List.mem_map.mpr ⟨e.2, List.mem_filter.mpr ⟨List.mem_map_of_mem (f := (·.2)) he, ?_⟩, e1⟩
    simp only [ne_eq, decide_eq_true_eq]
    exact fun hk => hne (e2 ▸ (hki e he).mp hk)

/-- The leaf sits in a context `C`.  The run is one write of the leaf block (`upsState`) and the walk from its
parent.  `Good.plug` replaces the leaf with all indexes kept; its cache entry moves from the old hash to the new one,
which `hc` makes fresh.  `LH.plug` leaves a hole at the parent, which the walk closes. -/
theorem upsert_good (g : Good s t) {idx : Nat} {key : KeyId} {v0 : ValueId} {oh : Hash}
    (hleaf : (idx, key, v0, oh) ∈ t.leaves) {C : List Frame} (ht : t = (IT.leaf idx key v0 oh).plug C)
    (value : ValueId) (nh : Hash) (hc : mapGet s.h2i nh = none ∨ mapGet s.h2i nh = some idx) :
    ∃ S, upsert key value nh s = (.ok (), S) ∧ Good S ((IT.leaf idx key value nh).plug C)
      ∧ (LH s.blocks none t → LH S.blocks none ((IT.leaf idx key value nh).plug C)) := by
  have hlive := (g.live_iff idx).mpr (t.leaf_idx_mem _ hleaf)
  have hg : mapGet s.k2i key = some idx := g.kc.get hleaf
  subst ht
  have hb : s.blocks[idx]? = some { dirty := false, node := .leaf oh (parC none C) key v0 } := g.rep.of_plug
  obtain ⟨_, _, hdis⟩ := IT.nodup_plug.mp g.nodup
  have hne : ∀ j ∈ ctxIdx C, j ≠ idx := fun j hj e => hdis idx (by simp [IT.indices]) j hj e.symm
  have eB : ∀ j, (upsState s idx false oh nh (parC none C) key value).blocks[j]? = _ := upsState_get hlive.1
  have eL : (upsState s idx false oh nh (parC none C) key value).blocks.length = _ := upsState_len hlive.1
  have eF : (upsState s idx false oh nh (parC none C) key value).free = _ := upsState_free hlive.2
  have pl := IT.plug_leaves (IT.leaf idx key v0 oh) C
  have ck := g.kc.congr (List.Perm.refl _) pl
  have ch := g.hc.congr (List.Perm.refl _) pl
  have hi := (List.nodup_cons.mp ((pl.map (·.1)).nodup_iff.mp g.idx_nodup)).1
  have hrun : upsert key value nh s = (match parC none C with | some pi => markLineageDirty pi | none => pure () : M Unit)
      (upsState s idx false oh nh (parC none C) key value) := by
    rw [upsert_run]
    rcases hc with hc | hc
    · simp only [hg, hb, hc, Bool.false_eq_true, if_false]
      rfl
    · simp only [hg, hb, hc, ne_eq, not_true_eq_false, decide_false, Bool.false_eq_true, if_false]
      rfl
  rw [hrun]
  have gT : Good (upsState s idx false oh nh (parC none C) key value) ((IT.leaf idx key value nh).plug C) := by
    refine Good.plug (C := C) (c := IT.leaf idx key v0 oh) (u := IT.leaf idx key value nh) (A := []) (B := []) g rfl
      ((eB idx).trans (if_pos rfl)) (fun j hj => by rw [eB, if_neg (hne j hj)]) (List.Perm.refl _) (List.Perm.refl _)
      List.nodup_nil (by simp) (Nat.le_of_eq eL.symm) (fun j h1 h2 => absurd (eL ▸ h2) (Nat.not_lt.mpr h1))
      (eF ▸ g.freeNodup) (fun j => by simp [eF]) (ck.erase.insert_new (e := (idx, key, value, nh)) (List.nodup_cons.mp ck.nodup).1)
      (ch.erase.insert_new (e := (idx, key, value, nh)) ?_)
      (RangeP.write (g.range.congr (by rfl)) (by exact hlive.1) fun q hq => g.range idx _ hb q hq)
    -- the new hash is not the hash of another leaf
    intro hm
    obtain ⟨e, he, heh⟩ := List.mem_map.mp hm
    have := g.hc.get (pl.mem_iff.mpr (List.mem_cons_of_mem _ he))
    rw [heh] at this
    rcases hc with hc | hc
    · rw [hc] at this; cases this
    · rw [hc] at this
      cases this
      exact hi (List.mem_map_of_mem (f := (·.1)) he)
  cases C with
  | nil => exact ⟨_, rfl, gT, fun _ => trivial⟩
  | cons f C =>
    have hf : f.idx ≠ idx := hne _ (mem_ctxIdx_cons.mpr (Or.inl rfl))
    obtain ⟨⟨dp, ph, hpb⟩, _, _⟩ := Rep.joinI.mp (g.rep.of_plug (C := C) (c := f.fill _))
    obtain ⟨S, eS, gS, hS⟩ := gT.markLineageDirty (i := f.idx)
      ((gT.live_iff _).mpr (IT.mem_plug.mpr (Or.inr (mem_ctxIdx_cons.mpr (Or.inl rfl))))).2
      ⟨_, _, _, _, _, by rw [eB, if_neg hf]; exact hpb⟩
    refine ⟨S, eS, gS, fun hl => hS ?_⟩
    refine LH.plug (C := C) (c := f.fill (IT.leaf idx key v0 oh)) (u := f.fill (IT.leaf idx key value nh)) hl
      (by rw [Frame.fill_idx, Frame.fill_idx])
      (fun j hj => dh_of_get (by rw [eB, if_neg (hne j (mem_ctxIdx_cons.mpr (Or.inr (Or.inr hj))))]))
      (by rw [Frame.fill_idx]; exact dh_of_get (by rw [eB, if_neg hf])) fun h0 => ?_
    refine LH.joinI.mpr ⟨trivial, (LH.congr (fun j hj => dh_of_get ?_) (LH.joinI.mp h0).2.1).weaken _,
      fun hne' => absurd rfl hne'⟩
    rw [eB, if_neg (hne j (mem_ctxIdx_cons.mpr (Or.inr (Or.inl hj))))]

theorem ups_refines {t : Option IT} (hs : SInv s t) (k : KeyId) (v : ValueId) (h : Hash) :
    Refines (.ups k v h) s t := by
  -- an absent key: `upsert` is `insert` at the automatic location, on both levels
  have viaInsert : mapGet s.k2i k = none → (∀ t0, t = some t0 → k ∉ t0.erase.keys) → Refines (.ups k v h) s t := by
    intro hg hk
    have hi := ins_refines hs k v h .auto
    unfold Refines at hi ⊢
    have e1 : step (.ups k v h) s = step (.ins k v h .auto) s := by
      simp only [step, upsert_run, hg]
    have e2 : Tree.step (.ups k v h) (t.map IT.erase) = Tree.step (.ins k v h .auto) (t.map IT.erase) := by
      simp only [Tree.step]
      cases t with
      | none => rfl
      | some t0 => simp only [Option.map_some]; rw [Tree.upsert_absent k v h _ (hk t0 rfl)]
    rw [e1, e2]; exact hi
  cases t with
  | none =>
    simp only [SInv] at hs
    subst hs
    exact viaInsert rfl (fun _ e => by cases e)
  | some t0 =>
    have g : Good s t0 := hs
    cases hg : mapGet s.k2i k with
    | none =>
      exact viaInsert hg (fun t1 e => by
        injection e with e; subst e
        exact (g.key_none_iff k).mp hg)
    | some idx =>
      obtain ⟨v0, oh, hleaf⟩ := g.leaf_of_key hg
      obtain ⟨p, hb⟩ := g.rep.leaf_block hleaf
      have hkm : k ∈ t0.erase.keys := g.key_of_get hg
      by_cases hrej : ∃ other, mapGet s.h2i h = some other ∧ other ≠ idx
      · -- rejected on both levels
        have hL1 := Tree.upsert_reject k v h t0.erase hkm ((g.otherHashes_iff hleaf h).mpr hrej)
        obtain ⟨other, hm, hne⟩ := hrej
        exact Refines.of_fail hs (e := .err)
          (by simp only [step, upsert_run, hg, hb, hm, ne_eq, hne, not_false_eq_true, decide_true, if_true])
          (by simp only [Option.map_some, Tree.step, hL1, Tree.orKeep])
      · have hL1 := Tree.upsert_accept k v h t0.erase hkm (fun hm => hrej ((g.otherHashes_iff hleaf h).mp hm))
        have hc : mapGet s.h2i h = none ∨ mapGet s.h2i h = some idx := by
          cases hm : mapGet s.h2i h with
          | none => exact Or.inl rfl
          | some other =>
            refine Or.inr ?_
            cases Classical.em (other = idx) with
            | inl e => rw [e]
            | inr e => exact absurd ⟨other, hm, e⟩ hrej
        obtain ⟨C, ht⟩ := t0.leaf_plug hleaf
        obtain ⟨S, eS, gS, hS⟩ := upsert_good g hleaf ht v h hc
        subst ht
        exact Refines.of_ok (S := S) (t' := some ((IT.leaf idx k v h).plug C)) eS gS (by
          simp only [Option.map_some, Tree.step, hL1, Tree.orKeep, IT.mapLeaf_plug (x' := IT.leaf idx k v h) g.ctx_key_ne
            (show (IT.leaf idx k v0 oh).erase.mapLeaf k (fun _ => .leaf k v h) = _ from if_pos rfl)]) hS

end ChiaModel.Blob
