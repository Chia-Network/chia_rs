import ChiaModel.Lemmas.FSum
/-
Invariants of the pairing cache and of the lock-granularity thread model (C15).
-/
namespace ChiaModel.Bls

theorem aggregate_sign (ps : List Pair) :
    aggregate (ps.map Pair.sign) = { off := false, terms := (ps.map Pair.pairing).foldl FSum.add [] } := by
  unfold aggregate
  rw [foldl_sigAdd]
  simp [Sig.zero, sign_off, sign_terms, Function.comp_def]

theorem avLoop_eq (ps : List Pair) (acc : GT) :
    avLoop acc ps = if ps.any Pair.isInf then none else some ((ps.map Pair.pairing).foldl FSum.add acc) := by
  induction ps generalizing acc with
  | nil => rfl
  | cons p rest ih =>
    simp only [avLoop, List.any_cons, Pair.isInf, List.map_cons, List.foldl_cons]
    by_cases hp : p.pk = 0
    · simp [hp]
    · simp [hp, ih, Pair.isInf]

theorem any_isInf_false {ps : List Pair} : ps.any Pair.isInf = false ↔ ∀ p ∈ ps, p.pk ≠ 0 := by
  simp [Pair.isInf]

/-- the capacity bound, with the non-zero capacity `NonZeroUsize` guarantees -/
def CapOk (c : Cache) : Prop := 0 < c.cap ∧ c.items.length ≤ c.cap

theorem new_ok {n : Nat} {c : Cache} (h : Cache.new n = some c) : c.cap = n ∧ c.items = [] ∧ CapOk c := by
  unfold Cache.new at h
  split at h
  · cases h
  · injection h with h; subst h
    exact ⟨rfl, rfl, by simp [CapOk]; omega⟩

@[simp] theorem put_cap (c : Cache) (k : Bytes) (v : GT) : (c.put k v).cap = c.cap := rfl
@[simp] theorem remove_cap (c : Cache) (k : Bytes) : (c.remove k).cap = c.cap := rfl

theorem put_items (c : Cache) (k : Bytes) (v : GT) :
    ∃ l, (c.put k v).items = l ++ [(k, v)] ∧ l.Sublist c.items ∧ (∀ e ∈ l, e.1 ≠ k) ∧
      (CapOk c → l.length < c.cap) := by
  refine ⟨_, rfl, ?_, fun e he => by simpa using (List.mem_filter.mp he).2, fun ⟨h0, h1⟩ => ?_⟩
  · refine List.filter_sublist.trans ?_
    split
    · exact List.drop_sublist 1 _
    · exact List.Sublist.refl _
  · refine Nat.lt_of_le_of_lt (List.length_filter_le ..) ?_
    split
    · rw [List.length_drop]; omega
    · omega

theorem put_capOk (c : Cache) (k : Bytes) (v : GT) (h : CapOk c) : CapOk (c.put k v) := by
  obtain ⟨l, hl, _, _, hc⟩ := put_items c k v
  refine ⟨h.1, ?_⟩
  rw [hl, List.length_append]
  exact hc h

theorem remove_capOk (c : Cache) (k : Bytes) (h : CapOk c) : CapOk (c.remove k) :=
  ⟨h.1, Nat.le_trans (List.length_filter_le _ c.items) h.2⟩

theorem evict_inv (P : Cache → Prop) (hrem : ∀ c k, P c → P (c.remove k)) (ps : List Pair) {c : Cache}
    (h : P c) : P (c.evict ps) := by
  unfold Cache.evict
  induction ps generalizing c with
  | nil => exact h
  | cons p rest ih => exact ih (hrem _ _ h)

/-- keys of the association list are pairwise distinct, as in a hash map -/
def KeysNodup (c : Cache) : Prop := (c.items.map (·.1)).Nodup

theorem put_keysNodup (c : Cache) (k : Bytes) (v : GT) (h : KeysNodup c) : KeysNodup (c.put k v) := by
  obtain ⟨l, hl, hsub, hk, _⟩ := put_items c k v
  unfold KeysNodup
  rw [hl, List.map_append, List.nodup_append]
  refine ⟨(hsub.map _).nodup h, by simp, fun a ha b hb => ?_⟩
  obtain ⟨e, he, rfl⟩ := List.mem_map.mp ha
  rw [List.mem_singleton.mp hb]
  exact hk e he

theorem remove_keysNodup (c : Cache) (k : Bytes) (h : KeysNodup c) : KeysNodup (c.remove k) :=
  (List.filter_sublist.map _).nodup h

/-- no two of the finitely many pairs in use collide on the cache key with different pairings
(covers SHA-256 collisions on `pk ‖ msg`; this is a hypothesis, never assumed silently) -/
def CollisionFree (U : List Pair) : Prop :=
  ∀ p ∈ U, ∀ q ∈ U, p.key = q.key → p.pairing = q.pairing

instance (U : List Pair) : Decidable (CollisionFree U) := by unfold CollisionFree; infer_instance

/-- every entry maps `sha256(pk ‖ m)` to `e(pk, H(pk ‖ m))` for one of the pairs in use -/
def CacheSound (U : List Pair) (c : Cache) : Prop :=
  ∀ e ∈ c.items, ∃ p ∈ U, p.key = e.1 ∧ e.2 = p.pairing

theorem sound_empty (U : List Pair) (cap : Nat) : CacheSound U { cap := cap } := by
  intro e he; cases he

theorem put_sound {U : List Pair} {c : Cache} {k : Bytes} {v : GT}
    (hs : CacheSound U c) (hkv : ∃ p ∈ U, p.key = k ∧ v = p.pairing) : CacheSound U (c.put k v) := by
  obtain ⟨l, hl, hsub, _, _⟩ := put_items c k v
  intro e he
  rw [hl] at he
  rcases List.mem_append.mp he with he | he
  · exact hs e (hsub.subset he)
  · rw [List.mem_singleton.mp he]
    exact hkv

theorem remove_sound {U : List Pair} (c : Cache) (k : Bytes) (hs : CacheSound U c) :
    CacheSound U (c.remove k) :=
  fun e he => hs e (List.mem_filter.mp he).1

theorem get_sound {U : List Pair} {c : Cache} {k : Bytes} {v : GT}
    (hs : CacheSound U c) (h : c.get k = some v) : ∃ p ∈ U, p.key = k ∧ v = p.pairing := by
  unfold Cache.get at h
  cases hf : c.items.find? (fun e => decide (e.1 = k)) with
  | none => rw [hf] at h; cases h
  | some e =>
    rw [hf] at h
    injection h with h
    obtain ⟨p, hp, hk, hv⟩ := hs e (List.mem_of_find?_eq_some hf)
    have hk' : e.1 = k := by simpa using List.find?_some hf
    exact ⟨p, hp, hk.trans hk', by rw [← h]; exact hv⟩

/-- `update` is handed the true pairing of the bytes it is told to hash -/
def Truthful (U : List Pair) (es : List (Bytes × GT)) : Prop :=
  ∀ e ∈ es, ∃ p ∈ U, p.aug = e.1 ∧ e.2 = p.pairing

def OpOk (U : List Pair) : Op → Prop
  | .av ps _ => ∀ p ∈ ps, p ∈ U
  | .upd es => Truthful U es
  | .evict _ => True
  | .len => True

def Op.isAv : Op → Bool
  | .av _ _ => true
  | _ => false

/-- What the local state of a thread inside `aggregate_verify` promises.  `inv` is the local flag
`invalid_key`: together with the pairs still to be looked at it accounts for every infinity key of the
list, whatever the cache holds.  `S` stands for "the cache is sound": only then are the elements
yielded so far the true pairings, and is what remains to be looked up or put taken from `U`. -/
def AvOk (S : Prop) (U : List Pair) (op : Op) (sig : Sig) (todo : List Pair) (pending : Option (Bytes × GT))
    (got : List GT) (inv : Bool) : Prop :=
  ∃ ps, op = .av ps sig ∧ (inv || todo.any Pair.isInf) = ps.any Pair.isInf ∧
    (S → (∀ p ∈ todo, p ∈ U) ∧ (∀ e, pending = some e → ∃ p ∈ U, p.key = e.1 ∧ e.2 = p.pairing) ∧
      got ++ todo.map Pair.pairing = ps.map Pair.pairing)

/-- What a thread's local state promises about the call it is executing.  With `S := True` this is the
invariant on a sound cache; with `S := False` it is what holds on ANY cache (no soundness, no
collision-freeness, no capacity bound): a verification that has returned has returned
`aggregate_verify_gt` of SOME elements, and-ed with "no key is the point at infinity". -/
def ThreadOk (S : Prop) (U : List Pair) (t : Thread) : Prop :=
  match t.st with
  | .av sig todo pending got inv => AvOk S U t.op sig todo pending got inv
  | .upd todo => t.op.isAv = false ∧ (S → Truthful U todo)
  | .evict _ => t.op.isAv = false
  | .len => t.op.isAv = false
  | .done o => ∀ ps sig, t.op = .av ps sig → ∃ got, (S → got = ps.map Pair.pairing) ∧
      o = .verdict (aggregateVerifyGt sig got && !(ps.any Pair.isInf))

theorem ThreadOk.verdict {S : Prop} {U : List Pair} {t : Thread} (h : ThreadOk S U t) {ps : List Pair}
    {sig : Sig} {o : Out} (hop : t.op = .av ps sig) (ho : t.st = .done o) :
    ∃ got, (S → got = ps.map Pair.pairing) ∧ o = .verdict (aggregateVerifyGt sig got && !(ps.any Pair.isInf)) := by
  simp only [ThreadOk, ho] at h
  exact h ps sig hop

theorem aggregateVerifyGt_invalid {sig : Sig} (h : sig.isValid = false) (gts : List GT) :
    aggregateVerifyGt sig gts = false := by
  simp [aggregateVerifyGt, h]

theorem avNext_ok {S : Prop} {U : List Pair} {op : Op} {sig : Sig} {todo : List Pair}
    {pending : Option (Bytes × GT)} {got : List GT} {inv : Bool} (h : AvOk S U op sig todo pending got inv) :
    ThreadOk S U ⟨op, avNext sig todo pending got inv⟩ := by
  unfold avNext
  split
  · -- finished
    obtain ⟨ps, hop, hi, hS⟩ := h
    intro ps' sig' hop'
    rw [show op = .av ps sig from hop] at hop'
    injection hop' with e1 e2
    subst e1; subst e2
    simp only [List.any_nil, Bool.or_false] at hi
    refine ⟨got, fun s => ?_, by rw [hi]⟩
    simpa using (hS s).2.2
  · exact h

theorem notAv_done {S : Prop} {U : List Pair} {op : Op} (h : op.isAv = false) (o : Out) :
    ThreadOk S U ⟨op, .done o⟩ := by
  intro ps sig hop
  rw [show op = .av ps sig from hop] at h
  cases h

theorem start_ok {S : Prop} {U : List Pair} {op : Op} (h : S → OpOk U op) : ThreadOk S U (Thread.start op) := by
  cases op with
  | av ps sig =>
    simp only [Thread.start]
    cases hv : sig.isValid with
    | false =>
      simp only [Bool.not_false, if_true, ThreadOk]
      intro ps' sig' hop
      injection hop with e1 e2
      subst e1; subst e2
      exact ⟨_, fun _ => rfl, by rw [aggregateVerifyGt_invalid hv, Bool.false_and]⟩
    | true =>
      simp only [Bool.not_true, Bool.false_eq_true, if_false]
      exact avNext_ok ⟨ps, rfl, by simp, fun s => ⟨h s, nofun, by simp⟩⟩
  | upd es =>
    cases es with
    | nil => exact notAv_done rfl _
    | cons e rest => exact ⟨rfl, h⟩
  | evict ps => exact (rfl : (Op.evict ps).isAv = false)
  | len => exact (rfl : Op.len.isAv = false)

@[simp] theorem step_op (c : Cache) (t : Thread) : (step c t).2.op = t.op := by
  fun_cases step c t <;> rfl

theorem step_cache_inv (P : Cache → Prop) (hput : ∀ c k v, P c → P (c.put k v))
    (hrem : ∀ c k, P c → P (c.remove k)) (c : Cache) (t : Thread) (h : P c) : P (step c t).1 := by
  -- of the nine arms of `step` three touch the cache: the `put` of a computed pairing, `update`, `evict`
  fun_cases step c t <;> try exact h
  · exact hput _ _ _ h
  · exact hput _ _ _ h
  · exact evict_inv P hrem _ h

/-- One atomic step keeps the invariant.  Every assumption about the cache and the pairs in use, collision-freeness
included, stands under `S`: at `S := False` nothing is assumed (`C15.inf_full_prefix`). -/
theorem step_ok {S : Prop} {U : List Pair} (hcf : S → CollisionFree U) {c : Cache} {t : Thread}
    (hs : S → CacheSound U c) (ht : ThreadOk S U t) :
    (S → CacheSound U (step c t).1) ∧ ThreadOk S U (step c t).2 := by
  obtain ⟨op, st⟩ := t
  unfold step
  dsimp only
  split
  · -- put
    obtain ⟨ps, hop, hi, hS⟩ := ht
    exact ⟨fun s => put_sound (hs s) ((hS s).2.1 _ rfl),
      avNext_ok ⟨ps, hop, hi, fun s => ⟨(hS s).1, nofun, (hS s).2.2⟩⟩⟩
  · -- lookup
    rename_i sig p rest got inv
    obtain ⟨ps, hop, hi, hS⟩ := ht
    have hi' : ((inv || p.isInf) || rest.any Pair.isInf) = ps.any Pair.isInf := by
      rw [← hi, List.any_cons, Bool.or_assoc]
    split
    · rename_i v hget
      refine ⟨hs, avNext_ok ⟨ps, hop, hi', fun s => ?_⟩⟩
      obtain ⟨h1, _, hg⟩ := hS s
      obtain ⟨q, hq, hk, hvq⟩ := get_sound (hs s) hget
      have : v = p.pairing := by rw [hvq]; exact hcf s q hq p (h1 p List.mem_cons_self) hk
      subst this
      exact ⟨fun q hq => h1 q (List.mem_cons_of_mem _ hq), nofun, by rw [← hg]; simp⟩
    · refine ⟨hs, avNext_ok ⟨ps, hop, hi', fun s => ?_⟩⟩
      obtain ⟨h1, _, hg⟩ := hS s
      refine ⟨fun q hq => h1 q (List.mem_cons_of_mem _ hq), ?_, by rw [← hg]; simp⟩
      intro e he
      injection he with he
      subst he
      exact ⟨p, h1 p List.mem_cons_self, rfl, rfl⟩
  · exact ⟨hs, avNext_ok ht⟩
  · exact ⟨hs, notAv_done ht.1 _⟩
  · rename_i aug gt rest
    obtain ⟨hna, htr⟩ := ht
    refine ⟨fun s => ?_, ?_⟩
    · obtain ⟨p, hp, ha, hg⟩ := htr s (aug, gt) List.mem_cons_self
      exact put_sound (hs s) ⟨p, hp, by simp only [Pair.key, ha], hg⟩
    · split
      · exact notAv_done hna _
      · exact ⟨hna, fun s e he => htr s e (List.mem_cons_of_mem _ he)⟩
  · exact ⟨fun s => evict_inv _ remove_sound _ (hs s), notAv_done ht _⟩
  · exact ⟨hs, notAv_done ht _⟩
  · exact ⟨hs, ht⟩

/-- what every step of a thread keeps, every schedule keeps -/
theorem runSchedule_inv (P : World → Prop) (hstep : ∀ w i, P w → P (w.stepThread i)) (w : World) (sched : List Nat)
    (h : P w) : P (runSchedule w sched) :=
  List.foldlRecOn sched _ h fun w hw i _ => hstep w i hw

theorem runSchedule_cache_inv (P : Cache → Prop) (hput : ∀ c k v, P c → P (c.put k v))
    (hrem : ∀ c k, P c → P (c.remove k)) (w : World) (sched : List Nat) (h : P w.cache) :
    P (runSchedule w sched).cache := by
  refine runSchedule_inv (fun w => P w.cache) (fun w i h => ?_) w sched h
  unfold World.stepThread
  split
  · exact h
  · exact step_cache_inv P hput hrem _ _ h

def WorldOk (S : Prop) (U : List Pair) (w : World) : Prop :=
  (S → CacheSound U w.cache) ∧ ∀ t ∈ w.threads, ThreadOk S U t

theorem stepThread_ok {S : Prop} {U : List Pair} (hcf : S → CollisionFree U) {w : World} (i : Nat)
    (h : WorldOk S U w) : WorldOk S U (w.stepThread i) := by
  unfold World.stepThread
  split
  · exact h
  · rename_i t hget
    obtain ⟨h1, h2⟩ := step_ok hcf h.1 (h.2 t (List.mem_of_getElem? hget))
    refine ⟨h1, fun t' ht' => ?_⟩
    rcases List.mem_or_eq_of_mem_set ht' with h' | rfl
    · exact h.2 t' h'
    · exact h2

theorem runSchedule_ok {S : Prop} {U : List Pair} (hcf : S → CollisionFree U) (w : World) (sched : List Nat)
    (h : WorldOk S U w) : WorldOk S U (runSchedule w sched) :=
  runSchedule_inv (WorldOk S U) (fun _ i => stepThread_ok hcf i) w sched h

theorem runSchedule_start_ok {S : Prop} {U : List Pair} (hcf : S → CollisionFree U) {c : Cache} {calls : List Op}
    (hs : S → CacheSound U c) (hops : S → ∀ op ∈ calls, OpOk U op) (sched : List Nat) :
    WorldOk S U (runSchedule { cache := c, threads := calls.map Thread.start } sched) := by
  refine runSchedule_ok hcf _ sched ⟨hs, fun t ht => ?_⟩
  obtain ⟨op, hop, rfl⟩ := List.mem_map.mp ht
  exact start_ok (fun s => hops s op hop)

theorem runSchedule_append (w : World) (s1 s2 : List Nat) :
    runSchedule w (s1 ++ s2) = runSchedule (runSchedule w s1) s2 := by
  simp [runSchedule, List.foldl_append]

theorem runAll_eq (w : World) (sched : List Nat) :
    runAll w sched = runSchedule w (sched ++ finishSchedule (runSchedule w sched)) := by
  rw [runSchedule_append]; rfl

theorem stepThread_ops (w : World) (i : Nat) :
    (w.stepThread i).threads.map (·.op) = w.threads.map (·.op) := by
  unfold World.stepThread
  split
  · rfl
  · rename_i t hget
    obtain ⟨hlt, rfl⟩ := List.getElem?_eq_some_iff.mp hget
    have hlt' : i < (w.threads.map (·.op)).length := by rw [List.length_map]; exact hlt
    have e : (w.threads.map (·.op))[i] = w.threads[i].op := List.getElem_map _
    show List.map (·.op) (w.threads.set i _) = _
    rw [List.map_set, step_op, ← e, List.set_getElem_self]

theorem runSchedule_ops (w : World) (sched : List Nat) :
    (runSchedule w sched).threads.map (·.op) = w.threads.map (·.op) :=
  runSchedule_inv (fun w' => w'.threads.map (·.op) = w.threads.map (·.op))
    (fun w' i h => (stepThread_ops w' i).trans h) w sched rfl

theorem runAll_ops (c : Cache) (calls : List Op) (sched : List Nat) :
    (runAll { cache := c, threads := calls.map Thread.start } sched).threads.map (·.op) = calls := by
  rw [runAll_eq, runSchedule_ops, List.map_map]
  exact List.map_id calls

def stepsAt (w : World) (i : Nat) : Nat :=
  match w.threads[i]? with
  | some t => stepsLeft t
  | none => 0

theorem stepsLeft_avNext (sig : Sig) (todo : List Pair) (pending : Option (Bytes × GT)) (got : List GT)
    (inv : Bool) (op : Op) :
    stepsLeft ⟨op, avNext sig todo pending got inv⟩ ≤ 2 * todo.length + (if pending.isSome then 1 else 0) + 1 := by
  unfold avNext
  split
  · exact Nat.zero_le _
  · exact Nat.le_refl _

theorem stepsLeft_step (c : Cache) (t : Thread) : stepsLeft (step c t).2 ≤ stepsLeft t - 1 := by
  obtain ⟨op, st⟩ := t
  unfold step
  dsimp only
  split
  · exact stepsLeft_avNext ..
  · split
    · exact Nat.le_trans (stepsLeft_avNext ..)
        (by simp only [stepsLeft, List.length_cons, Option.isSome_none, reduceIte, Bool.false_eq_true]; omega)
    · exact Nat.le_trans (stepsLeft_avNext ..)
        (by simp only [stepsLeft, List.length_cons, Option.isSome_some, Option.isSome_none, reduceIte,
          Bool.false_eq_true]; omega)
  · exact Nat.zero_le _
  · exact Nat.zero_le _
  · rename_i aug gt rest
    cases rest with
    | nil => exact Nat.zero_le _
    | cons e r => exact Nat.le_refl _
  · exact Nat.zero_le _
  · exact Nat.zero_le _
  · exact Nat.zero_le _

theorem stepsAt_stepThread_self (w : World) (i : Nat) : stepsAt (w.stepThread i) i ≤ stepsAt w i - 1 := by
  unfold World.stepThread stepsAt
  cases hget : w.threads[i]? with
  | none => simp [hget]
  | some t =>
    have hlt := (List.getElem?_eq_some_iff.mp hget).1
    simp [hlt]
    exact stepsLeft_step _ _

theorem stepsAt_stepThread_other (w : World) (i j : Nat) (h : i ≠ j) :
    stepsAt (w.stepThread i) j = stepsAt w j := by
  unfold World.stepThread stepsAt
  cases hget : w.threads[i]? with
  | none => simp
  | some t => simp [h]

theorem stepsAt_runSchedule (w : World) (sched : List Nat) (j : Nat) :
    stepsAt (runSchedule w sched) j ≤ stepsAt w j - sched.count j := by
  unfold runSchedule
  induction sched generalizing w with
  | nil => simp
  | cons i rest ih =>
    simp only [List.foldl_cons]
    have := ih (w.stepThread i)
    by_cases h : i = j
    · subst h
      have h2 := stepsAt_stepThread_self w i
      simp only [List.count_cons_self]
      omega
    · rw [stepsAt_stepThread_other w i j h] at this
      rw [List.count_cons_of_ne h]
      exact this

theorem count_finishFrom (ts : List Thread) (i0 j : Nat) (t : Thread) (h : ts[j]? = some t) :
    stepsLeft t ≤ (finishFrom ts i0).count (i0 + j) := by
  induction ts generalizing i0 j with
  | nil => cases h
  | cons t0 rest ih =>
    simp only [finishFrom, List.count_append]
    cases j with
    | zero =>
      simp only [List.getElem?_cons_zero, Option.some.injEq] at h
      subst h
      simp [List.count_replicate_self]
    | succ j =>
      simp only [List.getElem?_cons_succ] at h
      have := ih (i0 + 1) j h
      have e : i0 + 1 + j = i0 + (j + 1) := by omega
      rw [e] at this
      omega

theorem stepsLeft_zero_iff (t : Thread) : stepsLeft t = 0 ↔ ∃ o, t.st = .done o := by
  unfold stepsLeft
  split <;> simp_all

/-- `finishSchedule` grants every thread the steps it can still need, so none is left afterwards -/
theorem stepsAt_runAll (w : World) (sched : List Nat) (j : Nat) : stepsAt (runAll w sched) j = 0 := by
  have h1 := stepsAt_runSchedule (runSchedule w sched) (finishSchedule (runSchedule w sched)) j
  have h2 : stepsAt (runSchedule w sched) j ≤ (finishSchedule (runSchedule w sched)).count j := by
    unfold stepsAt
    cases h : (runSchedule w sched).threads[j]? with
    | none => exact Nat.zero_le _
    | some t => simpa [finishSchedule] using count_finishFrom _ 0 j t h
  exact Nat.eq_zero_of_le_zero (Nat.le_trans h1 (by omega))

theorem runAll_done (w : World) (sched : List Nat) :
    ∀ t ∈ (runAll w sched).threads, ∃ o, t.st = .done o := by
  intro t ht
  obtain ⟨j, hj⟩ := List.getElem?_of_mem ht
  have := stepsAt_runAll w sched j
  rw [stepsAt, hj] at this
  exact (stepsLeft_zero_iff t).mp this

theorem runHistory_inv (P : Cache → Prop) (ops : List Op) (hop : ∀ op ∈ ops, ∀ c, P c → P (runOp c op).1)
    (c : Cache) (h : P c) :
    P (runHistory c ops).1 ∧ ∀ r ∈ (runHistory c ops).2, ∃ c', P c' ∧ r.2 = c'.len := by
  induction ops generalizing c with
  | nil => exact ⟨h, nofun⟩
  | cons op rest ih =>
    have h1 := hop op List.mem_cons_self c h
    obtain ⟨i1, i2⟩ := ih (fun o ho => hop o (List.mem_cons_of_mem _ ho)) _ h1
    exact ⟨i1, List.forall_mem_cons.mpr ⟨⟨_, h1, rfl⟩, i2⟩⟩

theorem cacheVerify_verdict (c : Cache) (sig : Sig) (ps : List Pair) (b : Bool)
    (h : ∀ t ∈ (runAll { cache := c, threads := [Thread.start (.av ps sig)] } []).threads,
      t.op = .av ps sig → t.st = .done (.verdict b)) : (cacheVerify c sig ps).2 = b := by
  obtain ⟨t, ht, htop⟩ := List.map_eq_singleton_iff.mp (runAll_ops c [.av ps sig] [])
  simp only [List.map_cons, List.map_nil] at ht
  have hst := h t (by rw [ht]; exact List.mem_singleton.mpr rfl) htop
  simp only [cacheVerify, runOp, ht, List.head?_cons, Option.bind_some, Thread.out, hst]

end ChiaModel.Bls
