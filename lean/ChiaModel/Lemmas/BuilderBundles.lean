import ChiaModel.Lemmas.Builders
import ChiaModel.Lemmas.CostAdditive
import ChiaModel.Lemmas.BundlePath
/-
C10: the declared costs a block builder adds up are the execution + condition costs `run_spendbundle` reported
for the bundles (`MpRun`, `Add.From`), and their total is the execution + condition cost of the block built from them.
-/
namespace ChiaModel.Bld
open ChiaModel ChiaModel.Gn ChiaModel.Cond

theorem sum_map_flatMap {α β : Type} (f : β → Nat) (g : α → List β) (l : List α) :
    ((l.flatMap g).map f).sum = (l.map (fun x => ((g x).map f).sum)).sum := by
  induction l with
  | nil => rfl
  | cons a t ih => simp only [List.flatMap_cons, List.map_append, List.sum_append_nat, List.map_cons, List.sum_cons, ih]

theorem sum_map_add {α : Type} (f g : α → Nat) (l : List α) :
    (l.map (fun x => f x + g x)).sum = (l.map f).sum + (l.map g).sum := by
  induction l with
  | nil => rfl
  | cons a t ih => simp only [List.map_cons, List.sum_cons, ih]; omega

theorem sum_map_congr {α : Type} (f g : α → Nat) (l : List α) (h : ∀ x ∈ l, f x = g x) : (l.map f).sum = (l.map g).sum := by
  rw [List.map_congr_left h]

/-- one spend bundle as the mempool validated it: its coin spends, the puzzle runs (`puz j` = the run of the
`j`-th coin spend's puzzle on its solution), the cost limit given, and what `run_spendbundle` returned -/
structure MpRun where
  css : List CoinSpendM
  puz : Nat → RunRes
  limit : Nat
  conds : Bundle
  pairs : List (Bytes × Bytes)

def MpRun.Accepted (p : Params) (r : MpRun) : Prop := runSpendbundle p r.css r.puz r.limit = .ok (r.conds, r.pairs)

/-- the cost the mempool declares to a block builder for this bundle: "only the CLVM execution cost + the cost of
the conditions", not the byte cost -/
def MpRun.declared (r : MpRun) : Nat := r.conds.executionCost + r.conds.conditionCost

theorem MpRun.declared_eq {p : Params} {r : MpRun} (h : r.Accepted p) : r.declared = r.conds.cost - bundleBase p r.css := by
  have := C04.runSpendbundle_cost_decomposition p r.css r.puz r.limit r.conds r.pairs h
  unfold MpRun.declared; omega

def MpRun.items (r : MpRun) : List Sexp := r.css.map item

def MpRun.Oracle (run : Sexp → RunRes) (r : MpRun) : Prop := ∀ j (h : j < r.css.length), r.puz j = run (item r.css[j])

/-- the puzzle runs the validation of the bundle consumed, in order -/
def MpRun.runs (r : MpRun) : List RunRes := oracleVals r.puz 0 r.css.length

theorem MpRun.Oracle.runs_eq {run : Sexp → RunRes} {r : MpRun} (ho : r.Oracle run) : r.runs = r.items.map run := by
  rw [MpRun.items, List.map_map]
  exact oracleVals_eq_map r.puz (fun cs => run (item cs)) r.css 0 (by intro j hj; rw [Nat.zero_add]; exact ho j hj)

/-- a mempool coin spend as the builders see it -/
def toSpend (cs : CoinSpendM) : Spend := { parent := cs.parent, puzzle := cs.puzzle, amount := cs.amount, solution := cs.solution }

theorem item_toSpend (cs : CoinSpendM) : (toSpend cs).item = item cs := rfl

/-- the batch `op` of one `add_spend_bundles` call was assembled from the bundles `rs` the mempool validated:
bundle by bundle the same coin spends, every bundle accepted by `run_spendbundle` (parameters `p`), and the
declared cost of the batch is the sum of the bundles' declared costs -/
structure Add.From (p : Params) (op : Add) (rs : List MpRun) : Prop where
  bundles : op.bundles.map (·.spends) = rs.map (fun r => r.css.map toSpend)
  accepted : ∀ r ∈ rs, r.Accepted p
  cost : op.cost = (rs.map MpRun.declared).sum

theorem flatMap_congr' {α β : Type} {f g : α → List β} {l : List α} (h : ∀ x ∈ l, f x = g x) : l.flatMap f = l.flatMap g := by
  rw [List.flatMap_def, List.flatMap_def, List.map_congr_left h]

theorem Add.From.items_eq {p : Params} {op : Add} {rs : List MpRun} (h : op.From p rs) :
    op.items = (rs.flatMap MpRun.items).reverse := by
  unfold Add.items
  rw [List.flatMap_def, h.bundles, ← List.flatMap_def, List.map_flatMap]
  congr 1
  apply flatMap_congr'
  intro r _
  unfold MpRun.items
  rw [List.map_map]
  rfl

theorem Add.From.flatMap {p : Params} (mp : Add → List MpRun) (acc : List Add) (h : ∀ op ∈ acc, op.From p (mp op)) :
    (∀ r ∈ acc.flatMap mp, r.Accepted p) ∧ (acc.map (·.cost)).sum = ((acc.flatMap mp).map MpRun.declared).sum ∧
    (acc.flatMap Add.items).Perm ((acc.flatMap mp).flatMap MpRun.items) := by
  refine ⟨fun r hr => ?_, ?_, ?_⟩
  · obtain ⟨op, hop, hr⟩ := List.mem_flatMap.mp hr
    exact (h op hop).accepted r hr
  · rw [sum_map_flatMap]
    exact sum_map_congr _ _ _ fun op hop => (h op hop).cost
  · induction acc with
    | nil => exact .nil
    | cons op acc ih =>
      rw [List.flatMap_cons, List.flatMap_cons, List.flatMap_append, (h op List.mem_cons_self).items_eq]
      exact (List.reverse_perm _).append (ih fun o ho => h o (List.mem_cons_of_mem _ ho))

/-- **The execution and the condition cost of an accepted block are the sums of those of the accepted bundles it was
assembled from, whenever the block's puzzle runs are, in any order, the bundles' puzzle runs**: both are sums over the
runs (`native_costs`, `runSpendbundle_costs`).  How the runs are tied together (by a function of the item, by position)
only serves to show the permutation. -/
theorem native_costs_of_runs (p : Params) (rs : List MpRun) (all : List Sexp) (g : GenInput) (c : Nat)
    (puz : Nat → RunRes) (L : Nat) (b : Bundle) (hacc : ∀ r ∈ rs, r.Accepted p)
    (hperm : (oracleVals puz 0 all.length).Perm (rs.flatMap MpRun.runs))
    (hrun : native p g (some (c, .pair (Sexp.ofList all) Sexp.nil)) puz L = .ok b) :
    b.executionCost = c + (rs.map (·.conds.executionCost)).sum ∧
    b.conditionCost = (rs.map (·.conds.conditionCost)).sum ∧
    b.executionCost + b.conditionCost = c + (rs.map MpRun.declared).sum := by
  obtain ⟨e1, e2⟩ := native_costs p g c _ (Sexp.ofList all) puz L b rfl hrun
  have hr (r : MpRun) (hr : r ∈ rs) : r.conds.executionCost = (r.runs.map runExec).sum ∧
      r.conds.conditionCost = (r.runs.map (runCond p.flags)).sum :=
    runSpendbundle_costs p r.css r.puz r.limit r.conds r.pairs (hacc r hr)
  rw [listElems_ofList, (hperm.map _).sum_nat, sum_map_flatMap, sum_map_congr _ _ rs fun r h => (hr r h).1.symm] at e1
  rw [listElems_ofList, (hperm.map _).sum_nat, sum_map_flatMap, sum_map_congr _ _ rs fun r h => (hr r h).2.symm] at e2
  have hd : (rs.map MpRun.declared).sum = (rs.map (·.conds.executionCost)).sum + (rs.map (·.conds.conditionCost)).sum :=
    sum_map_add (·.conds.executionCost) (·.conds.conditionCost) rs
  exact ⟨e1, e2, by rw [e1, e2, hd]; omega⟩

/-- an accepting run as a record (for examples): the result `run_spendbundle` returns, or the empty result -/
def mpRun (p : Params) (css : List CoinSpendM) (puz : Nat → RunRes) (L : Nat) : MpRun :=
  match runSpendbundle p css puz L with
  | .ok (bb, pairs) => { css := css, puz := puz, limit := L, conds := bb, pairs := pairs }
  | .error _ => { css := css, puz := puz, limit := L, conds := {}, pairs := [] }

theorem mpRun_accepted {p : Params} {css : List CoinSpendM} {puz : Nat → RunRes} {L : Nat}
    (h : (runSpendbundle p css puz L).toBool = true) : (mpRun p css puz L).Accepted p := by
  unfold MpRun.Accepted mpRun
  cases h' : runSpendbundle p css puz L with
  | error e => rw [h'] at h; cases h
  | ok q => obtain ⟨bb, pairs⟩ := q; simp only; exact h'

def declares (p : Params) (css : List CoinSpendM) (puz : Nat → RunRes) (L d : Nat) : Bool :=
  match runSpendbundle p css puz L with
  | .ok (bb, _) => decide (bb.executionCost + bb.conditionCost = d)
  | .error _ => false

/-- acceptance and the declared cost from one evaluation of `run_spendbundle` -/
theorem mpRun_checked {p : Params} {css : List CoinSpendM} {puz : Nat → RunRes} {L d : Nat}
    (h : declares p css puz L d = true) :
    (runSpendbundle p css puz L).toBool = true ∧ (mpRun p css puz L).declared = d := by
  unfold declares at h
  unfold mpRun MpRun.declared
  cases hr : runSpendbundle p css puz L with
  | error e => rw [hr] at h; cases h
  | ok q => rw [hr] at h; exact ⟨rfl, of_decide_eq_true h⟩

theorem toBool_ok {ε α : Type} {x : Except ε α} (h : x.toBool = true) : ∃ b, x = .ok b := by
  cases x with
  | error e => cases h
  | ok b => exact ⟨b, rfl⟩

theorem mpRun_css (p : Params) (css : List CoinSpendM) (puz : Nat → RunRes) (L : Nat) : (mpRun p css puz L).css = css := by
  unfold mpRun; split <;> rfl

theorem mpRun_puz (p : Params) (css : List CoinSpendM) (puz : Nat → RunRes) (L : Nat) : (mpRun p css puz L).puz = puz := by
  unfold mpRun; split <;> rfl

theorem oracleVals_congr (puz q : Nat → RunRes) (n i i' : Nat) (h : ∀ j, j < n → puz (i + j) = q (i' + j)) :
    oracleVals puz i n = oracleVals q i' n := by
  rw [oracleVals_eq, oracleVals_eq]
  exact List.ext_getElem (by simp) fun j h1 _ => by simp [h j (by simpa using h1)]

theorem oracleVals_reverse (puz q : Nat → RunRes) (n : Nat) (h : ∀ i, i < n → puz i = q (n - 1 - i)) :
    oracleVals puz 0 n = (oracleVals q 0 n).reverse := by
  rw [oracleVals_range, oracleVals_range]
  apply List.ext_getElem
  · simp only [List.length_map, List.length_range, List.length_reverse]
  · intro i h1 h2
    simp only [List.length_map, List.length_range] at h1
    simp only [List.getElem_map, List.getElem_range, List.getElem_reverse, List.length_map, List.length_range]
    exact h i h1

/-- the bundles' puzzle runs are consecutive segments of the positional oracle `q`, starting at index `i`, in the
order of the list -/
def SegmentsOf (q : Nat → RunRes) : Nat → List MpRun → Prop
  | _, [] => True
  | i, r :: rest => (∀ j, j < r.css.length → r.puz j = q (i + j)) ∧ SegmentsOf q (i + r.css.length) rest

def totalSpends (rs : List MpRun) : Nat := (rs.map (·.css.length)).sum

theorem length_flatMap_items (rs : List MpRun) : (rs.flatMap MpRun.items).length = totalSpends rs := by
  induction rs with
  | nil => rfl
  | cons r rest ih =>
    simp only [List.flatMap_cons, List.length_append, ih, totalSpends, List.map_cons, List.sum_cons, MpRun.items, List.length_map]

theorem SegmentsOf.runs {q : Nat → RunRes} : ∀ (rs : List MpRun) (i : Nat), SegmentsOf q i rs →
    rs.flatMap MpRun.runs = oracleVals q i (totalSpends rs)
  | [], _, _ => rfl
  | r :: rest, i, ⟨h1, h2⟩ => by
    have ht : totalSpends (r :: rest) = r.css.length + totalSpends rest := by
      simp only [totalSpends, List.map_cons, List.sum_cons]
    rw [List.flatMap_cons, SegmentsOf.runs rest _ h2, ht, oracleVals_append]
    exact congrArg (· ++ _) (oracleVals_congr r.puz q r.css.length 0 i (by intro j hj; rw [Nat.zero_add]; exact h1 j hj))

theorem ISt.spends_reversed {p : Params} (mp : Add → List MpRun) (ops : List Add) (s : ISt) (hs0 : s.spends = [])
    (hfrom : ∀ op ∈ s.accepted ops, op.From p (mp op)) :
    (s.run ops).spends = (((s.accepted ops).flatMap mp).flatMap MpRun.items).reverse := by
  rw [ISt.run_spends, hs0, List.append_nil, List.flatMap_assoc, List.flatMap_reverse]
  congr 1
  apply flatMap_congr'
  intro op hop
  rw [Function.comp_apply, (hfrom op hop).items_eq, List.reverse_reverse]

end ChiaModel.Bld
