import ChiaModel.Lemmas.Interned
/-
C10: the two block builders as state machines.  Each builder has one `step_cases` (what a call to `add_spend_bundles` can do,
no hypotheses) and an invariant under which no `u64` sum wraps (`Cfg`, `Add.Small`; `IInv`, `CInv`), so that its guards are
the inequalities they look like; what a history of calls leaves in a field is proved once for any step function (`runWith`,
`acceptedWith`, `runWith_fold`).
-/
namespace ChiaModel.Bld
open ChiaModel ChiaModel.Gn

theorem wadd_exact {a b : Nat} (h : a + b < W) : wadd a b = a + b := Nat.mod_eq_of_lt h
theorem wmul_exact {a b : Nat} (h : a * b < W) : wmul a b = a * b := Nat.mod_eq_of_lt h

theorem wadd2_exact {a b c : Nat} (h : a + b + c < W) : wadd (wadd a b) c = a + b + c := by
  rw [wadd_exact (a := a) (b := b) (by omega), wadd_exact h]
theorem wadd3_exact {a b c d : Nat} (h : a + b + c + d < W) : wadd (wadd (wadd a b) c) d = a + b + c + d := by
  rw [wadd2_exact (a := a) (b := b) (c := c) (by omega), wadd_exact h]
theorem wadd4_exact {a b c d e : Nat} (h : a + b + c + d + e < W) : wadd (wadd (wadd (wadd a b) c) d) e = a + b + c + d + e := by
  rw [wadd3_exact (a := a) (b := b) (c := c) (d := d) (by omega), wadd_exact h]

theorem byteCostOf_exact {n cpb : Nat} (h1 : n + 2 < W) (h2 : (n + 2) * cpb < W) : byteCostOf n cpb = (n + 2) * cpb := by
  unfold byteCostOf; rw [wadd_exact h1]; exact wmul_exact h2

/-- the byte cost the interned builder charges for a list of items, without wrap-around -/
def byteSum (cpb : Nat) (items : List Sexp) : Nat := (items.map (fun it => spendVbytes it * cpb)).sum

theorem byteSum_append (cpb : Nat) (a b : List Sexp) : byteSum cpb (a ++ b) = byteSum cpb a + byteSum cpb b := by
  simp [byteSum, List.sum_append]

theorem byteSum_reverse (cpb : Nat) (a : List Sexp) : byteSum cpb a.reverse = byteSum cpb a := by
  simp [byteSum, List.map_reverse, List.sum_reverse]

theorem foldl_byteCost_exact (cpb : Nat) (items : List Sexp) : ∀ acc, acc + byteSum cpb items < W →
    items.foldl (fun acc it => wadd acc (wmul (spendVbytes it) cpb)) acc = acc + byteSum cpb items := by
  induction items with
  | nil => intro acc _; simp [byteSum]
  | cons it rest ih =>
    intro acc h
    have hs : byteSum cpb (it :: rest) = spendVbytes it * cpb + byteSum cpb rest := by simp [byteSum]
    rw [hs] at h
    rw [List.foldl_cons, wmul_exact (by omega), wadd_exact (by omega), ih _ (by omega), hs]
    omega

theorem newByteCost_exact (cpb : Nat) (items : List Sexp) (h : byteSum cpb items < W) :
    newByteCost cpb items = byteSum cpb items := by
  unfold newByteCost
  rw [foldl_byteCost_exact cpb items 0 (by omega)]; omega

/-! ## hypotheses under which no `u64` sum can wrap -/

/-- the constants: a limit below 2^62 that is at least the cost of the empty generator -/
structure Cfg (floorBytes cpb maxCost : Nat) : Prop where
  max_lt : maxCost < 2 ^ 62
  floor : floorBytes * cpb + quoteCost ≤ maxCost

structure Add.Small (cpb : Nat) (op : Add) : Prop where
  declared : op.cost ≤ 2 ^ 63
  bytes : byteSum cpb op.items ≤ 2 ^ 62
  serBytes : (op.sizeAfter + 2) * cpb ≤ 2 ^ 62     -- (compressed builder: the oracle sizes are sane)
  serSize : op.sizeAfter + 2 ≤ 2 ^ 62

def AllSmall (cpb : Nat) (ops : List Add) : Prop := ∀ op ∈ ops, op.Small cpb

def isAdded : Res → Bool
  | .ok true _ => true
  | _ => false

/-! ## histories, for any step function

Both builders run a history the same way; what a history does to a field that only accepted adds change
is one induction, `runWith_fold`. -/

section history
variable {σ : Type} (step : σ → Add → σ × Res)

def runWith (s : σ) (ops : List Add) : σ := ops.foldl (fun s op => (step s op).1) s

def acceptedWith (s : σ) : List Add → List Add
  | [] => []
  | op :: rest => (if isAdded (step s op).2 then [op] else []) ++ acceptedWith (step s op).1 rest

theorem acceptedWith_sublist : ∀ (ops : List Add) (s : σ), (acceptedWith step s ops).Sublist ops
  | [], _ => .slnil
  | op :: rest, s => by
    unfold acceptedWith
    split
    · exact (acceptedWith_sublist rest _).cons_cons op
    · exact (acceptedWith_sublist rest _).cons op

theorem runWith_const {β : Type} (f : σ → β) (hstep : ∀ s op, f (step s op).1 = f s) :
    ∀ (ops : List Add) (s : σ), f (runWith step s ops) = f s
  | [], _ => rfl
  | op :: rest, s => (runWith_const f hstep rest _).trans (hstep s op)

/-- a field `f` that an accepted add updates by `g` and no other call changes is, after a history, the fold of `g`
over the accepted adds; `Inv` (of the state and the adds still to come) is what the update needs, and is carried along -/
theorem runWith_fold {β : Type} (f : σ → β) (g : β → Add → β) (Inv : σ → List Add → Prop)
    (hstep : ∀ s op rest, Inv s (op :: rest) →
      Inv (step s op).1 rest ∧ f (step s op).1 = if isAdded (step s op).2 then g (f s) op else f s) :
    ∀ (ops : List Add) (s : σ), Inv s ops →
      Inv (runWith step s ops) [] ∧ f (runWith step s ops) = (acceptedWith step s ops).foldl g (f s)
  | [], _, h => ⟨h, rfl⟩
  | op :: rest, s, h => by
    obtain ⟨h1, h2⟩ := hstep s op rest h
    obtain ⟨i1, i2⟩ := runWith_fold f g Inv hstep rest _ h1
    refine ⟨i1, i2.trans ?_⟩
    rw [h2, acceptedWith]
    split <;> rfl

/-- `runWith_fold` for a field whose update needs nothing of the state -/
theorem runWith_fold_of {β : Type} (f : σ → β) (g : β → Add → β)
    (hstep : ∀ s op, f (step s op).1 = if isAdded (step s op).2 then g (f s) op else f s) (ops : List Add) (s : σ) :
    f (runWith step s ops) = (acceptedWith step s ops).foldl g (f s) :=
  (runWith_fold step f g (fun _ _ => True) (fun s op _ _ => ⟨trivial, hstep s op⟩) ops s trivial).2

end history

theorem foldl_append_eq {α β : Type} (f : α → List β) : ∀ (l : List α) (l0 : List β),
    l.foldl (fun acc a => acc ++ f a) l0 = l0 ++ l.flatMap f
  | [], l0 => (List.append_nil l0).symm
  | a :: l, l0 => by rw [List.foldl_cons, foldl_append_eq f l, List.flatMap_cons, List.append_assoc]

theorem foldl_prepend_eq {α β : Type} (f : α → List β) : ∀ (l : List α) (l0 : List β),
    l.foldl (fun acc a => f a ++ acc) l0 = l.reverse.flatMap f ++ l0
  | [], _ => rfl
  | a :: l, l0 => by
    rw [List.foldl_cons, foldl_prepend_eq f l, List.reverse_cons, List.flatMap_append, List.flatMap_singleton,
      List.append_assoc]

theorem foldl_add_eq {α : Type} (f : α → Nat) : ∀ (l : List α) (n : Nat),
    l.foldl (fun acc a => acc + f a) n = n + (l.map f).sum
  | [], _ => rfl
  | a :: l, n => by rw [List.foldl_cons, foldl_add_eq f l, List.map_cons, List.sum_cons, Nat.add_assoc]

theorem ISt.run_nil (s : ISt) : s.run [] = s := by simp only [ISt.run, List.foldl_nil]
theorem ISt.run_cons (s : ISt) (op : Add) (rest : List Add) : s.run (op :: rest) = (s.step op).1.run rest := by
  simp only [ISt.run, List.foldl_cons]
theorem ISt.run_eq (s : ISt) (ops : List Add) : s.run ops = runWith ISt.step s ops := rfl

def ISt.accepted (s : ISt) : List Add → List Add
  | [] => []
  | op :: rest => (if isAdded (s.step op).2 then [op] else []) ++ ISt.accepted (s.step op).1 rest

theorem ISt.accepted_eq : ∀ (ops : List Add) (s : ISt), s.accepted ops = acceptedWith ISt.step s ops
  | [], _ => rfl
  | op :: rest, s => by rw [ISt.accepted, acceptedWith, ISt.accepted_eq rest]

theorem ISt.mem_accepted {op : Add} : ∀ (ops : List Add) (s : ISt), op ∈ s.accepted ops → op ∈ ops := by
  intro ops s h
  rw [ISt.accepted_eq] at h
  exact (acceptedWith_sublist ISt.step ops s).subset h

/-- the two outcomes of `InternedBlockBuilder::add_spend_bundles` (no hypotheses): rejected by one of the four
guards, with every field but `num_skipped` as it was, or past all of them, with the batch added -/
theorem ISt.step_cases (s : ISt) (op : Add) :
    (isAdded (s.step op).2 = false ∧
      (wadd (wadd (wadd s.byteCost s.wrapperCost) s.blockCost) minCostThreshold > s.maxCost ∨
        wadd (wadd (wadd s.byteCost s.wrapperCost) s.blockCost) op.cost > s.maxCost ∨ op.bad = true ∨
        wadd (wadd (wadd (wadd s.byteCost (newByteCost s.cpb op.items.reverse)) s.wrapperCost) s.blockCost) op.cost > s.maxCost) ∧
      ∃ n, (s.step op).1 = { s with numSkipped := n }) ∨
    (isAdded (s.step op).2 = true ∧
      ¬ wadd (wadd (wadd s.byteCost s.wrapperCost) s.blockCost) minCostThreshold > s.maxCost ∧
      ¬ wadd (wadd (wadd s.byteCost s.wrapperCost) s.blockCost) op.cost > s.maxCost ∧ op.bad = false ∧
      ¬ wadd (wadd (wadd (wadd s.byteCost (newByteCost s.cpb op.items.reverse)) s.wrapperCost) s.blockCost) op.cost > s.maxCost ∧
      (s.step op).1 = { s with byteCost := wadd s.byteCost (newByteCost s.cpb op.items.reverse), spends := op.items ++ s.spends,
                               blockCost := wadd s.blockCost op.cost, sig := s.sig ++ op.tags }) := by
  fun_cases ISt.step s op with
  | case1 _ c1 => exact Or.inl ⟨rfl, Or.inl c1, _, rfl⟩
  | case2 _ _ c2 => exact Or.inl ⟨rfl, Or.inr (Or.inl c2), _, rfl⟩
  | case3 _ _ _ c3 => exact Or.inl ⟨rfl, Or.inr (Or.inr (Or.inl c3)), _, rfl⟩
  | case4 _ _ _ _ _ c4 => exact Or.inl ⟨rfl, Or.inr (Or.inr (Or.inr c4)), _, rfl⟩
  | case5 _ c1 c2 c3 _ c4 => exact Or.inr ⟨rfl, c1, c2, Bool.eq_false_iff.mpr c3, c4, rfl⟩

/-- what a call does to the fields that only an accepted add changes, in the form `runWith_fold` reads -/
theorem ISt.step_obs (s : ISt) (op : Add) :
    (s.step op).1.spends = (if isAdded (s.step op).2 then op.items ++ s.spends else s.spends) ∧
    (s.step op).1.sig = (if isAdded (s.step op).2 then s.sig ++ op.tags else s.sig) ∧
    (s.step op).1.cpb = s.cpb ∧ (s.step op).1.maxCost = s.maxCost ∧
    (s.step op).1.blockCost = (if isAdded (s.step op).2 then wadd s.blockCost op.cost else s.blockCost) := by
  fun_cases ISt.step s op <;> exact ⟨rfl, rfl, rfl, rfl, rfl⟩

theorem ISt.run_cpb (ops : List Add) (s : ISt) : (s.run ops).cpb = s.cpb :=
  runWith_const ISt.step ISt.cpb (fun s op => (s.step_obs op).2.2.1) ops s

theorem ISt.run_maxCost (ops : List Add) (s : ISt) : (s.run ops).maxCost = s.maxCost :=
  runWith_const ISt.step ISt.maxCost (fun s op => (s.step_obs op).2.2.2.1) ops s

theorem ISt.run_spends (ops : List Add) (s : ISt) :
    (s.run ops).spends = ((s.accepted ops).reverse.flatMap Add.items) ++ s.spends := by
  rw [ISt.run_eq, ISt.accepted_eq, ← foldl_prepend_eq]
  exact runWith_fold_of ISt.step ISt.spends (fun acc op => op.items ++ acc) (fun s op => (s.step_obs op).1) ops s

theorem ISt.run_sig (ops : List Add) (s : ISt) : (s.run ops).sig = s.sig ++ (s.accepted ops).flatMap Add.tags := by
  rw [ISt.run_eq, ISt.accepted_eq, ← foldl_append_eq]
  exact runWith_fold_of ISt.step ISt.sig (fun acc op => acc ++ op.tags) (fun s op => (s.step_obs op).2.1) ops s

structure IInv (s : ISt) : Prop where
  max_lt : s.maxCost < 2 ^ 62
  bytes : s.byteCost = byteSum s.cpb s.spends
  bound : s.byteCost + wrapperVbytes * s.cpb + s.blockCost ≤ s.maxCost

theorem IInv.init {cpb maxCost : Nat} (h : Cfg wrapperVbytes cpb maxCost) : IInv (ISt.init cpb maxCost) := by
  refine ⟨h.max_lt, ?_, ?_⟩
  · simp [ISt.init, byteSum]
  · have := h.floor
    simp only [ISt.init]; omega

theorem IInv.guards {s : ISt} (hi : IInv s) {op : Add} (hs : op.Small s.cpb) :
    s.wrapperCost = wrapperVbytes * s.cpb ∧
    wadd (wadd (wadd s.byteCost s.wrapperCost) s.blockCost) minCostThreshold = s.byteCost + wrapperVbytes * s.cpb + s.blockCost + minCostThreshold ∧
    wadd (wadd (wadd s.byteCost s.wrapperCost) s.blockCost) op.cost = s.byteCost + wrapperVbytes * s.cpb + s.blockCost + op.cost ∧
    wadd s.byteCost (newByteCost s.cpb op.items.reverse) = s.byteCost + byteSum s.cpb op.items ∧
    wadd (wadd (wadd (wadd s.byteCost (newByteCost s.cpb op.items.reverse)) s.wrapperCost) s.blockCost) op.cost
      = s.byteCost + byteSum s.cpb op.items + wrapperVbytes * s.cpb + s.blockCost + op.cost ∧
    wadd s.blockCost op.cost = s.blockCost + op.cost := by
  have h1 := hi.max_lt
  have h2 := hi.bound
  have h3 := hs.declared
  have h4 := hs.bytes
  have hw : s.wrapperCost = wrapperVbytes * s.cpb := by
    unfold ISt.wrapperCost; apply wmul_exact; simp only [W]; omega
  have hn : newByteCost s.cpb op.items.reverse = byteSum s.cpb op.items := by
    rw [newByteCost_exact _ _ (by rw [byteSum_reverse]; simp only [W]; omega), byteSum_reverse]
  have hmin : minCostThreshold = 6000000 := rfl
  rw [hw, hn]
  have hW : W = 2 ^ 64 := rfl
  refine ⟨rfl, ?_, ?_, ?_, ?_, ?_⟩
  · exact wadd3_exact (by omega)
  · exact wadd3_exact (by omega)
  · exact wadd_exact (by omega)
  · exact wadd4_exact (by omega)
  · exact wadd_exact (by omega)

/-- the interned step, as a specification: accepted iff the near-full guard does not fire, the reveals
decode, and the TRUE total (old estimate + the batch's own weight + declared cost) is within the limit -/
theorem ISt.step_spec {s : ISt} (hi : IInv s) {op : Add} (hs : op.Small s.cpb) :
    isAdded (s.step op).2 = true ↔
      (¬ s.byteCost + wrapperVbytes * s.cpb + s.blockCost + minCostThreshold > s.maxCost ∧ op.bad = false ∧
       s.byteCost + byteSum s.cpb op.items + wrapperVbytes * s.cpb + s.blockCost + op.cost ≤ s.maxCost) := by
  obtain ⟨_, g1, g2, _, g4, _⟩ := hi.guards hs
  rw [← g1, ← g4]
  rcases s.step_cases op with ⟨a, c, _⟩ | ⟨a, c1, _, c3, c4, _⟩ <;> rw [a]
  · refine ⟨fun h => Bool.noConfusion h, fun ⟨n1, n3, n4⟩ => ?_⟩
    rcases c with c | c | c | c
    · exact absurd c n1
    · rw [g2] at c; rw [g4] at n4; omega
    · rw [c] at n3; cases n3
    · omega
  · exact ⟨fun _ => ⟨c1, c3, by omega⟩, fun _ => rfl⟩

theorem IInv.step {s : ISt} (hi : IInv s) {op : Add} (hs : op.Small s.cpb) : IInv (s.step op).1 := by
  obtain ⟨_, _, _, g3, g4, g5⟩ := hi.guards hs
  have hb := hi.bytes
  rcases s.step_cases op with ⟨_, _, _, e⟩ | ⟨_, _, _, _, c4, e⟩ <;> rw [e]
  · exact ⟨hi.max_lt, hi.bytes, hi.bound⟩
  · rw [g4] at c4
    refine ⟨hi.max_lt, ?_, ?_⟩
    · show wadd s.byteCost (newByteCost s.cpb op.items.reverse) = byteSum s.cpb (op.items ++ s.spends)
      rw [g3, byteSum_append, hb]; omega
    · show wadd s.byteCost (newByteCost s.cpb op.items.reverse) + wrapperVbytes * s.cpb + wadd s.blockCost op.cost ≤ s.maxCost
      rw [g3, g5]; omega

theorem IInv.run (ops : List Add) {s : ISt} (hi : IInv s) (hs : AllSmall s.cpb ops) :
    IInv (s.run ops) ∧ (s.run ops).blockCost = s.blockCost + ((s.accepted ops).map (·.cost)).sum := by
  rw [ISt.run_eq, ISt.accepted_eq, ← foldl_add_eq]
  refine (runWith_fold ISt.step ISt.blockCost _ (fun s ops => IInv s ∧ AllSmall s.cpb ops) ?_ ops s ⟨hi, hs⟩).imp And.left id
  intro s op rest ⟨hi, hs⟩
  have hsm := hs op List.mem_cons_self
  obtain ⟨_, _, o3, _, o5⟩ := s.step_obs op
  obtain ⟨_, _, _, _, _, gcost⟩ := hi.guards hsm
  refine ⟨⟨hi.step hsm, fun o ho => ?_⟩, ?_⟩
  · rw [o3]; exact hs o (List.mem_cons_of_mem _ ho)
  · rw [o5, gcost]

theorem byteSum_eq (cpb : Nat) (l : List Sexp) : byteSum cpb l = (l.map (fun it => internedVbytes it + 3)).sum * cpb := by
  induction l with
  | nil => simp [byteSum]
  | cons a l ih =>
    have : byteSum cpb (a :: l) = spendVbytes a * cpb + byteSum cpb l := by simp [byteSum]
    rw [this, ih]; simp only [List.map_cons, List.sum_cons, Nat.add_mul, spendVbytes, costCons]

theorem IInv.final_le {s : ISt} (hi : IInv s) :
    s.finalCost = internedVbytes (generator s.spends) * s.cpb + s.blockCost ∧
    s.cost = s.byteCost + wrapperVbytes * s.cpb + s.blockCost ∧
    s.finalCost ≤ s.cost ∧ s.cost ≤ s.maxCost := by
  have h1 := hi.max_lt
  have h2 := hi.bound
  have hg := generator_bound s.spends
  have hsum := byteSum_eq s.cpb s.spends
  have hmul : internedVbytes (generator s.spends) * s.cpb ≤ (11 + (s.spends.map (fun it => internedVbytes it + 3)).sum) * s.cpb :=
    Nat.mul_le_mul_right _ hg
  rw [Nat.add_mul, ← hsum, ← hi.bytes] at hmul
  have hw : wrapperVbytes = 11 := rfl
  rw [hw] at h2
  have hW : W = 2 ^ 64 := rfl
  have e1 : s.finalCost = internedVbytes (generator s.spends) * s.cpb + s.blockCost := by
    unfold ISt.finalCost
    rw [wmul_exact (by omega)]; exact wadd_exact (by omega)
  have e2 : s.cost = s.byteCost + wrapperVbytes * s.cpb + s.blockCost := by
    unfold ISt.cost
    rw [hw, wmul_exact (by omega)]; exact wadd2_exact (by omega)
  refine ⟨e1, e2, ?_, ?_⟩
  · rw [e1, e2, hw]; omega
  · rw [e2, hw]; omega

theorem ISt.finalize_eq {s : ISt} (h : s.finalCost ≤ s.maxCost) :
    s.finalize = some (generator s.spends, s.sig, s.finalCost) :=
  if_pos h

theorem ISt.finalize_some {s : ISt} {r : Sexp × List Nat × Nat} (h : s.finalize = some r) :
    r = (generator s.spends, s.sig, s.finalCost) := by
  unfold ISt.finalize at h
  simp only [] at h
  split at h
  · exact (Option.some.inj h).symm
  · cases h

theorem CSt.run_nil (s : CSt) : s.run [] = s := by simp only [CSt.run, List.foldl_nil]
theorem CSt.run_cons (s : CSt) (op : Add) (rest : List Add) : s.run (op :: rest) = (s.step op).1.run rest := by
  simp only [CSt.run, List.foldl_cons]
theorem CSt.run_eq (s : CSt) (ops : List Add) : s.run ops = runWith CSt.step s ops := rfl

def CSt.accepted (s : CSt) : List Add → List Add
  | [] => []
  | op :: rest => (if isAdded (s.step op).2 then [op] else []) ++ CSt.accepted (s.step op).1 rest

theorem CSt.accepted_eq : ∀ (ops : List Add) (s : CSt), s.accepted ops = acceptedWith CSt.step s ops
  | [], _ => rfl
  | op :: rest, s => by rw [CSt.accepted, acceptedWith, CSt.accepted_eq rest]

theorem CSt.mem_accepted {op : Add} : ∀ (ops : List Add) (s : CSt), op ∈ s.accepted ops → op ∈ ops := by
  intro ops s h
  rw [CSt.accepted_eq] at h
  exact (acceptedWith_sublist CSt.step ops s).subset h

/-- the three outcomes of `BlockBuilder::add_spend_bundles` (no hypotheses): rejected before serialization, with
every field but `num_skipped` as it was; rejected after it, with size and `byte_cost` those of the restored
serializer; or past all four guards, with the batch added -/
theorem CSt.step_cases (s : CSt) (op : Add) :
    (isAdded (s.step op).2 = false ∧
      (wadd (wadd s.byteCost s.blockCost) minCostThreshold > s.maxCost ∨
        wadd (wadd s.byteCost s.blockCost) op.cost > s.maxCost ∨ op.bad = true) ∧
      ∃ n, (s.step op).1 = { s with numSkipped := n }) ∨
    (isAdded (s.step op).2 = false ∧
      wadd (wadd (byteCostOf op.sizeAfter s.cpb) s.blockCost) op.cost > s.maxCost ∧
      (s.step op).1 = { s with size := op.sizeRestored, byteCost := byteCostOf op.sizeRestored s.cpb,
                               numSkipped := s.numSkipped + 1 }) ∨
    (isAdded (s.step op).2 = true ∧
      ¬ wadd (wadd s.byteCost s.blockCost) minCostThreshold > s.maxCost ∧
      ¬ wadd (wadd s.byteCost s.blockCost) op.cost > s.maxCost ∧ op.bad = false ∧
      ¬ wadd (wadd (byteCostOf op.sizeAfter s.cpb) s.blockCost) op.cost > s.maxCost ∧
      (s.step op).1 = { s with size := op.sizeAfter, byteCost := byteCostOf op.sizeAfter s.cpb, spends := s.spends ++ op.items,
                               blockCost := wadd s.blockCost op.cost, sig := s.sig ++ op.tags }) := by
  fun_cases CSt.step s op with
  | case1 c1 => exact Or.inl ⟨rfl, Or.inl c1, _, rfl⟩
  | case2 _ c2 => exact Or.inl ⟨rfl, Or.inr (Or.inl c2), _, rfl⟩
  | case3 _ _ c3 => exact Or.inl ⟨rfl, Or.inr (Or.inr c3), _, rfl⟩
  | case4 _ _ _ _ c4 => exact Or.inr (Or.inl ⟨rfl, c4, rfl⟩)
  | case5 c1 c2 c3 _ c4 => exact Or.inr (Or.inr ⟨rfl, c1, c2, Bool.eq_false_iff.mpr c3, c4, rfl⟩)

theorem CSt.step_obs (s : CSt) (op : Add) :
    (s.step op).1.spends = (if isAdded (s.step op).2 then s.spends ++ op.items else s.spends) ∧
    (s.step op).1.sig = (if isAdded (s.step op).2 then s.sig ++ op.tags else s.sig) ∧
    (s.step op).1.cpb = s.cpb ∧ (s.step op).1.maxCost = s.maxCost ∧
    (s.step op).1.blockCost = (if isAdded (s.step op).2 then wadd s.blockCost op.cost else s.blockCost) := by
  fun_cases CSt.step s op <;> exact ⟨rfl, rfl, rfl, rfl, rfl⟩

theorem CSt.run_cpb (ops : List Add) (s : CSt) : (s.run ops).cpb = s.cpb :=
  runWith_const CSt.step CSt.cpb (fun s op => (s.step_obs op).2.2.1) ops s

theorem CSt.run_maxCost (ops : List Add) (s : CSt) : (s.run ops).maxCost = s.maxCost :=
  runWith_const CSt.step CSt.maxCost (fun s op => (s.step_obs op).2.2.2.1) ops s

theorem CSt.run_spends (ops : List Add) (s : CSt) : (s.run ops).spends = s.spends ++ (s.accepted ops).flatMap Add.items := by
  rw [CSt.run_eq, CSt.accepted_eq, ← foldl_append_eq]
  exact runWith_fold_of CSt.step CSt.spends (fun acc op => acc ++ op.items) (fun s op => (s.step_obs op).1) ops s

theorem CSt.run_sig (ops : List Add) (s : CSt) : (s.run ops).sig = s.sig ++ (s.accepted ops).flatMap Add.tags := by
  rw [CSt.run_eq, CSt.accepted_eq, ← foldl_append_eq]
  exact runWith_fold_of CSt.step CSt.sig (fun acc op => acc ++ op.tags) (fun s op => (s.step_obs op).2.1) ops s

/-- the byte cost mirrors the serializer: `byte_cost = (size + 2)·cost_per_byte`, within the limit -/
def CSt.Synced (s : CSt) : Prop := s.byteCost = (s.size + 2) * s.cpb ∧ s.byteCost + s.blockCost ≤ s.maxCost
/-- no attempt has reached the serializer yet: `byte_cost` is still 0 -/
def CSt.Fresh (s : CSt) : Prop := s.byteCost = 0 ∧ s.size = 3 ∧ s.blockCost = quoteCost

structure CInv (s : CSt) : Prop where
  max_lt : s.maxCost < 2 ^ 62
  floor : 5 * s.cpb + quoteCost ≤ s.maxCost
  state : s.Synced ∨ s.Fresh

theorem CInv.init {cpb maxCost : Nat} (h : Cfg 5 cpb maxCost) : CInv (CSt.init cpb maxCost) :=
  ⟨h.max_lt, h.floor, Or.inr ⟨rfl, rfl, rfl⟩⟩

theorem CInv.sum_le {s : CSt} (hi : CInv s) : s.byteCost + s.blockCost ≤ s.maxCost := by
  rcases hi.state with h | h
  · exact h.2
  · have := hi.floor; rw [h.1, h.2.2]; omega

theorem CInv.guards {s : CSt} (hi : CInv s) {op : Add} (hs : op.Small s.cpb) (hc : SerContract s op) :
    wadd (wadd s.byteCost s.blockCost) minCostThreshold = s.byteCost + s.blockCost + minCostThreshold ∧
    wadd (wadd s.byteCost s.blockCost) op.cost = s.byteCost + s.blockCost + op.cost ∧
    byteCostOf op.sizeAfter s.cpb = (op.sizeAfter + 2) * s.cpb ∧
    wadd (wadd (byteCostOf op.sizeAfter s.cpb) s.blockCost) op.cost = (op.sizeAfter + 2) * s.cpb + s.blockCost + op.cost ∧
    byteCostOf op.sizeRestored s.cpb = (s.size + 2) * s.cpb ∧
    wadd s.blockCost op.cost = s.blockCost + op.cost := by
  have h0 := hi.sum_le
  have h1 := hi.max_lt
  have h3 := hs.declared
  have h4 := hs.serBytes
  have h5 := hs.serSize
  have hW : W = 2 ^ 64 := rfl
  have hmin : minCostThreshold = 6000000 := rfl
  have hb : byteCostOf op.sizeAfter s.cpb = (op.sizeAfter + 2) * s.cpb := byteCostOf_exact (by omega) (by omega)
  have hle : (s.size + 2) * s.cpb ≤ (op.sizeAfter + 2) * s.cpb := Nat.mul_le_mul_right _ (by have := hc.size_monotone; omega)
  have hr : byteCostOf op.sizeRestored s.cpb = (s.size + 2) * s.cpb := by
    rw [hc.restore_undoes]; exact byteCostOf_exact (by have := hc.size_monotone; omega) (by omega)
  refine ⟨wadd2_exact (by omega), wadd2_exact (by omega), hb, ?_, hr, wadd_exact (by omega)⟩
  rw [hb]; exact wadd2_exact (by omega)

theorem CInv.step {s : CSt} (hi : CInv s) {op : Add} (hs : op.Small s.cpb) (hc : SerContract s op) : CInv (s.step op).1 := by
  obtain ⟨_, _, g3, g4, g5, g6⟩ := hi.guards hs hc
  have hf := hi.floor
  rcases s.step_cases op with ⟨_, _, _, e⟩ | ⟨_, _, e⟩ | ⟨_, _, _, _, c4, e⟩ <;> rw [e]
  · exact ⟨hi.max_lt, hi.floor, hi.state⟩
  · refine ⟨hi.max_lt, hi.floor, Or.inl ⟨?_, ?_⟩⟩
    · show byteCostOf op.sizeRestored s.cpb = (op.sizeRestored + 2) * s.cpb
      rw [g5, hc.restore_undoes]
    · show byteCostOf op.sizeRestored s.cpb + s.blockCost ≤ s.maxCost
      rw [g5]
      rcases hi.state with h | h
      · rw [← h.1]; exact h.2
      · rw [h.2.1, h.2.2]; omega
  · rw [g4] at c4
    refine ⟨hi.max_lt, hi.floor, Or.inl ⟨g3, ?_⟩⟩
    show byteCostOf op.sizeAfter s.cpb + wadd s.blockCost op.cost ≤ s.maxCost
    rw [g3, g6]; omega

theorem CInv.finalize {s : CSt} (hi : CInv s) {f : Nat} (hf : FinContract s f) :
    ∃ r, s.finalize f = some r ∧ r.2.2 = s.blockCost + f * s.cpb ∧ r.2.2 ≤ s.maxCost ∧ (s.Synced → r.2.2 ≤ s.cost) := by
  have h1 := hi.max_lt
  have h2 := hi.floor
  have hW : W = 2 ^ 64 := rfl
  have hle : f * s.cpb ≤ (s.size + 2) * s.cpb := Nat.mul_le_mul_right _ hf
  have hbound : s.blockCost + f * s.cpb ≤ s.maxCost := by
    rcases hi.state with h | h
    · have := h.1; have := h.2; omega
    · rw [h.2.1] at hle; rw [h.2.2]; omega
  have e : wadd s.blockCost (wmul f s.cpb) = s.blockCost + f * s.cpb := by
    rw [wmul_exact (by omega)]; exact wadd_exact (by omega)
  refine ⟨(generator s.spends, s.sig, s.blockCost + f * s.cpb), ?_, rfl, hbound, ?_⟩
  · unfold CSt.finalize; simp only [e]; rw [if_pos hbound]
  · intro hsync
    have := hsync.1; have := hsync.2
    have ec : s.cost = s.byteCost + s.blockCost := by unfold CSt.cost; exact wadd_exact (by omega)
    simp only; rw [ec]; omega

theorem CSt.finalize_some {s : CSt} {f : Nat} {r : Sexp × List Nat × Nat} (h : s.finalize f = some r) :
    r = (generator s.spends, s.sig, wadd s.blockCost (wmul f s.cpb)) := by
  unfold CSt.finalize at h
  simp only [] at h
  split at h
  · exact (Option.some.inj h).symm
  · cases h

def ContractAlong (s : CSt) : List Add → Prop
  | [] => True
  | op :: rest => SerContract s op ∧ ContractAlong (s.step op).1 rest

theorem CInv.run (ops : List Add) {s : CSt} (hi : CInv s) (hs : AllSmall s.cpb ops) (hc : ContractAlong s ops) :
    CInv (s.run ops) ∧ (s.run ops).blockCost = s.blockCost + ((s.accepted ops).map (·.cost)).sum := by
  rw [CSt.run_eq, CSt.accepted_eq, ← foldl_add_eq]
  refine (runWith_fold CSt.step CSt.blockCost _ (fun s ops => CInv s ∧ AllSmall s.cpb ops ∧ ContractAlong s ops) ?_
    ops s ⟨hi, hs, hc⟩).imp And.left id
  intro s op rest ⟨hi, hs, hc⟩
  have hsm := hs op List.mem_cons_self
  obtain ⟨_, _, o3, _, o5⟩ := s.step_obs op
  obtain ⟨_, _, _, _, _, gcost⟩ := hi.guards hsm hc.1
  refine ⟨⟨hi.step hsm hc.1, fun o ho => ?_, hc.2⟩, ?_⟩
  · rw [o3]; exact hs o (List.mem_cons_of_mem _ ho)
  · rw [o5, gcost]

/-- equal in everything but `num_skipped` -/
def ISt.Same (s t : ISt) : Prop :=
  s.spends = t.spends ∧ s.sig = t.sig ∧ s.blockCost = t.blockCost ∧ s.byteCost = t.byteCost ∧ s.cpb = t.cpb ∧ s.maxCost = t.maxCost

theorem ISt.Same.refl (s : ISt) : s.Same s := ⟨rfl, rfl, rfl, rfl, rfl, rfl⟩

theorem ISt.Same.step {s t : ISt} (h : s.Same t) (op : Add) :
    (s.step op).1.Same (t.step op).1 ∧ isAdded (s.step op).2 = isAdded (t.step op).2 := by
  obtain ⟨e1, e2, e3, e4, e5, e6⟩ := h
  have hw : s.wrapperCost = t.wrapperCost := by unfold ISt.wrapperCost; rw [e5]
  -- the guards read the same fields of `s` and of `t`, so the two calls take the same exit
  rcases s.step_cases op with ⟨a, c, _, e⟩ | ⟨a, c1, c2, c3, c4, e⟩ <;>
    rcases t.step_cases op with ⟨a', c', _, e'⟩ | ⟨a', c1', c2', c3', c4', e'⟩
  · rw [e, e', a, a']; exact ⟨⟨e1, e2, e3, e4, e5, e6⟩, rfl⟩
  · rw [e4, hw, e3, e6, e5] at c
    rcases c with c | c | c | c
    · exact absurd c c1'
    · exact absurd c c2'
    · rw [c] at c3'; cases c3'
    · exact absurd c c4'
  · rw [← e4, ← hw, ← e3, ← e6, ← e5] at c'
    rcases c' with c | c | c | c
    · exact absurd c c1
    · exact absurd c c2
    · rw [c] at c3; cases c3
    · exact absurd c c4
  · rw [e, e', a, a']
    exact ⟨⟨by simp only [e1], by simp only [e2], by simp only [e3], by simp only [e4, e5], e5, e6⟩, rfl⟩

theorem ISt.Same.run (ops : List Add) : ∀ {s t : ISt}, s.Same t →
    (s.run ops).Same (t.run ops) ∧ (s.accepted ops) = (t.accepted ops) := by
  induction ops with
  | nil => intro s t h; exact ⟨h, rfl⟩
  | cons op rest ih =>
    intro s t h
    obtain ⟨h1, h2⟩ := h.step op
    obtain ⟨i1, i2⟩ := ih h1
    simp only [ISt.run_cons, ISt.accepted]
    exact ⟨i1, by rw [h2, i2]⟩

theorem ISt.Same.finalize {s t : ISt} (h : s.Same t) : s.finalize = t.finalize ∧ s.cost = t.cost := by
  obtain ⟨e1, e2, e3, e4, e5, e6⟩ := h
  unfold ISt.finalize ISt.cost
  simp only [e1, e2, e3, e4, e5, e6]
  exact ⟨trivial, trivial⟩

theorem Mon.eval_append {M : Type} (m : Mon M) (f : Nat → M) (a b : List Nat) :
    m.eval f (a ++ b) = m.mul (m.eval f a) (m.eval f b) := by
  induction a with
  | nil => simp [Mon.eval, m.one_mul]
  | cons x a ih =>
    have : m.eval f (x :: a ++ b) = m.mul (f x) (m.eval f (a ++ b)) := rfl
    rw [this, ih, ← m.mul_assoc]; rfl

end ChiaModel.Bld
