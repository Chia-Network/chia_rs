import ChiaModel.Lemmas.FastPaths
/-
The loop of `SpendBundle::additions` (model `bundleAddLoop`) against the mempool path (`bundleLoop`),
`bundleAddLoop_of_bundleLoop`: on spends that the bundle loop accepts, with amounts below 2^64 and puzzle outputs
that have no pair in an opcode position, the convenience scan succeeds — its own cost countdown stays above the
validation countdown, because validation charges every CREATE_COIN at least 1 350 000 — and lists exactly the created
coins of the validated spends.
-/
namespace ChiaModel.Gn
open ChiaModel ChiaModel.Cond

/-- what `SpendBundle::additions` lists for one validated spend -/
def adds3 (sp : Spend) : List (Bytes × Bytes × Nat) := sp.createCoin.map (fun nc => (sp.coinId, nc.ph, nc.amount))

theorem u64FromClvm_of_sanitize {ab : Bytes} {v : Nat} (h : sanitizeUint ab 8 = .ok v) : u64FromClvm ab = some v :=
  C11.decodeNumber_of_sanitize h

theorem preCharge_cc_ge (flags : Nat) : ADDITIONS_CREATE_COIN_COST ≤ preCharge flags Gen.opCreateCoin := by
  unfold preCharge
  rw [if_pos rfl]
  split <;> decide

theorem noPairOpcode_pair {c nxt : Sexp} (h : noPairOpcode (.pair c nxt) = true) :
    (∀ a b args, c ≠ .pair (.pair a b) args) ∧ noPairOpcode nxt = true := by
  simp only [noPairOpcode, Bool.and_eq_true] at h
  refine ⟨?_, h.2⟩
  intro a b args hc
  subst hc
  simp at h

theorem bundleScan_skip (id : Bytes) {buf : Bytes} (args nxt : Sexp) (M : Nat) (h : Sexp.atom buf ≠ .atom [51]) :
    bundleScan id (.pair (.pair (.atom buf) args) nxt) M = bundleScan id nxt M := by
  match buf, h with
  | [], _ => rfl
  | [x], h => simp only [bundleScan]; exact if_neg fun hx => h (by rw [hx])
  | _ :: _ :: _, _ => rfl

theorem bundleScan_items {flags : Nat} (id : Bytes) : ∀ (cs : List Sexp) {items : List Item}, parseAll flags cs = .ok items →
    ∀ {t : Sexp} {M : Nat}, sexpList t = some cs → noPairOpcode t = true → totalCost flags items ≤ M →
    ∃ M', bundleScan id t M = some ((Rules.newCoins (itemConds items)).map (fun nc => (id, nc.ph, nc.amount)), M') ∧
      M - totalCost flags items ≤ M' := by
  intro cs
  induction cs with
  | nil => intro items h t M ht _ _; cases h; rw [sexpList_nil ht]; exact ⟨M, rfl, Nat.sub_le _ _⟩
  | cons c cs ih =>
    intro items h t M ht hnp hM
    obtain ⟨nxt, rfl, hn⟩ := sexpList_cons ht
    obtain ⟨it, its, hit, hits, rfl⟩ := parseAll_cons.mp h
    obtain ⟨hnp1, hnp2⟩ := noPairOpcode_pair hnp
    simp only [totalCost] at hM ⊢
    rcases parseItem_scan hit with ⟨ph, ab, v, hintS, rfl, hl, hv, rfl⟩ | ⟨opn, args, rfl, hne, hnc⟩
    · -- validation charges a CREATE_COIN at least what the scan charges
      have hcc := preCharge_cc_ge flags
      simp only [itemCost] at hM ⊢
      obtain ⟨M', e1, e2⟩ := ih hits (M := M - ADDITIONS_CREATE_COIN_COST) hn hnp2 (by omega)
      refine ⟨M', ?_, by omega⟩
      simp only [bundleScan, if_true]
      rw [if_neg (Decidable.not_not.mpr hl), u64FromClvm_of_sanitize hv]
      simp only
      rw [if_neg (by omega), e1]
      rfl
    · obtain ⟨M', e1, e2⟩ := ih hits (M := M) hn hnp2 (by omega)
      cases opn with
      | pair a b => exact absurd rfl (hnp1 a b args)
      | atom buf => exact ⟨M', by rw [bundleScan_skip id args nxt M hne, hnc]; exact e1, by omega⟩
/-- `SpendBundle::additions` computes the parent of each addition from the DECLARED coin; this is the validated coin id
because the bundle loop checked the declared puzzle hash (`hid` below). -/
theorem bundleAddLoop_of_bundleLoop (env : Env) (puz : Nat → RunRes) : ∀ (css : List CoinSpendM) (i : Nat) (ret : Bundle)
    (st : PState) (m : Nat) (ret' : Bundle) (st' : PState) (m' M : Nat),
    bundleLoop env puz css i ret st m = .ok ((ret', st'), m') → m ≤ M →
    (∀ s ∈ css, s.amount < 2^64) →
    (∀ k, i ≤ k → k < i + css.length → ∀ c conds, puz k = some (c, conds) → noPairOpcode conds = true) →
    ∃ news, ret'.spends = ret.spends ++ news ∧ bundleAddLoop puz css i M = some (news.flatMap adds3) := by
  intro css
  induction css with
  | nil =>
    intro i ret st m ret' st' m' M h _ _ _
    simp only [bundleLoop] at h
    injection h with h; injection h with h1 _; injection h1 with h1 _
    subst h1
    exact ⟨[], by simp, rfl⟩
  | cons cs rest ih =>
    intro i ret st m ret' st' m' M h hM hamt hnp
    obtain ⟨c, conds, r1, s1, m2, hp, hc, hph, hps, hrest⟩ := (bundleLoop_cons_iff env puz cs rest i ret st m _).mp h
    have hnpc : noPairOpcode conds = true := hnp i (Nat.le_refl _) (by simp only [List.length_cons]; omega) c conds hp
    obtain ⟨sp, ab, cl, items, t1, hr⟩ := Rules.processSingleSpend_record hps
    obtain ⟨-, -, hm2⟩ := Rules.processSingleSpend_costs hps
    rw [hr.cost_sum] at hm2
    obtain ⟨M', c2, c3⟩ := bundleScan_items sp.coinId _ hr.conds_parse (M := M - c) hr.conds_list hnpc (by omega)
    replace c3 : m2 ≤ M' := by omega
    obtain ⟨news, r1', r2'⟩ := ih (i + 1) r1 s1 m2 ret' st' m' M' hrest c3
      (fun s hs => hamt s (List.mem_cons_of_mem _ hs))
      (fun k hk1 hk2 => hnp k (by omega) (by simp only [List.length_cons]; omega))
    have t2 := Sexp.atom.inj hr.parent_eq
    have t4 := Sexp.atom.inj hr.ph_eq
    have t5 := Sexp.atom.inj hr.amount_eq
    have hid : sha256 (cs.parent ++ cs.puzzleHash ++ Gen.coinIdAmount cs.amount) = sp.coinId := by
      rw [hr.coinId_eq, ← t2, ← t4, ← t5, C11.coinIdAmount_canon _ (hamt cs (List.mem_cons_self ..)), hph]; rfl
    refine ⟨sp :: news, by rw [r1', t1]; simp, ?_⟩
    simp only [bundleAddLoop, hp]
    rw [if_neg (by omega), hid, c2]
    simp only
    rw [r2']
    simp only [List.flatMap_cons, adds3, hr.createCoin_eq]

/-- `postProcess` rewrites flags only (`Rules.postProcess_eq`), which `adds3` does not read -/
theorem postProcess_adds3 (env : Env) (ret : Bundle) (st : PState) :
    (postProcess env ret st).spends.flatMap adds3 = ret.spends.flatMap adds3 := by
  rw [Rules.postProcess_eq, List.flatMap_map]
  rfl

end ChiaModel.Gn
