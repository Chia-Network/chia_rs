import ChiaModel.Lemmas.BundleBase
/-
The bundle path (`run_spendbundle`, any base cost `B`) against the block path (`run_block_generator2`) on a quoted
generator built from the same coin spends (`Built`, size cost `N`): on the same spend order with the full verdict
(`paths_same_order`, `paths_too_many`), on the reversed order `build_generator` produces (`paths_reversed`), and the
block path against itself on the two orders (`native_built_reverse`).  C08 instantiates the base costs, C09 the
generators rebuilt from recovered coin spends.
-/
namespace ChiaModel.C08
open ChiaModel ChiaModel.Gn ChiaModel.Cond

/-- what "the same conditions modulo the visitor" means: the block path's spends are the bundle path's
spends, in the same order, with `flags` masked to HAS_RELATIVE_CONDITION (the two eligibility bits are
set by the mempool visitor only), and every bundle-level field other than `cost`, `execution_cost`
and `validated_signature` is equal. -/
def SameUpToVisitor (bn bb : Bundle) : Prop :=
  bn.spends = bb.spends.map blockSpend ∧
  bn.reserveFee = bb.reserveFee ∧ bn.heightAbsolute = bb.heightAbsolute ∧ bn.secondsAbsolute = bb.secondsAbsolute ∧
  bn.beforeHeightAbsolute = bb.beforeHeightAbsolute ∧ bn.beforeSecondsAbsolute = bb.beforeSecondsAbsolute ∧
  bn.aggSigUnsafe = bb.aggSigUnsafe ∧ bn.removalAmount = bb.removalAmount ∧ bn.additionAmount = bb.additionAmount ∧
  bn.conditionCost = bb.conditionCost

theorem sameUpToVisitor_of_blkRel {k : Nat} {retN retB : Bundle} (env : Env) (st : PState) (h : BlkRel k retN retB)
    (cn cb : Nat) (v : Bool) :
    SameUpToVisitor { retN with validatedSignature := v, cost := cn } { postProcess env retB st with cost := cb } := by
  obtain ⟨h1, h2⟩ := h
  obtain ⟨p1, p2⟩ := postProcess_blk env retB st
  refine ⟨?_, ?_⟩
  · show retN.spends = (postProcess env retB st).spends.map blockSpend
    rw [p1, h1]
  · rw [p2, h2]
    exact ⟨rfl, rfl, rfl, rfl, rfl, rfl, rfl, rfl, rfl⟩

/-- the signature stage of the block path passes on these (public key, signed text) pairs -/
abbrev SigFine (p : Params) (pairs : List (Bytes × Bytes)) : Prop :=
  hasFlag p.flags Gen.flagDontValidateSignature = true ∨ p.sigOk pairs = true

theorem spendLimit_ge {p : Params} {css : List CoinSpendM} (hlen : css.length < 2^64)
    (hlim : ¬(hasFlag p.flags Gen.flagLimitSpends ∧ css.length > MAX_SPENDS_PER_BLOCK)) :
    css.length ≤ spendLimit p.flags := by
  unfold spendLimit
  by_cases hf : hasFlag p.flags Gen.flagLimitSpends = true
  · rw [if_pos hf]
    have : ¬ css.length > MAX_SPENDS_PER_BLOCK := fun h => hlim ⟨hf, h⟩
    omega
  · rw [if_neg hf]; omega

theorem spendLimit_lt (flags : Nat) : spendLimit flags < 2^64 := by
  unfold spendLimit; split <;> decide

/-- `N` is the size cost of the generator on the block path, `B` what the bundle path charges up front; `hL` relates
the limits by `L' − N = L − B + 20` (the block path also pays for the quote), so that both spend loops start from the
same budget. -/
theorem paths_same_order (B N : Nat) (p : Params) (css : List CoinSpendM) (puz : Nat → RunRes) (L L' : Nat) (g : GenInput)
    (hg : Built g css) (hN : nativeBase p g = N) (hL : L' + B = L + 20 + N)
    (hph : ∀ s ∈ css, s.puzzleHash = Sexp.treeHash s.puzzle) (hlen : css.length < 2^64) (hm : ¬ TooMany p css) :
    (∀ e, runBundleWith B p css puz L = .error e → native p g (some (20, quoted g.prog)) puz L' = .error e) ∧
    (∀ bb pairs, runBundleWith B p css puz L = .ok (bb, pairs) →
      (SigFine p pairs → ∃ bn, native p g (some (20, quoted g.prog)) puz L' = .ok bn ∧ SameUpToVisitor bn bb ∧
        bn.cost + B = bb.cost + 20 + N ∧ bn.executionCost = bb.executionCost + 20) ∧
      (¬ SigFine p pairs → native p g (some (20, quoted g.prog)) puz L' = .error .reject)) := by
  by_cases hB : B ≤ L
  · -- `m`: the budget of both spend loops
    obtain ⟨m, rfl⟩ := Nat.exists_eq_add_of_le hB
    obtain rfl : L' = N + 20 + m := by omega
    have hrel := nativeLoop_bundleLoop (mpEnv p) puz 20 css 0 { executionCost := 20 } {} {} (spendLimit p.flags) m
      hph (spendLimit_ge hlen hm) ⟨rfl, rfl⟩
    rw [blockEnv_mpEnv] at hrel
    rw [runBundleWith_loop hB hm, native_built_loop hg hN (Nat.le_add_right _ _), Nat.add_sub_cancel_left, Nat.sub_sub,
      Nat.add_sub_cancel_left]
    cases hBl : bundleLoop (mpEnv p) puz css 0 {} {} m with
    | error eB =>
      rw [hBl] at hrel
      rw [hrel.of_error]
      exact ⟨fun e he => (by cases he; rfl), fun bb pairs hb => by cases hb⟩
    | ok qB =>
      obtain ⟨⟨retB, st⟩, left⟩ := qB
      rw [hBl] at hrel
      obtain ⟨retN, hNl, hrelN⟩ := hrel.of_ok
      have hle : left ≤ m := ((isCountdown_bundleLoop ..).of_ok hBl).1
      rw [hNl]
      simp only [validateConditions, finishBundle_block (env := nativeEnv p) rfl, validOk_blkRel (mpEnv p) hrelN st,
        show (nativeEnv p).flags = p.flags from rfl]
      by_cases hv : validOk (postProcess (mpEnv p) retB st) st = true
      · simp only [hv, if_true, true_and]
        refine ⟨fun e he => (by cases he), fun bb pairs hb => ?_⟩
        injection hb with hb; injection hb with hb1 hb2
        subst hb1; subst hb2
        refine ⟨fun hs => ?_, fun hs => ?_⟩
        · rw [if_pos hs]
          refine ⟨_, rfl, sameUpToVisitor_of_blkRel _ _ hrelN _ _ _, ?_, ?_⟩
          · show N + 20 + m - left + B = B + m - left + 20 + N
            rw [Nat.add_assoc (B + m - left)]
            exact sub_add_eq_sub_add (by simp only [Nat.add_assoc, Nat.add_comm, Nat.add_left_comm])
              (Nat.le_trans hle (Nat.le_add_left _ _)) (Nat.le_trans hle (Nat.le_add_left _ _))
          · show retN.executionCost = (postProcess (mpEnv p) retB st).executionCost + 20
            rw [(postProcess_blk (mpEnv p) retB st).2, hrelN.2]
        · rw [if_neg hs]
      · simp only [hv, if_false, Bool.false_eq_true, false_and]
        exact ⟨fun e he => (by cases he; rfl), fun bb pairs hb => by cases hb⟩
  · rw [runBundleWith_small (by omega), native_built_small hg hN (by omega)]
    exact ⟨fun e he => (by cases he; rfl), fun bb pairs hb => by cases hb⟩

/-- with more spends than LIMIT_SPENDS allows, both paths fail: the bundle path with `reject` (after the size
cost; `costExceeded` when even that does not fit), the block path with some error — the limit is tested inside
its loop, after the first 6000 spends were processed, so the kinds need not agree
(`Witness.error_kind_differs_too_many_spends`) -/
theorem paths_too_many (B N : Nat) (p : Params) (css : List CoinSpendM) (puz : Nat → RunRes) (L L' : Nat) (g : GenInput)
    (hg : Built g css) (hN : nativeBase p g = N) (hm : TooMany p css) :
    runBundleWith B p css puz L = .error (if B ≤ L then .reject else .costExceeded) ∧
    ∃ e, native p g (some (20, quoted g.prog)) puz L' = .error e := by
  refine ⟨runBundleWith_tooMany hm, ?_⟩
  · by_cases hB : N + 20 ≤ L'
    · rw [native_built_loop hg hN hB]
      obtain ⟨e, he⟩ := nativeLoop_too_long_error (nativeEnv p) puz (css.map item) 0 { executionCost := 20 } {}
        (spendLimit p.flags) (L' - N - 20) (by
          simp only [spendLimit, hm.1, if_true, List.length_map]; exact hm.2)
      rw [he]; exact ⟨e, rfl⟩
    · exact ⟨_, native_built_small hg hN (by omega)⟩

theorem paths_accept_same_order (B N : Nat) (p : Params) (css : List CoinSpendM) (puz : Nat → RunRes) (L L' : Nat) (g : GenInput)
    (hg : Built g css) (hN : nativeBase p g = N) (hL : L' + B = L + 20 + N)
    (hph : ∀ s ∈ css, s.puzzleHash = Sexp.treeHash s.puzzle) (hlen : css.length < 2^64) :
    (∀ bb pairs, runBundleWith B p css puz L = .ok (bb, pairs) → SigFine p pairs →
      ∃ bn, native p g (some (20, quoted g.prog)) puz L' = .ok bn ∧ SameUpToVisitor bn bb ∧
        bn.cost + B = bb.cost + 20 + N ∧ bn.executionCost = bb.executionCost + 20) ∧
    (∀ bn, native p g (some (20, quoted g.prog)) puz L' = .ok bn →
      ∃ bb pairs, runBundleWith B p css puz L = .ok (bb, pairs) ∧ SigFine p pairs ∧ SameUpToVisitor bn bb ∧
        bn.cost + B = bb.cost + 20 + N ∧ bn.executionCost = bb.executionCost + 20) := by
  refine ⟨fun bb pairs hb hs => ?_, fun bn hn => ?_⟩
  · exact ((paths_same_order B N p css puz L L' g hg hN hL hph hlen (runBundleWith_ok_iff.mp hb).2.1).2 bb pairs hb).1 hs
  · have hm : ¬ TooMany p css := by
      intro hm
      obtain ⟨e, he⟩ := (paths_too_many B N p css puz L L' g hg hN hm).2
      rw [hn] at he; cases he
    obtain ⟨h1, h2⟩ := paths_same_order B N p css puz L L' g hg hN hL hph hlen hm
    -- the bundle path cannot fail (else the block path would), so it accepts; likewise its signature stage
    cases hb : runBundleWith B p css puz L with
    | error e => rw [h1 e hb] at hn; cases hn
    | ok q =>
      obtain ⟨bb, pairs⟩ := q
      by_cases hs : SigFine p pairs
      · obtain ⟨bn', hn', hrest⟩ := (h2 bb pairs hb).1 hs
        rw [hn] at hn'; injection hn' with hn'; subst hn'
        exact ⟨bb, pairs, rfl, hs, hrest⟩
      · rw [(h2 bb pairs hb).2 hs] at hn; cases hn

/-- `SameUpToVisitor` up to the order of the spends: the block path's spends are the bundle path's in reverse order
(`build_generator` lists them reversed), and the AGG_SIG_UNSAFE pairs agree up to listing order. -/
def SameUpToVisitorRev (bn bb : Bundle) : Prop :=
  bn.spends = (bb.spends.map blockSpend).reverse ∧
  bn.reserveFee = bb.reserveFee ∧ bn.heightAbsolute = bb.heightAbsolute ∧ bn.secondsAbsolute = bb.secondsAbsolute ∧
  bn.beforeHeightAbsolute = bb.beforeHeightAbsolute ∧ bn.beforeSecondsAbsolute = bb.beforeSecondsAbsolute ∧
  List.Perm bn.aggSigUnsafe bb.aggSigUnsafe ∧ bn.removalAmount = bb.removalAmount ∧ bn.additionAmount = bb.additionAmount ∧
  bn.conditionCost = bb.conditionCost

theorem SameUpToVisitor.rev {bn bb' bb : Bundle} (h : SameUpToVisitor bn bb') (hr : RevSame bb' bb) :
    SameUpToVisitorRev bn bb := by
  obtain ⟨v1, v2, v3, v4, v5, v6, v7, v8, v9, v10⟩ := h
  obtain ⟨r1, _, r3, r4, r5, r6, r7, r8, r9, r10, _, _, r13⟩ := hr
  exact ⟨by rw [v1, r1, List.map_reverse], v2.trans r3, v3.trans r4, v4.trans r5, v5.trans r6, v6.trans r7,
    by rw [v7]; exact r13, v8.trans r8, v9.trans r9, v10.trans r10⟩

/-- `B`, `N`, `hL` as in `paths_same_order`; `g` lists `css` reversed and `puzG` is `puz` re-indexed to that order.
`SigFine` is asked of the bundle side because `run_spendbundle` leaves the signature stage to its caller.  The error kinds
of two failing runs need not agree in this order: `Witness.error_kind_differs_reversed_order`. -/
theorem paths_reversed (B N : Nat) (p : Params) (css : List CoinSpendM) (puz : Nat → RunRes) (L L' : Nat) (g : GenInput)
    (hg : Built g css.reverse) (hN : nativeBase p g = N) (hL : L' + B = L + 20 + N)
    (hph : ∀ s ∈ css, s.puzzleHash = Sexp.treeHash s.puzzle) (hlen : css.length < 2^64)
    (hsig : ∀ pairs pairs', List.Perm pairs pairs' → p.sigOk pairs = p.sigOk pairs') :
    let puzG : Nat → RunRes := fun i => puz (css.length - 1 - i)
    (∀ bb pairs, runBundleWith B p css puz L = .ok (bb, pairs) → SigFine p pairs →
      ∃ bn, native p g (some (20, quoted g.prog)) puzG L' = .ok bn ∧ SameUpToVisitorRev bn bb ∧
        bn.cost + B = bb.cost + 20 + N ∧ bn.executionCost = bb.executionCost + 20) ∧
    (∀ bn, native p g (some (20, quoted g.prog)) puzG L' = .ok bn →
      ∃ bb pairs, runBundleWith B p css puz L = .ok (bb, pairs) ∧ SigFine p pairs ∧ SameUpToVisitorRev bn bb ∧
        bn.cost + B = bb.cost + 20 + N ∧ bn.executionCost = bb.executionCost + 20) ∧
    (∀ bb pairs, runBundleWith B p css puz L = .ok (bb, pairs) → ¬ SigFine p pairs →
      native p g (some (20, quoted g.prog)) puzG L' = .error .reject) := by
  intro puzG
  have hphr : ∀ s ∈ css.reverse, s.puzzleHash = Sexp.treeHash s.puzzle := fun s hs => hph s (List.mem_reverse.mp hs)
  have hlenr : css.reverse.length < 2^64 := by rw [List.length_reverse]; exact hlen
  obtain ⟨h1, h2⟩ := paths_accept_same_order B N p css.reverse puzG L L' g hg hN hL hphr hlenr
  refine ⟨fun bb pairs hb hs => ?_, fun bn hn => ?_, fun bb pairs hb hs => ?_⟩
  · obtain ⟨bb', pairs', hb', hpp, hrev⟩ := runBundleWith_reverse B p css puz puzG L bb pairs (fun k _ => rfl) hb
    have hrev : RevSame bb' bb := hrev
    obtain ⟨bn, hn, hsame, hc, he⟩ := h1 bb' pairs' hb' (by unfold SigFine; rw [← hsig _ _ hpp]; exact hs)
    exact ⟨bn, hn, hsame.rev hrev, by rw [← hrev.cost_eq]; exact hc, by rw [← hrev.exec_eq]; exact he⟩
  · obtain ⟨bb', pairs', hb', hs', hsame, hc, he⟩ := h2 bn hn
    have hpuz : ∀ k, k < css.reverse.length → puz k = puzG (css.reverse.length - 1 - k) := by
      intro k hk
      rw [List.length_reverse] at hk
      show puz k = puz (css.length - 1 - (css.reverse.length - 1 - k))
      rw [List.length_reverse]
      congr 1; omega
    obtain ⟨bb, pairs, hb, hpp, hrev⟩ := runBundleWith_reverse B p css.reverse puzG puz L bb' pairs' hpuz hb'
    have hrev : RevSame bb bb' := hrev
    rw [List.reverse_reverse] at hb
    exact ⟨bb, pairs, hb, by unfold SigFine; rw [← hsig _ _ hpp]; exact hs', hsame.rev hrev.symm,
      by rw [hrev.cost_eq]; exact hc, by rw [hrev.exec_eq]; exact he⟩
  · -- the reversed bundle is accepted with the same pairs up to order, so its signature stage fails as well
    obtain ⟨bb', pairs', hb', hpp, _⟩ := runBundleWith_reverse B p css puz puzG L bb pairs (fun k _ => rfl) hb
    exact ((paths_same_order B N p css.reverse puzG L L' g hg hN hL hphr hlenr (runBundleWith_ok_iff.mp hb').2.1).2
      bb' pairs' hb').2 (by unfold SigFine; rw [← hsig _ _ hpp]; exact hs)

theorem SameUpToVisitorRev.block {b' b bb : Bundle} (hr : SameUpToVisitorRev b' bb) (h : SameUpToVisitor b bb) :
    b'.spends = b.spends.reverse ∧
    b'.reserveFee = b.reserveFee ∧ b'.heightAbsolute = b.heightAbsolute ∧ b'.secondsAbsolute = b.secondsAbsolute ∧
    b'.beforeHeightAbsolute = b.beforeHeightAbsolute ∧ b'.beforeSecondsAbsolute = b.beforeSecondsAbsolute ∧
    List.Perm b'.aggSigUnsafe b.aggSigUnsafe ∧ b'.removalAmount = b.removalAmount ∧ b'.additionAmount = b.additionAmount ∧
    b'.conditionCost = b.conditionCost := by
  obtain ⟨r1, r2, r3, r4, r5, r6, r7, r8, r9, r10⟩ := hr
  obtain ⟨v1, v2, v3, v4, v5, v6, v7, v8, v9, v10⟩ := h
  exact ⟨by rw [r1, v1], r2.trans v2.symm, r3.trans v3.symm, r4.trans v4.symm, r5.trans v5.symm, r6.trans v6.symm,
    by rw [v7]; exact r7, r8.trans v8.symm, r9.trans v9.symm, r10.trans v10.symm⟩

/-- By way of the bundle path, whose verdict at a fixed base cost does not depend on the order of the spends
(`runBundleWith_reverse`): block path on `css`, bundle path on `css`, block path on `css.reverse`.  `hL` gives the two
spend loops the same budget. -/
theorem native_built_reverse (p : Params) (css : List CoinSpendM) (puz : Nat → RunRes) (L L' : Nat) (g g' : GenInput)
    (hg : Built g css) (hg' : Built g' css.reverse) (hL : L' + nativeBase p g = L + nativeBase p g')
    (hph : ∀ s ∈ css, s.puzzleHash = Sexp.treeHash s.puzzle)
    (hsig : ∀ pairs pairs', List.Perm pairs pairs' → p.sigOk pairs = p.sigOk pairs')
    {b : Bundle} (h : native p g (some (20, quoted g.prog)) puz L = .ok b) :
    ∃ b', native p g' (some (20, quoted g'.prog)) (fun i => puz (css.length - 1 - i)) L' = .ok b' ∧
      b'.spends = b.spends.reverse ∧
      b'.reserveFee = b.reserveFee ∧ b'.heightAbsolute = b.heightAbsolute ∧ b'.secondsAbsolute = b.secondsAbsolute ∧
      b'.beforeHeightAbsolute = b.beforeHeightAbsolute ∧ b'.beforeSecondsAbsolute = b.beforeSecondsAbsolute ∧
      List.Perm b'.aggSigUnsafe b.aggSigUnsafe ∧ b'.removalAmount = b.removalAmount ∧ b'.additionAmount = b.additionAmount ∧
      b'.conditionCost = b.conditionCost ∧ b'.validatedSignature = b.validatedSignature ∧
      b'.cost + nativeBase p g = b.cost + nativeBase p g' ∧ b'.executionCost = b.executionCost := by
  have hlen : css.length < 2^64 := by
    obtain ⟨_, _, _, _, gc, allSpends, args, ret, st, left, _, hgen, _, _, hloop, _⟩ := native_ok_iff.mp h
    rw [hg.quoted] at hgen
    injection hgen with hgen; injection hgen with _ hgen; injection hgen with hgen _
    subst hgen
    have := spendLimit_lt p.flags
    have : ¬ spendLimit p.flags < (css.map item).length := fun hlt => nativeLoop_too_long _ _ _ _ _ _ _ _ _ hlt hloop
    rw [List.length_map] at this
    omega
  obtain ⟨bb, pairs, hb, hs, hsame, hc, he⟩ :=
    (paths_accept_same_order (nativeBase p g + 20) _ p css puz L L g hg rfl (by omega) hph hlen).2 b h
  obtain ⟨b', hn', hrev, hc', he'⟩ :=
    (paths_reversed (nativeBase p g + 20) _ p css puz L L' g' hg' rfl (by omega) hph hlen hsig).1 bb pairs hb hs
  refine ⟨b', hn', ?_⟩
  rw [native_validatedSignature hn', native_validatedSignature h]
  obtain ⟨t1, t2, t3, t4, t5, t6, t7, t8, t9, t10⟩ := hrev.block hsame
  exact ⟨t1, t2, t3, t4, t5, t6, t7, t8, t9, t10, rfl, by omega, by omega⟩

def builtInput (css : List CoinSpendM) : GenInput :=
  { len := (Sexp.serialize (buildGenerator css)).length, startsQuote := true, prog := buildGenerator css, nrefs := 0 }

theorem built_builtInput (css : List CoinSpendM) : Built (builtInput css) css.reverse :=
  ⟨by show buildGenerator css = _; rw [buildGenerator_eq, List.map_reverse], rfl, rfl⟩

theorem built_builtInput_reverse (css : List CoinSpendM) : Built (builtInput css.reverse) css := by
  have := built_builtInput css.reverse
  rw [List.reverse_reverse] at this; exact this

end ChiaModel.C08
