import ChiaModel.Lemmas.EnterSpend
import ChiaModel.Props.C11
/-
The bundle invariant of the `parse_spends` model: totals are sums, coin ids are the prescribed
hash and pairwise distinct, outputs of one spend are pairwise distinct, condition cost adds up.
-/
namespace ChiaModel.Cond
open ChiaModel

def ccSum (sp : Spend) : Nat := (sp.createCoin.map (·.amount)).sum
def ccKeys (sp : Spend) : List (Bytes × Nat) := sp.createCoin.map (fun c => (c.ph, c.amount))

/-- the coin id is SHA-256 of parent id, puzzle hash and the minimal big-endian amount -/
def CoinIdOk (sp : Spend) : Prop :=
  sp.coinId = sha256 (sp.parentId ++ sp.puzzleHash ++ canonNat sp.coinAmount) ∧ sp.coinAmount < 2^64
    ∧ sp.parentId.length = 32 ∧ sp.puzzleHash.length = 32

structure BInv (ret : Bundle) (st : PState) : Prop where
  removal : ret.removalAmount = (ret.spends.map (·.coinAmount)).sum
  addition : ret.additionAmount = (ret.spends.map ccSum).sum
  spent : st.spentCoins = ret.spends.map (·.coinId)
  nodup : st.spentCoins.Nodup
  outputs : ∀ sp ∈ ret.spends, (ccKeys sp).Nodup
  ccost : ret.conditionCost = (ret.spends.map (·.conditionCost)).sum
  ids : ∀ sp ∈ ret.spends, CoinIdOk sp

structure SInv (s : CSt) : Prop where
  removal : s.ret.removalAmount = (s.ret.spends.map (·.coinAmount)).sum + s.spend.coinAmount
  addition : s.ret.additionAmount = (s.ret.spends.map ccSum).sum + ccSum s.spend
  spent : s.st.spentCoins = s.ret.spends.map (·.coinId) ++ [s.spend.coinId]
  nodup : s.st.spentCoins.Nodup
  outputs : (∀ sp ∈ s.ret.spends, (ccKeys sp).Nodup) ∧ (ccKeys s.spend).Nodup
  ccost : s.ret.conditionCost = (s.ret.spends.map (·.conditionCost)).sum + s.spend.conditionCost
  ids : (∀ sp ∈ s.ret.spends, CoinIdOk sp) ∧ CoinIdOk s.spend

theorem BInv_init : BInv {} {} := by
  constructor <;> simp

open Rules in
/-- The pushed record has the spend's attributes and the created coins of its conditions (`spendRec_eq`); its coin is new,
its outputs are distinct by the per-spend rules, and its amount atom `amt` is the canonical form of the amount. -/
theorem BInv_enterSpend (env : Env) (cc : Nat) {acc : Bundle × PState} {p : PSpend} {amt : Bytes} (hb : BInv acc.1 acc.2)
    (hnew : p.attrs.coinId ∉ acc.2.spentCoins) (hacc : SpendAccepts env p.attrs 0 1024 (itemConds p.items))
    (hbytes : isBytes amt) (hs : sanitizeUint amt 8 = .ok p.attrs.amount)
    (hid : p.attrs.coinId = coinId p.attrs.parentId p.attrs.puzzleHash amt)
    (l1 : p.attrs.parentId.length = 32) (l2 : p.attrs.puzzleHash.length = 32) :
    BInv (enterSpend env cc acc p).1 (enterSpend env cc acc p).2 := by
  obtain ⟨b1, b2, b3, b4, b5, b6, b7⟩ := hb
  have hrec := spendRec_eq env cc p
  rw [enterSpend_eq]
  have hlast {P : Spend → Prop} (hold : ∀ sp ∈ acc.1.spends, P sp) (hnew : P (spendRec env cc p)) :
      ∀ sp ∈ acc.1.spends ++ [spendRec env cc p], P sp := fun sp hsp => by
    rcases List.mem_append.mp hsp with h | h
    · exact hold sp h
    · rw [List.mem_singleton.mp h]; exact hnew
  constructor
  · simp [b1, hrec]
  · simp [b2, hrec, ccSum, additions]
  · simp [b3, hrec]
  · exact (nodup_snoc_iff _ _).mpr ⟨b4, hnew⟩
  · exact hlast b5 (by rw [hrec]; exact hacc.createKeys_nodup)
  · simp [b6, hrec, spendCost, Nat.add_assoc]
  · refine hlast b7 ?_
    rw [hrec]
    exact ⟨by rw [hid, coinId, ← C11.sanitizeUint_canon amt _ hbytes hs],
      by simpa using (C11.sanitizeUint_ok amt 8 _ hbytes hs).2.2.2, l1, l2⟩

theorem BInv_processSingleSpend (env : Env) (cc : Nat) (ret : Bundle) (st : PState) (parent ph amount conds : Sexp) (m : Nat)
    (ret' : Bundle) (st' : PState) (m' : Nat) (hb : BInv ret st) (hbytes : amount.AllBytes)
    (h : processSingleSpend env ret st parent ph amount conds cc m = .ok ((ret', st'), m')) : BInv ret' st' := by
  obtain ⟨p, hp, hnew, -, -, hacc, he⟩ := Rules.processSingleSpend_enter h
  obtain ⟨amt, -, -, rfl, hs, hid, l1, l2, -, -⟩ := Rules.tuple_tree hp
  rw [show ret' = _ from congrArg Prod.fst he, show st' = _ from congrArg Prod.snd he]
  exact BInv_enterSpend env cc (acc := (ret, st)) hb hnew hacc hbytes hs hid l1 l2

theorem listElems_allBytes : ∀ {t : Sexp}, t.AllBytes → ∀ tree ∈ listElems t, tree.AllBytes
  | .atom _, _, _, h => by cases h
  | .pair _ _, hab, tree, h => by
    rcases List.mem_cons.mp h with rfl | h
    · exact hab.1
    · exact listElems_allBytes hab.2 tree h

theorem BInv_spendLoop (env : Env) (cc : Nat) (t : Sexp) (n m : Nat) (ret : Bundle) (st : PState) (m' : Nat)
    (hab : t.AllBytes) (h : spendLoop env cc t {} {} n m = .ok ((ret, st), m')) : BInv ret st := by
  refine Rules.spendLoop_enter env cc (fun acc _ _ => BInv acc.1 acc.2) t ?_ {} {} n m ret st m' [] h BInv_init
  intro acc _ _ tree p hmem hb hp hnew _ hacc
  obtain ⟨amt, conds, t⟩ := Rules.parseSpend_tree hp
  obtain ⟨r, rfl⟩ := parseSingleSpend_ok t.tuple
  exact BInv_enterSpend env cc hb hnew hacc (listElems_allBytes hab _ hmem).2.2.1 t.amount_val t.coinId_eq t.parent_len t.ph_len

end ChiaModel.Cond
