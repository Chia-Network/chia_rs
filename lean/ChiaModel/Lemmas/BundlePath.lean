import ChiaModel.Lemmas.GenPaths
import ChiaModel.Lemmas.Visitor
/-
The spend loop of the mempool path (`bundleLoop`, mempool visitor) against the native block loop
(`nativeLoop`, empty visitor) on the spend list a generator built from the same coin spends lists:
same verdict (same error), same parser state, same remaining budget, and bundles that differ only in
the visitor's flag bits of the spends and a constant offset of the execution cost.
-/
namespace ChiaModel.Gn
open ChiaModel ChiaModel.Cond

/-- one element of the generator's spend list: `(parent puzzle amount solution)` -/
def item (s : CoinSpendM) : Sexp := Sexp.ofList [.atom s.parent, s.puzzle, .atom (canonNat s.amount), s.solution]

theorem buildGenerator_eq (css : List CoinSpendM) :
    buildGenerator css = .pair (.atom [1]) (.pair (Sexp.ofList (css.map item).reverse) Sexp.nil) := rfl

/-- `BlkRel k n b`: the block-path bundle `n` is the mempool-path bundle `b` with every spend's flags
masked to HAS_RELATIVE_CONDITION (no visitor) and `k` more execution cost; every other field equal. -/
def BlkRel (k : Nat) (n b : Bundle) : Prop :=
  n.spends = b.spends.map blockSpend ∧ n = { b with spends := n.spends, executionCost := b.executionCost + k }

def LoopRel (k : Nat) (x y : R ((Bundle × PState) × Nat)) : Prop :=
  match x, y with
  | .ok ((a, s), m), .ok ((b, s'), m') => s = s' ∧ m = m' ∧ BlkRel k a b
  | .error e, .error e' => e = e'
  | _, _ => False

theorem LoopRel.of_error {k : Nat} {x : R ((Bundle × PState) × Nat)} {e : Err} (h : LoopRel k x (.error e)) : x = .error e := by
  cases x with
  | ok q => simp only [LoopRel] at h
  | error e' => simp only [LoopRel] at h; rw [h]

theorem LoopRel.of_ok {k : Nat} {x : R ((Bundle × PState) × Nat)} {b : Bundle} {s : PState} {m : Nat}
    (h : LoopRel k x (.ok ((b, s), m))) : ∃ a, x = .ok ((a, s), m) ∧ BlkRel k a b := by
  cases x with
  | error e => simp only [LoopRel] at h
  | ok q =>
    obtain ⟨⟨a, s'⟩, m'⟩ := q
    simp only [LoopRel] at h
    obtain ⟨rfl, rfl, hrel⟩ := h
    exact ⟨a, rfl, hrel⟩

theorem LoopRel.bind {k : Nat} {x y : R ((Bundle × PState) × Nat)} {f g : (Bundle × PState) × Nat → R ((Bundle × PState) × Nat)}
    (h : LoopRel k x y) (hfg : ∀ a b s m, BlkRel k a b → LoopRel k (f ((a, s), m)) (g ((b, s), m))) :
    LoopRel k (x >>= f) (y >>= g) := by
  cases y with
  | error e => rw [h.of_error]; exact (rfl : e = e)
  | ok q =>
    obtain ⟨⟨b, s⟩, m⟩ := q
    obtain ⟨a, rfl, hab⟩ := h.of_ok
    exact hfg a b s m hab

theorem blkRel_addExec {k : Nat} {n b : Bundle} (h : BlkRel k n b) (c : Nat) :
    BlkRel k { n with executionCost := n.executionCost + c } { b with executionCost := b.executionCost + c } := by
  obtain ⟨h1, h2⟩ := h
  refine ⟨h1, ?_⟩
  rw [h2]
  simp only [Bundle.mk.injEq, true_and, and_true]
  omega

theorem processSingleSpend_blkRel (env : Env) {k : Nat} {retN retB : Bundle} (st : PState)
    (parent ph amount conds : Sexp) (c m : Nat) (h : BlkRel k retN retB) :
    LoopRel k (processSingleSpend (blockEnv env) retN st parent ph amount conds c m)
      (processSingleSpend env retB st parent ph amount conds c m) := by
  obtain ⟨h1, h2⟩ := h
  have hlen : retN.spends.length = retB.spends.length := by rw [h1, List.length_map]
  rw [h2, processSingleSpend_core, processSingleSpend_core]
  have := processCore_blk env retB st parent ph amount conds c m (retB.executionCost + k) retN.spends hlen
  rw [this]
  cases hc : processCore env retB st parent ph amount conds c m with
  | error e => simp only [liftSt, Except.map, LoopRel]
  | ok q =>
    obtain ⟨s, m1⟩ := q
    have hs := processCore_spends hc
    have he := processCore_exec hc
    simp only [liftSt, Except.map, LoopRel, finishSpend, true_and]
    refine ⟨?_, ?_⟩
    · simp only [hs, h1, List.map_append, List.map_cons, List.map_nil, postSpend_blockSpend]
    · simp only [he]

theorem extract5_item (cs : CoinSpendM) :
    extract5 (item cs) = some (.atom cs.parent, cs.puzzle, .atom (canonNat cs.amount), cs.solution, Sexp.nil) := rfl

theorem ofList_cons (a : Sexp) (l : List Sexp) : Sexp.ofList (a :: l) = .pair a (Sexp.ofList l) := rfl

theorem blockEnv_mpEnv (p : Params) : blockEnv (mpEnv p) = nativeEnv p := rfl

theorem spendStep_blkRel (env : Env) (r : RunRes) (d : Bool) {k : Nat} {retN retB : Bundle} (st : PState) (parent amount : Sexp)
    (h32 : Bytes) (m : Nat) (h : BlkRel k retN retB) :
    LoopRel k (spendStep (blockEnv env) r d retN st parent h32 amount m) (spendStep env r d retB st parent h32 amount m) := by
  unfold spendStep
  cases runCharge r m with
  | error e => exact (rfl : e = e)
  | ok q =>
    show LoopRel k (if _ then _ else _) (if _ then _ else _)
    split
    · exact (rfl : Err.reject = Err.reject)
    · exact processSingleSpend_blkRel env st parent (.atom h32) amount q.1.2 q.1.1 q.2 (blkRel_addExec h q.1.1)

theorem nativeLoop_bundleLoop (env : Env) (puz : Nat → RunRes) (k : Nat) : ∀ (css : List CoinSpendM) (i : Nat)
    (retN retB : Bundle) (st : PState) (n m : Nat),
    (∀ s ∈ css, s.puzzleHash = Sexp.treeHash s.puzzle) → css.length ≤ n → BlkRel k retN retB →
    LoopRel k (nativeLoop (blockEnv env) puz (Sexp.ofList (css.map item)) i retN st n m)
      (bundleLoop env puz css i retB st m) := by
  intro css
  induction css with
  | nil =>
    intro i retN retB st n m _ _ hrel
    exact ⟨rfl, rfl, hrel⟩
  | cons cs rest ih =>
    intro i retN retB st n m hph hn hrel
    have hn0 : n ≠ 0 := by simp only [List.length_cons] at hn; omega
    rw [List.map_cons, ofList_cons, nativeLoop_pair, if_neg hn0, extract5_item, bundleLoop_cons,
      decide_eq_true (hph cs List.mem_cons_self)]
    exact (spendStep_blkRel env (puz i) true st _ _ _ m hrel).bind fun a b s m1 hab =>
      ih (i + 1) a b s (n - 1) m1 (fun s hs => hph s (List.mem_cons_of_mem _ hs))
        (by simp only [List.length_cons] at hn; omega) hab

/-- `postProcess` (either visitor) only rewrites eligibility bits of the spends' flags -/
theorem postProcess_blk (env : Env) (ret : Bundle) (st : PState) :
    (postProcess env ret st).spends.map blockSpend = ret.spends.map blockSpend ∧
    postProcess env ret st = { ret with spends := (postProcess env ret st).spends } := by
  rw [Rules.postProcess_eq]
  refine ⟨?_, rfl⟩
  simp only [List.map_map]
  exact List.map_congr_left fun sp _ => congrArg (fun f => { sp with flags := f }) (clr_and_two _ sp.flags)

theorem blockSpend_fields (sp : Spend) : (blockSpend sp).parentId = sp.parentId ∧ (blockSpend sp).puzzleHash = sp.puzzleHash ∧
    (blockSpend sp).coinAmount = sp.coinAmount ∧ (blockSpend sp).createCoin = sp.createCoin := ⟨rfl, rfl, rfl, rfl⟩

theorem validOk_blkRel (env : Env) {k : Nat} {retN retB : Bundle} (h : BlkRel k retN retB) (st : PState) :
    validOk retN st = validOk (postProcess env retB st) st := by
  obtain ⟨h1, h2⟩ := h
  obtain ⟨p1, p2⟩ := postProcess_blk env retB st
  refine validOk_map st blockSpend blockSpend_fields ?_ ?_
  · rw [p1, h1, List.map_map]
    exact List.map_congr_left fun sp _ => congrArg (fun f => { sp with flags := f }) (and2_and2 sp.flags)
  · rw [p2, h2]

theorem nativeLoop_cons_costExceeded (env : Env) (puz : Nat → RunRes) (cs : CoinSpendM) (l : List Sexp) (i : Nat) (ret : Bundle)
    (st : PState) {n m c : Nat} {conds : Sexp} (hn : n ≠ 0) (hp : puz i = some (c, conds)) (hc : m < c) :
    nativeLoop env puz (Sexp.ofList (item cs :: l)) i ret st n m = .error .costExceeded := by
  simp only [ofList_cons, nativeLoop]
  rw [if_neg hn, extract5_item]
  simp only [hp, runWithLimit]
  rw [if_pos hc]

theorem allExtract3_items (css : List CoinSpendM) : allExtract3 (Sexp.ofList (css.map item)) = true := by
  induction css with
  | nil => rfl
  | cons cs rest ih =>
    simp only [List.map_cons, ofList_cons, allExtract3, ih, Bool.and_true]
    rfl

end ChiaModel.Gn
