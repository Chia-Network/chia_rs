import ChiaModel.Lemmas.EnterSpend
/-
C01: from one spend (`spend_ok_iff`, Lemmas/EnterSpend.lean) to the whole of `parse_spends`.  The spend loop judges each
spend against the summary of the spends before it (`spendLoop_rules`); that is equivalent to the order-free bundle rules
(`acceptFrom_iff`): no double spend is `Nodup` of the coin ids, and the fee budget is monotone, so "every prefix fits" is
"the total fits".  The flags of a pushed spend record are `clr` of the start flags (`spendRec_flags`); the closed forms of
the two eligibility bits (Appendix A.3) are read off that.
-/
namespace ChiaModel.Rules
open ChiaModel ChiaModel.Cond ChiaModel.TL

theorem parseSpendList_cons (flags : Nat) (x : Sexp) (l : List Sexp) (ps : List PSpend) :
    parseSpendList flags (x :: l) = some ps ↔
      ∃ p ps0, parseSpend flags x = some p ∧ parseSpendList flags l = some ps0 ∧ ps = p :: ps0 := by
  simp only [parseSpendList]
  cases parseSpend flags x <;> cases parseSpendList flags l <;> simp [eq_comm]

theorem bundleCost_cons (flags : Nat) (p : PSpend) (ps : List PSpend) :
    bundleCost flags (p :: ps) = spendCost flags p + bundleCost flags ps := rfl

/-- acceptance of the spends in listing order, each against the coin ids spent and the fee reserved by the spends before
it (the three clauses of `spend_ok_iff`): all that a spend loop reads of its accumulator when it judges a spend
(`acceptFrom_iff` is the order-free form) -/
def AcceptFrom (env : Env) : List PSpend → List Bytes → Nat → Prop
  | [], _, _ => True
  | p :: ps, spent, fee =>
    p.attrs.coinId ∉ spent ∧ SpendAccepts env p.attrs 0 1024 (itemConds p.items) ∧
      (∀ _v ∈ fees (itemConds p.items), fee + feeSum (itemConds p.items) < 2 ^ 64) ∧
      AcceptFrom env ps (spent ++ [p.attrs.coinId]) (fee + feeSum (itemConds p.items))

theorem parseBundle_cons (flags : Nat) (sp nxt ext : Sexp) (ps : List PSpend) :
    parseBundle flags (.pair (.pair sp nxt) ext) = some ps ↔
      ∃ p ps0, parseSpend flags sp = some p ∧ parseBundle flags (.pair nxt ext) = some ps0 ∧ ps = p :: ps0 := by
  simp only [parseBundle, sexpList]
  cases sexpList nxt with
  | none => exact ⟨fun h => (by cases h), fun ⟨_, _, _, h, _⟩ => (by cases h)⟩
  | some l => exact parseSpendList_cons flags sp l ps

theorem spendLoop_rules (env : Env) (cc : Nat) (ext : Sexp) : ∀ (t : Sexp) (ret : Bundle) (st : PState) (n m : Nat)
    (ret' : Bundle) (st' : PState) (m' : Nat),
    (spendLoop env cc t ret st n m = .ok ((ret', st'), m') ↔
      ∃ ps, parseBundle env.flags (.pair t ext) = some ps ∧ ps.length ≤ n ∧ bundleCost env.flags ps ≤ m ∧
        m' = m - bundleCost env.flags ps ∧ AcceptFrom env ps st.spentCoins ret.reserveFee ∧
        (ret', st') = ps.foldl (enterSpend env cc) (ret, st)) := by
  intro t
  induction t with
  | atom b =>
    intro ret st n m ret' st' m'
    cases b with
    | nil =>
      simp only [spendLoop]
      constructor
      · intro h
        cases h
        exact ⟨[], rfl, Nat.zero_le _, Nat.zero_le _, rfl, trivial, rfl⟩
      · rintro ⟨ps, hps, _, _, hm, _, hr⟩
        cases hps
        rw [hm, hr]; rfl
    | cons x xs => exact ⟨fun h => (by cases h), fun ⟨_, h, _⟩ => (by cases h)⟩
  | pair sp nxt _ ih =>
    intro ret st n m ret' st' m'
    rw [spendLoop_cons]
    constructor
    · rintro ⟨hn0, ret1, st1, m1, h1, h2⟩
      obtain ⟨p, hp, hnot, hk, rfl, hacc, hfee, hr1⟩ := (spend_ok_iff env cc ret st sp m ret1 st1 m1).mp h1
      have hs1 : st1.spentCoins = st.spentCoins ++ [p.attrs.coinId] :=
        (congrArg (·.2.spentCoins) hr1).trans (enterSpend_spentCoins env cc (ret, st) p)
      have hf1 : ret1.reserveFee = ret.reserveFee + feeSum (itemConds p.items) :=
        (congrArg (·.1.reserveFee) hr1).trans (enterSpend_fee env cc (ret, st) p)
      obtain ⟨ps, hps, hlen, hK, rfl, haccs, hr⟩ := (ih ret1 st1 (n - 1) _ ret' st' m').mp h2
      rw [hs1, hf1] at haccs
      refine ⟨p :: ps, (parseBundle_cons _ _ _ _ _).mpr ⟨p, ps, hp, hps, rfl⟩, ?_, ?_, ?_, ⟨hnot, hacc, hfee, haccs⟩,
        by rw [List.foldl_cons, ← hr1]; exact hr⟩
      · simp only [List.length_cons]; omega
      · rw [bundleCost_cons]; omega
      · rw [bundleCost_cons]; omega
    · rintro ⟨ps0, hps, hlen, hK, rfl, haccs, hr⟩
      obtain ⟨p, ps, hp, hps', rfl⟩ := (parseBundle_cons _ _ _ _ _).mp hps
      obtain ⟨hnot, hacc, hfee, haccs⟩ := haccs
      rw [bundleCost_cons] at hK ⊢
      simp only [List.length_cons] at hlen
      refine ⟨by omega, (enterSpend env cc (ret, st) p).1, (enterSpend env cc (ret, st) p).2, _,
        (spend_ok_iff env cc ret st sp m _ _ _).mpr ⟨p, hp, hnot, by omega, rfl, hacc, hfee, rfl⟩, ?_⟩
      refine (ih _ _ (n - 1) _ ret' st' _).mpr ⟨ps, hps', by omega, by omega, by omega, ?_, hr⟩
      rw [enterSpend_spentCoins, enterSpend_fee]; exact haccs

theorem acceptFrom_iff (env : Env) : ∀ (ps : List PSpend) (spent : List Bytes) (fee : Nat), spent.Nodup → fee < 2 ^ 64 →
    (AcceptFrom env ps spent fee ↔
      (spent ++ ps.map (·.attrs.coinId)).Nodup ∧ (∀ p ∈ ps, SpendAccepts env p.attrs 0 1024 (itemConds p.items)) ∧
      fee + bundleFee ps < 2 ^ 64) := by
  intro ps
  induction ps with
  | nil => intro spent fee h1 h2; simp [AcceptFrom, bundleFee, h1, h2]
  | cons p ps ih =>
    intro spent fee h1 h2
    have hassoc : spent ++ (p :: ps).map (·.attrs.coinId) = (spent ++ [p.attrs.coinId]) ++ ps.map (·.attrs.coinId) := by simp
    have hbf : bundleFee (p :: ps) = feeSum (itemConds p.items) + bundleFee ps := rfl
    simp only [AcceptFrom]
    rw [hassoc, hbf, fee_clause_iff h2, List.forall_mem_cons]
    -- the induction hypothesis applies once `p` is accepted: its coin is new and its fee fits
    have step (hnot : p.attrs.coinId ∉ spent) (hf : fee + feeSum (itemConds p.items) < 2 ^ 64) :=
      ih (spent ++ [p.attrs.coinId]) _ ((nodup_snoc_iff _ _).mpr ⟨h1, hnot⟩) hf
    constructor
    · rintro ⟨hnot, hsa, hf, hrest⟩
      obtain ⟨r1, r2, r3⟩ := (step hnot hf).mp hrest
      exact ⟨r1, ⟨hsa, r2⟩, by omega⟩
    · rintro ⟨r1, ⟨hsa, r2⟩, r3⟩
      have hnot : p.attrs.coinId ∉ spent := ((nodup_snoc_iff _ _).mp (List.nodup_append.mp r1).1).2
      exact ⟨hnot, hsa, by omega, (step hnot (by omega)).mpr ⟨r1, r2, by omega⟩⟩

theorem acceptFrom_empty (env : Env) (ps : List PSpend) :
    AcceptFrom env ps [] 0 ↔ (ps.map (·.attrs.coinId)).Nodup ∧
      (∀ p ∈ ps, SpendAccepts env p.attrs 0 1024 (itemConds p.items)) ∧ bundleFee ps < 2 ^ 64 := by
  simpa only [List.nil_append, Nat.zero_add] using acceptFrom_iff env ps [] 0 List.nodup_nil (by decide)

theorem parseSpendList_length (flags : Nat) : ∀ (l : List Sexp) (ps : List PSpend),
    parseSpendList flags l = some ps → ps.length = l.length
  | [], ps, h => by cases h; rfl
  | sp :: l, ps, h => by
    obtain ⟨p, ps0, _, h2, rfl⟩ := (parseSpendList_cons _ _ _ _).mp h
    simp [parseSpendList_length flags l ps0 h2]

theorem Deferred.ephemeral {ret : Bundle} {st : PState} (h : Deferred ret st) :
    ∀ i ∈ st.assertEphemeral, isEphemeral st ret.spends i = true := h.2.2.2.2.2.2.2.1

theorem Deferred.notEphemeral {ret : Bundle} {st : PState} (h : Deferred ret st) :
    ∀ i ∈ st.assertNotEphemeral, isEphemeral st ret.spends i = false := h.2.2.2.2.2.2.2.2.1

theorem validateConditions_iff (ret : Bundle) (st : PState) : validateConditions ret st = .ok () ↔ Deferred ret st := by
  have h : validateConditions ret st = .ok () ↔ validOk ret st = true := by
    unfold validateConditions
    cases validOk ret st <;> simp
  simp only [h, Deferred, validOk, messagesBalanced, Bool.and_eq_true, and_assoc, Bool.not_eq_true', decide_eq_false_iff_not,
    List.all_eq_true, List.any_eq_false, optLe_false_iff, Nat.not_lt, List.contains_eq_mem, decide_eq_true_eq,
    List.mem_map, beq_iff_eq, Bool.not_eq_true, eq_comm (a := sha256 _)]

theorem enterSpend_last {env : Env} {cc : Nat} {acc : Bundle × PState} {p : PSpend} {sp : Spend}
    (hl : (enterSpend env cc acc p).1.spends.getLast? = some sp) : sp = spendRec env cc p := by
  rw [enterSpend_eq] at hl
  simpa using hl.symm

/-- the two eligibility bits of start flags `1 + 4 * o` after HAS_RELATIVE_CONDITION was possibly set (`any`) and the bits
`b` cleared: a table over three flag bits -/
theorem eligibility_table : ∀ o, o < 2 → ∀ any b1 b2 : Bool,
    clr (b1, b2) (bif any then 1 + 4 * o + HAS_RELATIVE_CONDITION else 1 + 4 * o) &&& ELIGIBLE_FOR_DEDUP = (if b1 then 0 else 1) ∧
    clr (b1, b2) (bif any then 1 + 4 * o + HAS_RELATIVE_CONDITION else 1 + 4 * o) &&& ELIGIBLE_FOR_FF = (if b2 then 0 else 4 * o) := by
  decide

/-- **Closed form of ELIGIBLE_FOR_DEDUP** (Appendix A.3) for the spend record pushed by `enterSpend` under
the mempool visitor -/
theorem dedup_flag_closed_form (env : Env) (cc : Nat) (acc : Bundle × PState) (p : PSpend) (sp : Spend)
    (hm : env.mempool = true) (hl : (enterSpend env cc acc p).1.spends.getLast? = some sp) :
    (sp.flags &&& ELIGIBLE_FOR_DEDUP ≠ 0 ↔
      (∀ c ∈ itemConds p.items, (∀ op pk msg, c ≠ .aggSig op pk msg) ∧ (∀ m d g, c ≠ .sendMessage m d g) ∧
        (∀ src m g, c ≠ .receiveMessage src m g)) ∧
      p.attrs.amount ≤ additions (itemConds p.items)) := by
  rw [enterSpend_last hl, spendRec_flags, recFlags, hm, startFlags_true, (eligibility_table _ (Nat.mod_lt _ (by decide)) _ _ _).1,
    ← bitsOf_fst_iff, ← allBits_fst true p.items 0]
  cases (allBits true 0 p.items).1 <;> simp [Nat.not_lt]

/-- **Closed form of ELIGIBLE_FOR_FF after the spend's own conditions** (Appendix A.3, the per-spend part;
the bundle-level part is `postProcess`) for the spend record pushed by `enterSpend` under the mempool
visitor: the amount is odd, no recognised condition blocks fast-forward at its position, and some created
coin has the spend's own puzzle hash and amount -/
theorem ff_flag_closed_form (env : Env) (cc : Nat) (acc : Bundle × PState) (p : PSpend) (sp : Spend)
    (hm : env.mempool = true) (hl : (enterSpend env cc acc p).1.spends.getLast? = some sp) :
    (sp.flags &&& ELIGIBLE_FOR_FF ≠ 0 ↔
      p.attrs.amount % 2 = 1 ∧
      (∀ i c, (itemConds p.items)[i]? = some c → blocksFF i c = false) ∧
      (p.attrs.puzzleHash, p.attrs.amount) ∈ createKeys (itemConds p.items)) := by
  have hbits := allBits_snd_iff p.items 0
  simp only [Nat.zero_add] at hbits
  rw [enterSpend_last hl, spendRec_flags, recFlags, hm, startFlags_true, (eligibility_table _ (Nat.mod_lt _ (by decide)) _ _ _).2,
    ← mem_createKeys, ← hbits]
  cases (allBits true 0 p.items).2 <;>
    cases (newCoins (itemConds p.items)).any (fun c => c.ph == p.attrs.puzzleHash && c.amount == p.attrs.amount) <;>
    simp <;> omega

theorem flags_empty_visitor (env : Env) (cc : Nat) (acc : Bundle × PState) (p : PSpend) (sp : Spend)
    (hm : env.mempool = false) (hl : (enterSpend env cc acc p).1.spends.getLast? = some sp) :
    sp.flags = (bif anyNotEphemeral (itemConds p.items) then HAS_RELATIVE_CONDITION else 0) := by
  rw [enterSpend_last hl, spendRec_flags, recFlags, hm, allBits_nomempool]
  cases anyNotEphemeral (itemConds p.items) <;> rfl

/-! ## small concrete inputs for the non-vacuity examples of Props/C01.lean -/

def okB {α : Type} : R α → Bool | .ok _ => true | .error _ => false

theorem okB_true {α : Type} {r : R α} (h : okB r = true) : ∃ x, r = .ok x := by
  cases r with
  | ok x => exact ⟨x, rfl⟩
  | error e => cases h

theorem okB_false {α : Type} {r : R α} (h : okB r = false) : ∃ e, r = .error e := by
  cases r with
  | ok x => cases h
  | error e => exact ⟨e, rfl⟩

def h32 (b : Nat) : Bytes := List.replicate 32 b
def slist : List Sexp → Sexp | [] => .atom [] | x :: l => .pair x (slist l)
def cnd (op : Nat) (args : List Bytes) : Sexp := slist (.atom [op] :: args.map .atom)
def spnd (parent : Nat) (amount : Bytes) (conds : List Sexp) : Sexp :=
  slist [.atom (h32 parent), .atom (h32 2), .atom amount, slist conds]
def envB : Env := ⟨0, false, fun _ => true⟩
/-- two spends of 10 mojos: the first creates a coin of 4, reserves a fee of 1 and carries the compatible
relative locks ASSERT_HEIGHT_RELATIVE 5 / ASSERT_BEFORE_HEIGHT_RELATIVE 9; the second asserts its amount -/
def exBundle : Sexp :=
  .pair (slist [spnd 1 [10] [cnd 51 [h32 7, [4]], cnd 52 [[1]], cnd 82 [[5]], cnd 86 [[9]]],
                spnd 3 [10] [cnd 73 [[10]]]]) (.atom [])

def exAttrs : Attrs := ⟨[1], [2], [3], 10⟩
def exEnv : Env := ⟨0, false, fun pk => pk != [0]⟩
/-- one condition list exercising every rule of `SpendAccepts` -/
def exConds : List Cond :=
  [.assertMyCoinId [3], .assertMyParentId [1], .assertMyPuzzlehash [2], .assertMyAmount 10,
   .createCoin [7] 4 none, .createCoin [7] 5 (some [9]), .reserveFee 1, .reserveFee 2,
   .assertHeightRelative 5, .assertHeightRelative 3, .assertBeforeHeightRelative 9, .assertSecondsRelative 100,
   .assertBeforeSecondsRelative 101, .assertMyBirthHeight 3, .assertMyBirthHeight 3, .assertMyBirthSeconds 77,
   .assertHeightAbsolute 4, .assertBeforeHeightAbsolute 2,
   .aggSig Gen.opAggSigMe [1] [2], .aggSig Gen.opAggSigUnsafe [1] [2],
   .createCoinAnnouncement [1], .sendMessage 0 [] [5], .assertEphemeral, .skip, .softfork 10000]

end ChiaModel.Rules
