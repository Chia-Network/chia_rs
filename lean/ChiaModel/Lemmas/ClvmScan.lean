import ChiaModel.Lemmas.StreamableBase
/-!
The three facts about the serialised-length scans of `Model/ClvmScan.lean` from which Props/C13 assembles its
`OracleContract`: they read only the bytes they report (prefix stability), the trusted scan accepts whatever the validating scan
accepts with the same length, and a serialisation has at least one byte.
-/
namespace ChiaModel.ClvmScan
open ChiaModel ChiaModel.Streamable

theorem take_append {b : Bytes} {n : Nat} (h : lenGe b n = true) (s : Bytes) :
    lenGe (b.take n ++ s) n = true ∧ (b.take n ++ s).take n = b.take n ∧ (b.take n ++ s).drop n = s := by
  have hl : (b.take n).length = n := List.length_take_of_le ((lenGe_iff b n).mp h)
  exact ⟨(lenGe_iff _ _).mpr (by rw [List.length_append, hl]; exact Nat.le_add_right _ _), List.take_left' hl,
    List.drop_left' hl⟩

theorem decodeSize_pd {b0 : Nat} {rest r : Bytes} {sz : Nat} (h : decodeSize b0 rest = some (sz, r)) :
    ∃ q, rest = q ++ r ∧ ∀ s, decodeSize b0 (q ++ s) = some (sz, s) := by
  unfold decodeSize at h
  obtain ⟨h1, h⟩ := Option.ite_none_left_eq_some.mp h
  obtain ⟨h2, h⟩ := Option.ite_none_left_eq_some.mp h
  obtain ⟨h3, h⟩ := Option.ite_none_left_eq_some.mp h
  obtain ⟨h4, h⟩ := Option.ite_none_left_eq_some.mp h
  cases h
  rw [Bool.not_eq_true', Bool.not_eq_false] at h2
  refine ⟨rest.take _, (List.take_append_drop _ _).symm, fun s => ?_⟩
  obtain ⟨e1, e2, e3⟩ := take_append h2 s
  unfold decodeSize
  dsimp only
  rw [if_neg h1, e1, e2, e3, if_neg h3, if_neg h4]
  rfl

theorem decodeSize_len {b0 : Nat} {rest r : Bytes} {sz : Nat} (h : decodeSize b0 rest = some (sz, r)) :
    r.length ≤ rest.length := by
  obtain ⟨q, rfl, _⟩ := decodeSize_pd h; simp

theorem skip_pd {sz : Nat} {b r : Bytes} (h : skip sz b = some r) :
    ∃ q, b = q ++ r ∧ ∀ s, skip sz (q ++ s) = some s := by
  unfold skip at h
  split at h
  · cases h
    rename_i hge
    refine ⟨b.take sz, (List.take_append_drop _ _).symm, fun s => ?_⟩
    obtain ⟨e1, _, e3⟩ := take_append hge s
    rw [skip, if_pos e1, e3]
  · cases h

theorem parsePath_pd {b r path : Bytes} (h : parsePath b = some (path, r)) :
    ∃ q, b = q ++ r ∧ ∀ s, parsePath (q ++ s) = some (path, s) := by
  revert h
  fun_cases parsePath b with
  | case2 y r1 hy =>   -- a one-byte path
    intro h; cases h
    exact ⟨[y], rfl, fun s => by rw [List.cons_append, parsePath, if_pos hy]; rfl⟩
  | case4 y r1 hy sz r3 hds hge =>   -- a size header, then that many bytes
    intro h; cases h
    obtain ⟨q1, rfl, hq1⟩ := decodeSize_pd hds
    refine ⟨y :: (q1 ++ r3.take sz), by rw [List.cons_append, List.append_assoc, List.take_append_drop], fun s => ?_⟩
    obtain ⟨e1, e2, e3⟩ := take_append hge s
    rw [List.cons_append, List.append_assoc, parsePath, if_neg hy, hq1]
    dsimp only
    rw [if_pos e1, e2, e3]
  | _ => intro h; cases h

theorem item_pd {b r : Bytes} {k : Item} (h : item b = some (k, r)) :
    ∃ q, q ≠ [] ∧ b = q ++ r ∧ ∀ s, item (q ++ s) = some (k, s) := by
  revert h
  fun_cases item b with
  | case2 r1 => intro h; cases h; exact ⟨[255], nofun, rfl, fun s => rfl⟩   -- the pair marker
  | case4 r1 path r3 hp hne =>   -- a back-reference and its path
    intro h; cases h
    obtain ⟨q, rfl, hq⟩ := parsePath_pd hp
    exact ⟨254 :: q, nofun, rfl, fun s => by rw [List.cons_append, item, if_neg hne, if_pos rfl, hq]⟩
  | case5 x r1 h1 h2 h3 =>   -- a one-byte atom
    intro h; cases h
    exact ⟨[x], nofun, rfl, fun s => by rw [List.cons_append, item, if_neg h1, if_neg h2, if_pos h3]; rfl⟩
  | case8 x r1 h1 h2 h3 sz r3 hds r4 hsk =>   -- an atom with a size header
    intro h; cases h
    obtain ⟨q1, rfl, hq1⟩ := decodeSize_pd hds
    obtain ⟨q2, rfl, hq2⟩ := skip_pd hsk
    refine ⟨x :: (q1 ++ q2), nofun, by rw [List.cons_append, List.append_assoc], fun s => ?_⟩
    rw [List.cons_append, List.append_assoc, item, if_neg h1, if_neg h2, if_neg h3, hq1]
    dsimp only
    rw [hq2]
  | _ => intro h; cases h
theorem item_len {b r : Bytes} {k : Item} (h : item b = some (k, r)) : r.length < b.length := by
  obtain ⟨q, hq, rfl, _⟩ := item_pd h
  cases q with
  | nil => exact absurd rfl hq
  | cons x xs => simp; omega

/-- number of items still expected after reading item `k` -/
def nextOps (k : Item) (ops : Nat) : Nat :=
  match k with
  | .cons => ops + 2
  | _ => ops

theorem scanT_zero (fuel : Nat) (b : Bytes) : scanT fuel 0 b = some b := by cases fuel <;> rfl

theorem scanT_succ (fuel ops : Nat) (b : Bytes) :
    scanT (fuel + 1) (ops + 1) b = match item b with
      | none => none
      | some (k, r) => scanT fuel (nextOps k ops) r := by
  rw [scanT]
  cases item b with
  | none => rfl
  | some p => obtain ⟨k, r⟩ := p; cases k <;> rfl

/-- One step of either scan at an item, for prefix-determinacy with fuel: `run` reads the item and goes on as `run'`.
The fuel needed is `w` units per consumed byte plus `c` for what is pending; an item is at least one byte, so the step
may leave up to `w + c - 1` pending. -/
theorem pd_step {β : Type} {run run' : Nat → Bytes → β} {out : Bytes → β} {w c c' fuel : Nat} {b r1 r : Bytes}
    {k : Item} (hi : item b = some (k, r1)) (hc : c' + 1 ≤ w + c)
    (hs : ∀ f x s, item x = some (k, s) → run (f + 1) x = run' f s)
    (ih : ∃ q, r1 = q ++ r ∧ ∀ s f', fuel ≤ f' ∨ w * q.length + c' ≤ f' → run' f' (q ++ s) = out s) :
    ∃ q, b = q ++ r ∧ ∀ s f', fuel + 1 ≤ f' ∨ w * q.length + c ≤ f' → run f' (q ++ s) = out s := by
  obtain ⟨q1, hne, rfl, hq1⟩ := item_pd hi
  obtain ⟨q2, rfl, hq2⟩ := ih
  refine ⟨q1 ++ q2, (List.append_assoc _ _ _).symm, fun s f' hf => ?_⟩
  have := List.length_pos_iff.mpr hne
  rw [List.length_append, Nat.mul_add] at hf
  have := Nat.le_mul_of_pos_right w this
  obtain ⟨f, rfl⟩ : ∃ f, f' = f + 1 := ⟨f' - 1, by omega⟩
  rw [List.append_assoc, hs f _ _ (hq1 _)]
  exact hq2 s f (by omega)

/-- prefix-determinacy and the role of the fuel in one statement: the scan of `q ++ s` leaves `s`, for every `s`
and with any fuel that is at least the given one, or one unit per consumed byte -/
theorem scanT_pd : ∀ (fuel ops : Nat) (b r : Bytes), scanT fuel ops b = some r →
    ∃ q, b = q ++ r ∧ ∀ s fuel', fuel ≤ fuel' ∨ q.length ≤ fuel' → scanT fuel' ops (q ++ s) = some s
  | fuel, 0, b, r, h => by
    rw [scanT_zero] at h
    cases h
    exact ⟨[], rfl, fun s f _ => scanT_zero f s⟩
  | 0, _ + 1, _, _, h => by cases h
  | fuel + 1, ops + 1, b, r, h => by
    rw [scanT_succ] at h
    cases hi : item b with
    | none => rw [hi] at h; cases h
    | some p =>
      obtain ⟨k, r1⟩ := p
      rw [hi] at h
      obtain ⟨q, hq, hrun⟩ := pd_step (run := fun f => scanT f (ops + 1)) (run' := fun f => scanT f (nextOps k ops))
        (w := 1) (c := 0) (c' := 0) (fuel := fuel) (out := some) hi (Nat.le_refl _) (fun f x s hx => by rw [scanT_succ, hx])
        (let ⟨q, e, hq⟩ := scanT_pd fuel _ _ _ h; ⟨q, e, fun s f' hf => hq s f' (by omega)⟩)
      exact ⟨q, hq, fun s f' hf => hrun s f' (by omega)⟩

theorem scanT_len {fuel ops : Nat} {b r : Bytes} (h : scanT fuel ops b = some r) : r.length ≤ b.length := by
  obtain ⟨q, rfl, _⟩ := scanT_pd _ _ _ _ h; simp

theorem scanT_fuel {fuel ops : Nat} {b r : Bytes} (h : scanT fuel ops b = some r) {fuel' : Nat}
    (hf : fuel ≤ fuel' ∨ b.length - r.length ≤ fuel') : scanT fuel' ops b = some r := by
  obtain ⟨q, rfl, hq⟩ := scanT_pd _ _ _ _ h
  exact hq r fuel' (by simpa using hf)

theorem scanT_pos {fuel ops : Nat} {b r : Bytes} (h : scanT fuel (ops + 1) b = some r) : r.length < b.length := by
  cases fuel with
  | zero => cases h
  | succ fuel =>
    rw [scanT_succ] at h
    cases hi : item b with
    | none => rw [hi] at h; cases h
    | some p =>
      rw [hi] at h
      have l1 := item_len hi
      have l2 := scanT_len h
      omega

def countSexp : List POp → Nat
  | [] => 0
  | .sexp :: ops => countSexp ops + 1
  | .cons :: ops => countSexp ops

theorem scanU_nil (fuel : Nat) (vals : Sh) (b : Bytes) : scanU fuel [] vals b = some (vals, b) := by
  cases fuel <;> rfl

/-- as `scanT_pd`; three units of fuel per consumed byte and one per pending operation suffice: a pair marker is one
byte, takes one unit and leaves two more operations pending -/
theorem scanU_pd (fuel : Nat) (ops : List POp) (vals : Sh) (b r : Bytes) (v' : Sh)
    (h : scanU fuel ops vals b = some (v', r)) :
    ∃ q, b = q ++ r ∧ ∀ s fuel', fuel ≤ fuel' ∨ 3 * q.length + ops.length ≤ fuel' →
      scanU fuel' ops vals (q ++ s) = some (v', s) := by
  fun_induction scanU fuel ops vals b
  -- The cases of `scanU`, numbered by its equations: 1 no operation is left; 4, 5, 7 an `sexp` operation reads a pair
  -- marker, an atom, a back-reference whose path resolves; 8 a `cons` operation finds two values.  All others return `none`.
  case case1 => cases h; exact ⟨[], rfl, fun s f _ => scanU_nil f _ s⟩
  case case4 hi ih => exact pd_step (w := 3) hi (by simp only [List.length_cons]; omega) (fun f x s hx => by rw [scanU, hx]) (ih h)
  case case5 hi ih => exact pd_step (w := 3) hi (by simp only [List.length_cons]; omega) (fun f x s hx => by rw [scanU, hx]) (ih h)
  case case7 hi _ ht ih =>
    exact pd_step (w := 3) hi (by simp only [List.length_cons]; omega) (fun f x s hx => by rw [scanU, hx]; dsimp only; rw [ht]) (ih h)
  case case8 ih =>
    obtain ⟨q, rfl, hq⟩ := ih h
    refine ⟨q, rfl, fun s f' hf => ?_⟩
    rw [List.length_cons] at hf
    obtain ⟨f, rfl⟩ : ∃ f, f' = f + 1 := ⟨f' - 1, by omega⟩
    rw [scanU]
    exact hq s f (by omega)
  all_goals cases h

theorem scanU_scanT (fuel : Nat) (ops : List POp) (vals : Sh) (b r : Bytes) (v' : Sh)
    (h : scanU fuel ops vals b = some (v', r)) : scanT fuel (countSexp ops) b = some r := by
  fun_induction scanU fuel ops vals b
  -- cases as in `scanU_pd`: the three that read an item are one step of `scanT`, a `cons` operation is none
  case case1 => cases h; exact scanT_zero _ _
  case case4 hi ih => rw [countSexp, scanT_succ, hi]; exact ih h
  case case5 hi ih => rw [countSexp, scanT_succ, hi]; exact ih h
  case case7 hi _ _ ih => rw [countSexp, scanT_succ, hi]; exact ih h
  case case8 ih => exact scanT_fuel (ih h) (Or.inl (Nat.le_succ _))
  all_goals cases h

theorem scanU_pos {fuel : Nat} {ops : List POp} {vals v' : Sh} {b r : Bytes}
    (h : scanU fuel (.sexp :: ops) vals b = some (v', r)) : r.length < b.length :=
  scanT_pos (scanU_scanT _ _ _ _ _ _ h)

theorem clvmSerLen_true {b : Bytes} {n : Nat} (h : clvmSerLen true b = some n) :
    ∃ r, scanT (b.length + 1) 1 b = some r ∧ n = b.length - r.length := by
  simp only [clvmSerLen, if_true] at h
  cases hs : scanT (b.length + 1) 1 b with
  | none => rw [hs] at h; cases h
  | some r => rw [hs] at h; cases h; exact ⟨r, rfl, rfl⟩

theorem clvmSerLen_false {b : Bytes} {n : Nat} (h : clvmSerLen false b = some n) :
    ∃ r v1 v2, scanU (3 * b.length + 3) [.sexp] .a b = some (.p v1 v2, r) ∧ n = b.length - r.length := by
  simp only [clvmSerLen, Bool.false_eq_true, if_false] at h
  split at h
  · cases h; exact ⟨_, _, _, ‹_›, rfl⟩
  · cases h

theorem take_consumed (q r : Bytes) : (q ++ r).take ((q ++ r).length - r.length) = q := by simp

theorem clvmSerLen_prefix (tr : Bool) (b : Bytes) (n : Nat) (h : clvmSerLen tr b = some n) (hn : n ≤ b.length)
    (x : Bytes) : clvmSerLen tr (b.take n ++ x) = some n := by
  cases tr with
  | true =>
    obtain ⟨r, hs, rfl⟩ := clvmSerLen_true h
    obtain ⟨q, rfl, hq⟩ := scanT_pd _ _ _ _ hs
    rw [take_consumed]
    have h2 := hq x ((q ++ x).length + 1) (Or.inr (by rw [List.length_append]; omega))
    simp only [clvmSerLen, if_true, h2, Option.map_some]
    congr 1; simp
  | false =>
    obtain ⟨r, v1, v2, hs, rfl⟩ := clvmSerLen_false h
    obtain ⟨q, rfl, hq⟩ := scanU_pd _ _ _ _ _ _ hs
    rw [take_consumed]
    have h2 := hq x (3 * (q ++ x).length + 3) (Or.inr (by rw [List.length_append, List.length_singleton]; omega))
    simp only [clvmSerLen, Bool.false_eq_true, if_false, h2]
    congr 1; simp

theorem clvmSerLen_trusted (b : Bytes) (n : Nat) (h : clvmSerLen false b = some n) : clvmSerLen true b = some n := by
  obtain ⟨r, v1, v2, hs, rfl⟩ := clvmSerLen_false h
  have h2 : scanT (b.length + 1) 1 b = some r :=
    scanT_fuel (scanU_scanT _ _ _ _ _ _ hs) (Or.inr (by omega))
  simp [clvmSerLen, h2]

theorem clvmSerLen_pos (tr : Bool) (b : Bytes) (n : Nat) (h : clvmSerLen tr b = some n) : 0 < n := by
  cases tr with
  | true =>
    obtain ⟨r, hs, rfl⟩ := clvmSerLen_true h
    have := scanT_pos hs; omega
  | false =>
    obtain ⟨r, v1, v2, hs, rfl⟩ := clvmSerLen_false h
    have := scanU_pos hs; omega

end ChiaModel.ClvmScan
