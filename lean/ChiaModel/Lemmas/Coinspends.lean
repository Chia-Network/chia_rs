import ChiaModel.Lemmas.FastPaths
import ChiaModel.Lemmas.BundlePath
/-
`get_coinspends_for_trusted_block` (model `getCoinspends`) on a spend list that the native loop accepted
(`Trace`): it succeeds, the recovered coin spends describe the list element by element (`Recovered`), and
the native loop cannot tell the original list from the list `build_generator` makes of the recovered
spends (it reads parent, puzzle and amount of each element only), nor one execution cost of the generator run
from another: the loop only passes that field through (`nativeLoop_setExec`).
-/
namespace ChiaModel.Gn
open ChiaModel ChiaModel.Cond

/-- `Recovered t css`: the coin spends `css` describe the spend list `t` element by element, in order; the list holds
the canonical atom of each amount, and whatever follows the solution in an element is dropped. -/
def Recovered : Sexp → List CoinSpendM → Prop
  | t, [] => t = .atom []
  | t, cs :: rest => ∃ spend nxt r, t = .pair spend nxt ∧
      extract5 spend = some (.atom cs.parent, cs.puzzle, .atom (canonNat cs.amount), cs.solution, r) ∧
      cs.parent.length = 32 ∧ cs.amount < 2^64 ∧ cs.puzzleHash = Sexp.treeHash cs.puzzle ∧
      cs.puzzleLen = (Sexp.serialize cs.puzzle).length ∧ cs.solutionLen = (Sexp.serialize cs.solution).length ∧
      Recovered nxt rest

theorem serLen_eq : ∀ (x : Sexp), serLen x = (Sexp.serialize x).length
  | .atom b => rfl
  | .pair l r => by
    simp only [serLen, Sexp.serialize, List.length_cons, List.length_append, serLen_eq l, serLen_eq r]
    omega

/-- what identifies the coin of a coin spend / of a validated spend -/
def csKey (cs : CoinSpendM) : Bytes × Bytes × Nat := (cs.parent, cs.puzzleHash, cs.amount)
def spKey (sp : Spend) : Bytes × Bytes × Nat := (sp.parentId, sp.puzzleHash, sp.coinAmount)

theorem extract5_allBytes' {sp a b c d r : Sexp} (h : extract5 sp = some (a, b, c, d, r)) (hb : sp.AllBytes) :
    a.AllBytes ∧ c.AllBytes := extract5_allBytes h hb

theorem coinspendsLoop_of_trace (fits : Sexp → Bool) (puz : Nat → RunRes) : ∀ (news : List Spend) (t : Sexp) (i m : Nat),
    Trace puz t i m news → t.AllBytes → revealsFit fits t = true →
    ∃ css, coinspendsLoop fits t = some css ∧ Recovered t css ∧ css.map csKey = news.map spKey := by
  intro news
  induction news with
  | nil =>
    intro t i m h _ _
    simp only [Trace] at h
    subst h
    exact ⟨[], rfl, rfl, rfl⟩
  | cons sp rest ih =>
    intro t i m h hab hfit
    obtain ⟨spend, nxt, puzzle, ab, sol, r, c, conds, m2, rfl, h5, hl, hv, hph, hid, hp, hc, hm2, hscan, htr⟩ := h
    simp only [Sexp.AllBytes] at hab
    obtain ⟨_, hbb⟩ := extract5_allBytes h5 hab.1
    obtain ⟨hcanon, hlt⟩ := C11.sanitizeUint_u64 hbb hv
    simp only [revealsFit, h5, Bool.and_eq_true] at hfit
    obtain ⟨⟨hf1, hf2⟩, hfit'⟩ := hfit
    obtain ⟨css, e1, e2, e3⟩ := ih nxt (i + 1) m2 htr hab.2 hfit'
    have hpa : parseAmount (.atom ab) = .ok sp.coinAmount := by
      simp only [parseAmount, atomOf, bind, Except.bind, hv]
    refine ⟨{ parent := sp.parentId, puzzleHash := Sexp.treeHash puzzle, amount := sp.coinAmount, puzzle := puzzle,
              solution := sol, puzzleLen := serLen puzzle, solutionLen := serLen sol } :: css,
      ?_, ?_, ?_⟩
    · simp only [coinspendsLoop, h5]
      rw [if_neg (by omega), hpa]
      simp only [programOrDefault, hf1, hf2, if_true, e1]
    · refine ⟨spend, nxt, r, rfl, ?_, hl, hlt, rfl, serLen_eq puzzle, serLen_eq sol, e2⟩
      simp only [h5, hcanon]
    · simp only [List.map_cons, e3, csKey, spKey, hph]

theorem getCoinspends_of_loop {fits : Sexp → Bool} {p : Params} {g : GenInput} {genRun : RunRes} {gc : Nat} {allSpends args : Sexp}
    {css : List CoinSpendM} (hq : ¬(simpleGen p.flags ∧ (!g.startsQuote) = true)) (hnode : generatorNodeOk p.flags g.prog = true)
    (hr : ¬(simpleGen p.flags ∧ g.nrefs > 0)) (hgen : genRun = some (gc, .pair allSpends args)) (hgc : gc ≤ Gen.maxBlockCostClvm)
    (hcs : coinspendsLoop fits allSpends = some css) : getCoinspends fits p g genRun = some css := by
  unfold getCoinspends
  rw [if_neg hq, if_neg (by simp [hnode]), if_neg hr, hgen]
  simp only
  rw [if_neg (by omega)]
  exact hcs

theorem Recovered.puzzleHash : ∀ (css : List CoinSpendM) (t : Sexp), Recovered t css →
    ∀ s ∈ css, s.puzzleHash = Sexp.treeHash s.puzzle := by
  intro css
  induction css with
  | nil => intro t _ s hs; cases hs
  | cons cs rest ih =>
    intro t h s hs
    obtain ⟨spend, nxt, r, _, _, _, _, h3, _, _, hrec⟩ := h
    rcases List.mem_cons.mp hs with rfl | hin
    · exact h3
    · exact ih nxt hrec s hin

theorem nativeLoop_recovered (env : Env) (puz : Nat → RunRes) : ∀ (css : List CoinSpendM) (t : Sexp), Recovered t css →
    ∀ (i : Nat) (ret : Bundle) (st : PState) (n m : Nat),
    nativeLoop env puz t i ret st n m = nativeLoop env puz (Sexp.ofList (css.map item)) i ret st n m := by
  intro css
  induction css with
  | nil =>
    intro t h i ret st n m
    simp only [Recovered] at h
    subst h
    rfl
  | cons cs rest ih =>
    intro t h i ret st n m
    obtain ⟨spend, nxt, r, rfl, h5, _, _, _, _, _, hrec⟩ := h
    simp only [List.map_cons, ofList_cons, nativeLoop, h5, extract5_item, ih nxt hrec]

theorem processSingleSpend_setExec {env : Env} {ret : Bundle} {st : PState} {parent ph amount conds : Sexp} {cc m : Nat}
    {ret' : Bundle} {st' : PState} {m' : Nat}
    (h : processSingleSpend env ret st parent ph amount conds cc m = .ok ((ret', st'), m')) (e : Nat) :
    processSingleSpend env { ret with executionCost := e } st parent ph amount conds cc m
      = .ok (({ ret' with executionCost := e }, st'), m') := by
  obtain ⟨p, hp, hnot, hk, hm, hacc, hfee, he⟩ := Rules.processSingleSpend_ok_iff.mp h
  refine Rules.processSingleSpend_ok_iff.mpr ⟨p, hp, hnot, hk, hm, hacc, hfee, ?_⟩
  have e1 : ret' = (Rules.enterSpend env cc (ret, st) p).1 := congrArg Prod.fst he
  have e2 : st' = (Rules.enterSpend env cc (ret, st) p).2 := congrArg Prod.snd he
  rw [e1, e2, Rules.enterSpend_eq, Rules.enterSpend_eq]

theorem nativeLoop_setExec {env : Env} {puz : Nat → RunRes} {t : Sexp} {i : Nat} {ret : Bundle} {st : PState} {n m : Nat}
    {a : Bundle} {s : PState} {m' : Nat} (h : nativeLoop env puz t i ret st n m = .ok ((a, s), m')) (e : Nat) :
    ∃ x, nativeLoop env puz t i { ret with executionCost := e } st n m = .ok (({ a with executionCost := x }, s), m') ∧
      x + ret.executionCost = a.executionCost + e := by
  refine nativeLoop_induct (P := fun t i ret st n m => ∀ e, ∃ x,
    nativeLoop env puz t i { ret with executionCost := e } st n m = .ok (({ a with executionCost := x }, s), m') ∧
      x + ret.executionCost = a.executionCost + e) (fun _ _ e => ⟨e, rfl, Nat.add_comm ..⟩) ?_ t i ret st n m h e
  intro spend nxt i ret st n m parent puzzle amount sol ext r1 s1 m1 hn h5 hs ih e
  obtain ⟨_, c, conds, hp, hc, hps⟩ := spendStep_ok_iff.mp hs
  have hx : r1.executionCost = ret.executionCost + c := (Rules.processSingleSpend_costs hps).1
  obtain ⟨x, hl, hxe⟩ := ih (e + c)
  have hstep : spendStep env (puz i) true { ret with executionCost := e } st parent (Sexp.treeHash puzzle) amount m
      = .ok (({ r1 with executionCost := e + c }, s1), m1) :=
    spendStep_ok_iff.mpr ⟨rfl, c, conds, hp, hc, processSingleSpend_setExec hps (e + c)⟩
  refine ⟨x, ?_, by omega⟩
  rw [nativeLoop_pair, if_neg hn, h5]
  simp only
  rw [hstep]
  exact hl
end ChiaModel.Gn
