import ChiaModel.Lemmas.Cost
import ChiaModel.Lemmas.CondNF
/-
The `parse_spends` model taken apart: what an accepting run of `pureCond`, `spendHeader`, `processSingleSpend`,
`parseSingleSpend`, one iteration of `spendLoop`, `finishBundle` and `parseSpends` went through.
-/
namespace ChiaModel.Cond

def visit (env : Env) (s : CSt) (cva : Cond) : CSt :=
  { s with spend := { s.spend with flags := visitCondition env s.counter s.spend.flags cva }, counter := s.counter + 1 }

theorem pureCond_iff {env : Env} {s : CSt} {c : Sexp} {op : Nat} {s' : CSt} {extra : Nat} :
    pureCond env s c op = .ok (s', extra) ↔
      ∃ args cva, rest c = .ok args ∧ parseArgs args op env.flags = .ok cva ∧
        applyCond env (visit env s cva) cva = .ok s' ∧ extra = condExtraCost cva := by
  unfold pureCond
  simp only [bind_ok_iff, pure, Except.pure, Except.ok.injEq, Prod.mk.injEq]
  exact ⟨fun ⟨args, h1, cva, h2, s1, h3, h4, h5⟩ => ⟨args, cva, h1, h2, h4 ▸ h3, h5.symm⟩,
    fun ⟨args, cva, h1, h2, h3, h5⟩ => ⟨args, h1, cva, h2, s', h3, rfl, h5.symm⟩⟩

theorem toKey_ok (env : Env) (pk k : Bytes) (h : toKey env pk = .ok k) : k = pk ∧ env.pkOk pk = true := by
  unfold toKey at h; split at h
  · injection h with h; exact ⟨h.symm, by assumption⟩
  · cases h

theorem sanitizeHash_ok {n : Sexp} {size : Nat} {b : Bytes} (h : sanitizeHash n size = .ok b) :
    n = .atom b ∧ b.length = size := by
  unfold sanitizeHash at h
  obtain ⟨b', h1, h⟩ := bind_ok h
  cases n with
  | pair l r => cases h1
  | atom x =>
    injection h1 with h1; subst h1
    split at h
    · injection h with h; subst h; exact ⟨rfl, by assumption⟩
    · cases h

theorem parseAmount_ok {n : Sexp} {v : Nat} (h : parseAmount n = .ok v) :
    ∃ b, n = .atom b ∧ sanitizeUint b 8 = .ok v := by
  unfold parseAmount at h
  obtain ⟨b, h1, h⟩ := bind_ok h
  cases n with
  | pair l r => cases h1
  | atom x =>
    injection h1 with h1; subst h1
    refine ⟨x, rfl, ?_⟩
    split at h
    · rename_i v' hv; injection h with h; subst h; exact hv
    · cases h

theorem spendHeader_ok {ret : Bundle} {st : PState} {parent ph amount : Sexp} {cc : Nat} {s0 : CSt}
    (h : spendHeader ret st parent ph amount cc = .ok s0) :
    ∃ parentId puzzleHash amountBuf myAmount,
      parent = .atom parentId ∧ parentId.length = 32 ∧ ph = .atom puzzleHash ∧ puzzleHash.length = 32 ∧
      amount = .atom amountBuf ∧ sanitizeUint amountBuf 8 = .ok myAmount ∧
      st.spentCoins.contains (coinId parentId puzzleHash amountBuf) = false ∧
      s0 = { ret := { ret with removalAmount := ret.removalAmount + myAmount },
             st := { st with spentCoins := st.spentCoins ++ [coinId parentId puzzleHash amountBuf],
                             spentPuzzles := puzzleHash :: st.spentPuzzles },
             spend := { parentId := parentId, coinAmount := myAmount, puzzleHash := puzzleHash,
                        coinId := coinId parentId puzzleHash amountBuf, executionCost := cc } } := by
  unfold spendHeader at h
  obtain ⟨parentId, h1, h⟩ := bind_ok h
  obtain ⟨puzzleHash, h2, h⟩ := bind_ok h
  obtain ⟨myAmount, h3, h⟩ := bind_ok h
  obtain ⟨amountBuf, h4, h⟩ := bind_ok h
  obtain ⟨e1, l1⟩ := sanitizeHash_ok h1
  obtain ⟨e2, l2⟩ := sanitizeHash_ok h2
  obtain ⟨b, e3, hs⟩ := parseAmount_ok h3
  subst e3
  injection h4 with h4; subst h4
  simp only at h
  by_cases hc : st.spentCoins.contains (coinId parentId puzzleHash b) = true
  · rw [if_pos hc] at h; cases h
  · rw [if_neg hc] at h
    injection h with h
    exact ⟨parentId, puzzleHash, b, myAmount, e1, l1, e2, l2, rfl, hs, by simpa using hc, h.symm⟩

theorem spendHeader_start {ret : Bundle} {st : PState} {parent ph amount : Sexp} {cc : Nat} {s0 : CSt}
    (h : spendHeader ret st parent ph amount cc = .ok s0) :
    s0.ret.spends = ret.spends ∧ s0.ret.executionCost = ret.executionCost ∧ s0.spend.flags = 0 := by
  obtain ⟨_, _, _, _, _, _, _, _, _, _, _, rfl⟩ := spendHeader_ok h
  exact ⟨rfl, rfl, rfl⟩

@[simp] theorem newSpendVisit_ret (env : Env) (s : CSt) : (newSpendVisit env s).ret = s.ret := by
  unfold newSpendVisit; split <;> rfl

theorem processSingleSpend_iff {env : Env} {ret : Bundle} {st : PState} {parent ph amount conds : Sexp} {cc m : Nat}
    {ret' : Bundle} {st' : PState} {m' : Nat} :
    processSingleSpend env ret st parent ph amount conds cc m = .ok ((ret', st'), m') ↔
      ∃ s0 s, spendHeader ret st parent ph amount cc = .ok s0 ∧ spendCharge env.flags ≤ m ∧
        condLoop env conds (newSpendVisit env (bump s0 (spendCharge env.flags))) (m - spendCharge env.flags) = .ok (s, m') ∧
        (ret', st') = finishSpend env s := by
  unfold processSingleSpend
  cases spendHeader ret st parent ph amount cc with
  | error e => exact ⟨nofun, fun ⟨_, _, h, _⟩ => nomatch h⟩
  | ok s0 =>
    dsimp only
    constructor
    · intro h
      obtain ⟨⟨_, _⟩, ha, h1⟩ := bind_ok h
      obtain ⟨⟨s, _⟩, hl, h2⟩ := bind_ok h1
      obtain ⟨hc, rfl, rfl⟩ := addCost_ok_iff.mp ha
      injection h2 with h2; injection h2 with hf hm
      subst hm
      exact ⟨s0, s, rfl, hc, hl, hf.symm⟩
    · rintro ⟨_, s, h0, hc, hl, hf⟩
      cases h0
      exact bind_ok_iff.mpr ⟨_, addCost_ok_iff.mpr ⟨hc, rfl, rfl⟩, bind_ok_iff.mpr ⟨_, hl, hf ▸ rfl⟩⟩

theorem parseSingleSpend_ok {sp parent ph amount conds : Sexp} (h : parseSingleSpend sp = .ok (parent, ph, amount, conds)) :
    ∃ r, sp = .pair parent (.pair ph (.pair amount (.pair conds r))) := by
  unfold parseSingleSpend at h
  cases sp with
  | atom b => cases h
  | pair a r1 =>
    cases r1 with
    | atom b => cases h
    | pair b r2 =>
      cases r2 with
      | atom b => cases h
      | pair c r3 =>
        cases r3 with
        | atom b => cases h
        | pair d r4 =>
          simp only [first, rest, bind, Except.bind, pure, Except.pure] at h
          injection h with h; injection h with h1 h; injection h with h2 h; injection h with h3 h4
          subst h1; subst h2; subst h3; subst h4
          exact ⟨r4, rfl⟩

theorem isEphemeral_map (st : PState) (f : Spend → Spend)
    (hf : ∀ sp, (f sp).parentId = sp.parentId ∧ (f sp).puzzleHash = sp.puzzleHash ∧ (f sp).coinAmount = sp.coinAmount ∧
      (f sp).createCoin = sp.createCoin) (sps : List Spend) (i : Nat) :
    isEphemeral st (sps.map f) i = isEphemeral st sps i := by
  unfold isEphemeral
  simp only [List.getElem?_map]
  cases sps[i]? with
  | none => rfl
  | some sp =>
    simp only [Option.map_some, (hf sp).1]
    cases st.spentCoins.idxOf? sp.parentId with
    | none => rfl
    | some pidx =>
      simp only
      cases sps[pidx]? with
      | none => rfl
      | some par => simp only [Option.map_some, (hf par).2.2.2, (hf sp).2.1, (hf sp).2.2.1]

theorem finishBundle_ok_iff {env : Env} {sigOk : List (Bytes × Bytes) → Bool} {ret ret' : Bundle} {st : PState} :
    finishBundle env sigOk ret st = .ok ret' ↔
      validateConditions (postProcess env ret st) st = .ok () ∧
      (hasFlag env.flags Gen.flagDontValidateSignature = false → sigOk st.pkmPairs = true) ∧
      ret' = { postProcess env ret st with validatedSignature := !hasFlag env.flags Gen.flagDontValidateSignature } := by
  unfold finishBundle
  cases hv : validateConditions (postProcess env ret st) st with
  | error e => simp [hv]
  | ok u =>
    cases hd : hasFlag env.flags Gen.flagDontValidateSignature <;> cases hs : sigOk st.pkmPairs <;>
      simp [hv, eq_comm]

theorem parseSpends_ok_iff {env : Env} {sigOk : List (Bytes × Bytes) → Bool} {t : Sexp} {L cc : Nat} {b : Bundle} {st : PState} :
    parseSpends env sigOk t L cc = .ok (b, st) ↔
      ∃ iter ret left ret', first t = .ok iter ∧
        spendLoop env cc iter {} {} (spendLimit env.flags) L = .ok ((ret, st), left) ∧
        finishBundle env sigOk ret st = .ok ret' ∧ b = { ret' with cost := L - left } := by
  rw [parseSpends_metered]
  cases first t with
  | error e => exact ⟨fun h => (nomatch h), fun ⟨_, _, _, _, h, _⟩ => (nomatch h)⟩
  | ok iter =>
    rw [metered_ok_iff]
    constructor
    · rintro ⟨⟨ret, st'⟩, left, ⟨ret', _⟩, hl, hb, h⟩
      cases hb' : finishBundle env sigOk ret st' with
      | error e => rw [hb'] at hb; cases hb
      | ok ret'' =>
        rw [hb'] at hb
        injection hb with hb; injection hb with h1 h2; subst h1; subst h2
        injection h with h1 h2; subst h2
        exact ⟨iter, ret, left, ret'', rfl, hl, hb', h1⟩
    · rintro ⟨_, ret, left, ret', hi, hl, hb, rfl⟩
      injection hi with hi; subst hi
      exact ⟨(ret, st), left, (ret', st), hl, by rw [hb]; rfl, rfl⟩

end ChiaModel.Cond

namespace ChiaModel.Rules
open ChiaModel ChiaModel.Cond

theorem spendLoop_cons (env : Env) (cc : Nat) (sp nxt : Sexp) (ret : Bundle) (st : PState) (n m : Nat)
    (r : (Bundle × PState) × Nat) :
    spendLoop env cc (.pair sp nxt) ret st n m = .ok r ↔
      n ≠ 0 ∧ ∃ ret1 st1 m1, (∃ parent ph amount conds, parseSingleSpend sp = .ok (parent, ph, amount, conds) ∧
        processSingleSpend env ret st parent ph amount conds cc m = .ok ((ret1, st1), m1)) ∧
        spendLoop env cc nxt ret1 st1 (n - 1) m1 = .ok r := by
  simp only [spendLoop]
  by_cases hn : n = 0
  · rw [if_pos hn]
    exact ⟨fun h => (by cases h), fun h => absurd hn h.1⟩
  · rw [if_neg hn]
    cases hp : parseSingleSpend sp with
    | error e =>
      simp only
      exact ⟨fun h => (by cases h), fun ⟨_, _, _, _, ⟨_, _, _, _, h, _⟩, _⟩ => (by cases h)⟩
    | ok q =>
      obtain ⟨parent, ph, amount, conds⟩ := q
      simp only
      constructor
      · intro h
        obtain ⟨⟨⟨r1, s1⟩, m1⟩, h1, h⟩ := bind_ok h
        exact ⟨hn, r1, s1, m1, ⟨parent, ph, amount, conds, rfl, h1⟩, h⟩
      · rintro ⟨_, r1, s1, m1, ⟨parent', ph', amount', conds', he, h1⟩, h⟩
        cases he
        rw [h1]; exact h

end ChiaModel.Rules
