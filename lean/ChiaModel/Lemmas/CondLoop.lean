import ChiaModel.Model.TimeLocks
import ChiaModel.Lemmas.CondInv
import ChiaModel.Spec.CondList
import ChiaModel.Lemmas.Hooks
/-
The condition loop (`condLoop`), for both visitors, factored into: parse every element, apply the parsed conditions in
order (`applyAll`), then book the total cost, count the conditions and clear the eligibility flags the visitor wants
cleared (`wrapF`): `condLoop_iff`.  What the visitor does at a condition is `clr` of two bits (`visitCondition_eq`, Hooks.lean); the
loop's bookkeeping is a `touch`, so it moves across `applyCond` (`applyCond_wrapF`).

`CEquiv`: two states of the condition loop agree on every field up to the order of list-valued items (the relation in
which C06 states that the order of the conditions within a spend does not matter).
-/
namespace ChiaModel.Cond

structure CEquiv (s t : CSt) : Prop where
  ret_spends : s.ret.spends = t.ret.spends
  ret_reserveFee : s.ret.reserveFee = t.ret.reserveFee
  ret_heightAbsolute : s.ret.heightAbsolute = t.ret.heightAbsolute
  ret_secondsAbsolute : s.ret.secondsAbsolute = t.ret.secondsAbsolute
  ret_aggSigUnsafe : List.Perm s.ret.aggSigUnsafe t.ret.aggSigUnsafe
  ret_beforeHeightAbsolute : s.ret.beforeHeightAbsolute = t.ret.beforeHeightAbsolute
  ret_beforeSecondsAbsolute : s.ret.beforeSecondsAbsolute = t.ret.beforeSecondsAbsolute
  ret_cost : s.ret.cost = t.ret.cost
  ret_executionCost : s.ret.executionCost = t.ret.executionCost
  ret_conditionCost : s.ret.conditionCost = t.ret.conditionCost
  ret_removalAmount : s.ret.removalAmount = t.ret.removalAmount
  ret_additionAmount : s.ret.additionAmount = t.ret.additionAmount
  ret_validatedSignature : s.ret.validatedSignature = t.ret.validatedSignature
  st_announceCoin : List.Perm s.st.announceCoin t.st.announceCoin
  st_announcePuzzle : List.Perm s.st.announcePuzzle t.st.announcePuzzle
  st_assertCoin : List.Perm s.st.assertCoin t.st.assertCoin
  st_assertPuzzle : List.Perm s.st.assertPuzzle t.st.assertPuzzle
  st_messages : List.Perm s.st.messages t.st.messages
  st_assertConcurrentSpend : List.Perm s.st.assertConcurrentSpend t.st.assertConcurrentSpend
  st_assertConcurrentPuzzle : List.Perm s.st.assertConcurrentPuzzle t.st.assertConcurrentPuzzle
  st_spentCoins : s.st.spentCoins = t.st.spentCoins
  st_spentPuzzles : s.st.spentPuzzles = t.st.spentPuzzles
  st_assertEphemeral : List.Perm s.st.assertEphemeral t.st.assertEphemeral
  st_assertNotEphemeral : List.Perm s.st.assertNotEphemeral t.st.assertNotEphemeral
  st_pkmPairs : List.Perm s.st.pkmPairs t.st.pkmPairs
  spend_parentId : s.spend.parentId = t.spend.parentId
  spend_coinAmount : s.spend.coinAmount = t.spend.coinAmount
  spend_puzzleHash : s.spend.puzzleHash = t.spend.puzzleHash
  spend_coinId : s.spend.coinId = t.spend.coinId
  spend_heightRelative : s.spend.heightRelative = t.spend.heightRelative
  spend_secondsRelative : s.spend.secondsRelative = t.spend.secondsRelative
  spend_beforeHeightRelative : s.spend.beforeHeightRelative = t.spend.beforeHeightRelative
  spend_beforeSecondsRelative : s.spend.beforeSecondsRelative = t.spend.beforeSecondsRelative
  spend_birthHeight : s.spend.birthHeight = t.spend.birthHeight
  spend_birthSeconds : s.spend.birthSeconds = t.spend.birthSeconds
  spend_createCoin : List.Perm s.spend.createCoin t.spend.createCoin
  spend_aggSigMe : List.Perm s.spend.aggSigMe t.spend.aggSigMe
  spend_aggSigParent : List.Perm s.spend.aggSigParent t.spend.aggSigParent
  spend_aggSigPuzzle : List.Perm s.spend.aggSigPuzzle t.spend.aggSigPuzzle
  spend_aggSigAmount : List.Perm s.spend.aggSigAmount t.spend.aggSigAmount
  spend_aggSigPuzzleAmount : List.Perm s.spend.aggSigPuzzleAmount t.spend.aggSigPuzzleAmount
  spend_aggSigParentAmount : List.Perm s.spend.aggSigParentAmount t.spend.aggSigParentAmount
  spend_aggSigParentPuzzle : List.Perm s.spend.aggSigParentPuzzle t.spend.aggSigParentPuzzle
  spend_flags : s.spend.flags = t.spend.flags
  spend_executionCost : s.spend.executionCost = t.spend.executionCost
  spend_conditionCost : s.spend.conditionCost = t.spend.conditionCost
  countdown : s.countdown = t.countdown
  counter : s.counter = t.counter

theorem CEquiv.symm {s t : CSt} (h : CEquiv s t) : CEquiv t s := by
  cases h
  constructor <;> first | exact Eq.symm ‹_› | exact List.Perm.symm ‹_›

def applyAll (env : Env) (s : CSt) (l : List Cond) : R CSt := l.foldlM (applyCond env) s

theorem applyAll_nil (env : Env) (s : CSt) : applyAll env s [] = .ok s := rfl

theorem applyAll_cons (env : Env) (s : CSt) (c : Cond) (l : List Cond) :
    applyAll env s (c :: l) = applyCond env s c >>= fun s' => applyAll env s' l := by
  unfold applyAll; rw [List.foldlM_cons]


theorem wrapF_zero (s : CSt) : wrapF (false, false) s 0 0 = s := rfl

theorem wrapF_wrapF (b c : Bool × Bool) (s : CSt) (n k n' k' : Nat) :
    wrapF c (wrapF b s n k) n' k' = wrapF (b.1 || c.1, b.2 || c.2) s (n + n') (k + k') := by
  simp only [wrapF, Nat.add_assoc, clr_clr]

theorem bump_eq_wrapF (s : CSt) (k : Nat) : bump s k = wrapF (false, false) s 0 k := rfl

theorem visit_eq_wrapF (env : Env) (s : CSt) (cva : Cond) :
    visit env s cva = wrapF (visitBits env.mempool s.counter cva) s 1 0 := by
  simp only [visit, visitCondition_eq]; rfl

theorem applyCond_wrapF (env : Env) (b : Bool × Bool) (s : CSt) (n k : Nat) (c : Cond) :
    applyCond env (wrapF b s n k) c = (applyCond env s c >>= fun u => .ok (wrapF b u n k)) := by
  have := applyCond_touch (fe := id) (fc := (· + k)) (fs := id) (g := clr b) (sc := (· + k)) (ctr := (· + n))
    env s c rfl (markFlags_clr b _) (clr_and_two b _)
  rw [show wrapF b s n k = touch id (· + k) id (clr b) (· + k) (· + n) s from rfl, this]
  cases applyCond env s c <;> rfl

theorem applyAll_wrapF (env : Env) (b : Bool × Bool) (n k : Nat) : ∀ (l : List Cond) (s : CSt),
    applyAll env (wrapF b s n k) l = (applyAll env s l >>= fun u => .ok (wrapF b u n k)) := by
  intro l
  induction l with
  | nil => intro s; rfl
  | cons c l ih =>
    intro s
    rw [applyAll_cons, applyAll_cons, applyCond_wrapF]
    cases applyCond env s c with
    | error e => rfl
    | ok u => exact ih u

theorem CEquiv.wrapF {s t : CSt} (h : CEquiv s t) (b : Bool × Bool) (n k : Nat) : CEquiv (wrapF b s n k) (wrapF b t n k) :=
  { h with
    ret_conditionCost := congrArg (· + k) h.ret_conditionCost
    spend_conditionCost := congrArg (· + k) h.spend_conditionCost
    spend_flags := congrArg (clr b) h.spend_flags
    counter := congrArg (· + n) h.counter }

theorem condUpd_counter (env : Env) (s : CSt) (c : Cond) : (condUpd env s c).counter = s.counter := rfl

def applyItem (env : Env) (s : CSt) : Item → R CSt
  | .unknown => .ok s
  | .known _ cva => applyCond env s cva

theorem applyItem_counter {env : Env} {s u : CSt} {it : Item} (h : applyItem env s it = .ok u) : u.counter = s.counter := by
  cases it with
  | unknown => injection h with h; rw [← h]
  | known op cva => obtain ⟨_, rfl⟩ := applyCond_ok h; exact condUpd_counter env s cva

theorem ok_bind {α β : Type} (a : α) (f : α → R β) : ((Except.ok a : R α) >>= f) = f a := rfl
theorem err_bind {α β : Type} (e : Err) (f : α → R β) : ((Except.error e : R α) >>= f) = .error e := rfl

theorem addCost_unknown (flags : Nat) (s : CSt) (m : Nat) :
    (if hasFlag flags Gen.flagCostConditions = true then addCost s m Gen.genericConditionCost else .ok (s, m))
      = addCost s m (itemCost flags .unknown) := by
  unfold itemCost; split <;> rfl

/-- the charge before a known condition, the visitor's flag clearing and the count are one `wrapF`, and it moves behind
`applyCond` (`applyCond_wrapF`) -/
theorem applyCond_visit {env : Env} {s : CSt} {k : Nat} {cva : Cond} {s' : CSt} :
    applyCond env (visit env (bump s k) cva) cva = .ok s' ↔
      ∃ u, applyCond env s cva = .ok u ∧ s' = wrapF (visitBits env.mempool s.counter cva) u 1 k := by
  rw [bump_eq_wrapF, visit_eq_wrapF, wrapF_wrapF, applyCond_wrapF, bind_ok_iff]
  simp only [Except.ok.injEq, eq_comm]; rfl

theorem bump_wrapF (b : Bool × Bool) (s : CSt) (n k k' : Nat) : bump (wrapF b s n k) k' = wrapF b s n (k + k') := by
  simp only [bump, wrapF, Nat.add_assoc]

theorem stepCond_iff (env : Env) (s : CSt) (m : Nat) (c : Sexp) (s' : CSt) (m' : Nat) :
    stepCond env s m c = .ok (s', m') ↔
      ∃ it, parseItem env.flags c = .ok it ∧ itemCost env.flags it ≤ m ∧ m' = m - itemCost env.flags it ∧
        ∃ u, applyItem env s it = .ok u ∧
          s' = wrapF (itemBits env.mempool s.counter it) u (itemCount it) (itemCost env.flags it) := by
  -- both sides branch alike on `first c`, `parseOpcode` and NO_UNKNOWN_CONDS
  unfold stepCond parseItem
  cases hf : first c with
  | error e =>
    rw [err_bind, err_bind]
    exact ⟨fun h => (by cases h), fun ⟨_, h, _⟩ => (by cases h)⟩
  | ok opn =>
    rw [ok_bind, ok_bind]
    cases ho : parseOpcode opn with
    | none =>
      dsimp only
      by_cases hnu : hasFlag env.flags Gen.flagNoUnknownConds = true
      · rw [if_pos hnu, if_pos hnu]
        exact ⟨fun h => (by cases h), fun ⟨_, h, _⟩ => (by cases h)⟩
      · rw [if_neg hnu, if_neg hnu, addCost_unknown, addCost_ok_iff]
        exact ⟨fun ⟨h1, h2, h3⟩ => ⟨.unknown, rfl, h1, h3, s, rfl, h2⟩,
          fun ⟨it, hit, h1, h3, u, hu, h2⟩ => by cases hit; cases hu; exact ⟨h1, h2, h3⟩⟩
    | some op =>
      -- charge, `pureCond`, charge again on the left, `rest`, `parseArgs` on the right: each accepted step by its own iff;
      -- what remains is that the two charges add up (`bump_wrapF`) around `applyCond_visit`
      dsimp only
      simp only [bind_ok_iff, Prod.exists, addCost_ok_iff, pureCond_iff, Except.ok.injEq]
      constructor
      · rintro ⟨_, _, ⟨h1, rfl, rfl⟩, _, _, ⟨args, cva, hr, hp, happ, rfl⟩, h2, rfl, rfl⟩
        obtain ⟨u, hu, rfl⟩ := applyCond_visit.mp happ
        exact ⟨_, ⟨args, hr, cva, hp, rfl⟩, by simp only [itemCost]; omega, by simp only [itemCost]; omega, u, hu,
          bump_wrapF ..⟩
      · rintro ⟨_, ⟨args, hr, cva, hp, rfl⟩, h1, rfl, u, hu, rfl⟩
        simp only [itemCost] at h1 ⊢
        exact ⟨_, _, ⟨by omega, rfl, rfl⟩, _, _, ⟨args, cva, hr, hp, applyCond_visit.mpr ⟨u, hu, rfl⟩, rfl⟩, by omega,
          (bump_wrapF ..).symm, by omega⟩

theorem applyAll_itemConds_cons (env : Env) (s : CSt) (it : Item) (l : List Item) :
    applyAll env s (itemConds (it :: l)) = applyItem env s it >>= fun u => applyAll env u (itemConds l) := by
  cases it with
  | unknown => rfl
  | known op cva => exact applyAll_cons env s cva _

theorem sexpList_nil {t : Sexp} (h : sexpList t = some []) : t = .atom [] := by
  cases t with
  | atom b =>
    cases b with
    | nil => rfl
    | cons x xs => simp [sexpList] at h
  | pair a r =>
    simp only [sexpList] at h
    cases hr : sexpList r with
    | none => rw [hr] at h; cases h
    | some l => rw [hr] at h; simp at h

theorem sexpList_cons {t : Sexp} {c : Sexp} {cs : List Sexp} (h : sexpList t = some (c :: cs)) :
    ∃ nxt, t = .pair c nxt ∧ sexpList nxt = some cs := by
  cases t with
  | atom b =>
    cases b with
    | nil => simp [sexpList] at h
    | cons x xs => simp [sexpList] at h
  | pair a r =>
    simp only [sexpList] at h
    cases hr : sexpList r with
    | none => rw [hr] at h; cases h
    | some l =>
      rw [hr] at h
      simp only [Option.map_some, Option.some.injEq, List.cons.injEq] at h
      obtain ⟨rfl, rfl⟩ := h
      exact ⟨r, rfl, hr⟩

theorem parseItem_ok {flags : Nat} {c : Sexp} {it : Item} (h : parseItem flags c = .ok it) :
    ∃ opn args, c = .pair opn args ∧ ((parseOpcode opn = none ∧ it = .unknown) ∨
      ∃ op cva, parseOpcode opn = some op ∧ parseArgs args op flags = .ok cva ∧ it = .known op cva) := by
  rcases c with b | ⟨opn, args⟩
  · cases h
  refine ⟨opn, args, rfl, ?_⟩
  simp only [parseItem, first, rest, ok_bind] at h
  cases ho : parseOpcode opn with
  | none =>
    rw [ho] at h
    simp only at h
    split at h <;> cases h
    exact .inl ⟨rfl, rfl⟩
  | some op =>
    rw [ho] at h
    obtain ⟨cva, hpa, h⟩ := bind_ok h
    cases h
    exact .inr ⟨op, cva, rfl, hpa, rfl⟩

/-- `parseAll` is `mapM parseItem`: its one recursion equation, read at an accepted result -/
theorem parseAll_cons {flags : Nat} {c : Sexp} {cs : List Sexp} {items : List Item} :
    parseAll flags (c :: cs) = .ok items ↔
      ∃ it its, parseItem flags c = .ok it ∧ parseAll flags cs = .ok its ∧ items = it :: its := by
  simp only [parseAll]
  cases parseItem flags c <;> cases parseAll flags cs <;> simp [bind, Except.bind, eq_comm]

theorem applyAll_wrapF_iff {env : Env} {b : Bool × Bool} {n k : Nat} {l : List Cond} {s v : CSt} :
    applyAll env (wrapF b s n k) l = .ok v ↔ ∃ u, applyAll env s l = .ok u ∧ v = wrapF b u n k := by
  rw [applyAll_wrapF, bind_ok_iff]; simp only [Except.ok.injEq, eq_comm]

theorem condLoop_iff (env : Env) : ∀ (cs : List Sexp) (t : Sexp), sexpList t = some cs →
    ∀ (s : CSt) (m : Nat) (s' : CSt) (m' : Nat),
    (condLoop env t s m = .ok (s', m') ↔
      ∃ items, parseAll env.flags cs = .ok items ∧ totalCost env.flags items ≤ m ∧ m' = m - totalCost env.flags items ∧
        ∃ u, applyAll env s (itemConds items) = .ok u ∧
          s' = wrapF (allBits env.mempool s.counter items) u (totalCount items) (totalCost env.flags items)) := by
  intro cs
  induction cs with
  | nil =>
    intro t ht s m s' m'
    rw [sexpList_nil ht]
    simp only [condLoop, parseAll, Except.ok.injEq, Prod.mk.injEq]
    exact ⟨fun ⟨h1, h2⟩ => ⟨[], rfl, Nat.zero_le _, h2.symm, s, rfl, h1.symm⟩,
      fun ⟨items, hi, _, h3, u, hu, hs⟩ => by cases hi; cases hu; exact ⟨hs.symm, h3.symm⟩⟩
  | cons c cs ih =>
    intro t ht s m s' m'
    obtain ⟨nxt, rfl, hn⟩ := sexpList_cons ht
    -- left: one step (`stepCond_iff`), then the rest from the wrapped state (`ih`); right: the head item, then the rest.
    -- The step's `wrapF` moves behind the rest of `applyAll` (`applyAll_wrapF_iff`) and merges with the rest's
    -- (`wrapF_wrapF`); the rest counts from `s.counter + itemCount it` (`applyItem_counter`)
    simp only [condLoop, bind_ok_iff, Prod.exists, stepCond_iff, ih nxt hn, parseAll_cons]
    constructor
    · rintro ⟨_, _, ⟨it, hp, hk, rfl, u1, hu1, rfl⟩, items, hps, hK, rfl, u', hu', rfl⟩
      obtain ⟨v, hv, rfl⟩ := applyAll_wrapF_iff.mp hu'
      refine ⟨_, ⟨it, items, hp, hps, rfl⟩, by simp only [totalCost]; omega, by simp only [totalCost]; omega, v,
        by rw [applyAll_itemConds_cons, hu1]; exact hv, ?_⟩
      rw [wrapF_wrapF, show (wrapF _ u1 _ _).counter = _ from congrArg (· + _) (applyItem_counter hu1)]; rfl
    · rintro ⟨_, ⟨it, items, hp, hps, rfl⟩, hK, rfl, v, hv, rfl⟩
      rw [applyAll_itemConds_cons] at hv
      obtain ⟨u1, hu1, hv⟩ := bind_ok hv
      simp only [totalCost] at hK ⊢
      refine ⟨_, _, ⟨it, hp, by omega, rfl, u1, hu1, rfl⟩, items, hps, by omega, by omega, _,
        applyAll_wrapF_iff.mpr ⟨v, hv, rfl⟩, ?_⟩
      rw [wrapF_wrapF, show (wrapF _ u1 _ _).counter = _ from congrArg (· + _) (applyItem_counter hu1)]; rfl

theorem condLoop_proper (env : Env) : ∀ (t : Sexp) (s : CSt) (m : Nat) (r : CSt × Nat),
    condLoop env t s m = .ok r → ∃ cs, sexpList t = some cs := by
  intro t
  induction t with
  | atom b =>
    intro s m r h
    cases b with
    | nil => exact ⟨[], rfl⟩
    | cons x xs => simp [condLoop] at h
  | pair c nxt _ ih =>
    intro s m r h
    simp only [condLoop] at h
    obtain ⟨⟨s1, m1⟩, _, h⟩ := bind_ok h
    obtain ⟨cs, hcs⟩ := ih s1 m1 r h
    exact ⟨c :: cs, by simp [sexpList, hcs]⟩

open TL in
theorem parsedConds_cons_some {flags : Nat} {c nxt opn args : Sexp} {op : Nat} {cva : Cond}
    (h1 : first c = .ok opn) (h2 : parseOpcode opn = some op) (h3 : rest c = .ok args)
    (h4 : parseArgs args op flags = .ok cva) : parsedConds flags (.pair c nxt) = cva :: parsedConds flags nxt := by
  simp [parsedConds, h1, h2, h3, h4]

open TL in
theorem parsedConds_cons_none {flags : Nat} {c nxt opn : Sexp}
    (h1 : first c = .ok opn) (h2 : parseOpcode opn = none) : parsedConds flags (.pair c nxt) = parsedConds flags nxt := by
  simp [parsedConds, h1, h2]

open TL in
theorem parsedConds_eq_itemConds (flags : Nat) : ∀ (cs : List Sexp) (t : Sexp) (items : List Item),
    sexpList t = some cs → parseAll flags cs = .ok items → parsedConds flags t = itemConds items := by
  intro cs
  induction cs with
  | nil =>
    intro t items ht hp
    rw [sexpList_nil ht]
    cases hp; rfl
  | cons c cs ih =>
    intro t items ht hp
    obtain ⟨nxt, rfl, hn⟩ := sexpList_cons ht
    obtain ⟨it, its, hit, hits, rfl⟩ := parseAll_cons.mp hp
    obtain ⟨opn, args, rfl, ⟨ho, rfl⟩ | ⟨op, cva, ho, hpa, rfl⟩⟩ := parseItem_ok hit
    · rw [parsedConds_cons_none rfl ho]; exact ih nxt its hn hits
    · rw [parsedConds_cons_some rfl ho rfl hpa, ih nxt its hn hits]; rfl

end ChiaModel.Cond
