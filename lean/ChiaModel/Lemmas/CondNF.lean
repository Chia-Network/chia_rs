import ChiaModel.Lemmas.SpendFlags
import ChiaModel.Spec.ConditionRules
/-
Guard / update normal form of `applyCond`: `applyCond env s c` rejects unless `condOk env s c`, and then
returns `condUpd env s c`.  Both are written field by field in terms of what the specification's
extractors (`Rules.feeOf`, `heightRelOf`, `newCoinOf`, `sigOf`, …) read off the condition, so that a fact
about one field of the state never needs a case analysis over the constructors of `Cond`.
-/
namespace ChiaModel.Cond
open ChiaModel.Rules

theorem bind_ok_iff {α β : Type} {x : R α} {f : α → R β} {b : β} :
    (x >>= f) = .ok b ↔ ∃ a, x = .ok a ∧ f a = .ok b := by
  cases x with
  | error e => exact ⟨nofun, fun ⟨_, h, _⟩ => by cases h⟩
  | ok a => exact ⟨fun h => ⟨a, rfl, h⟩, fun ⟨_, h, h'⟩ => by cases h; exact h'⟩

theorem bind_ok {α β : Type} {x : R α} {f : α → R β} {b : β} (h : (x >>= f) = .ok b) :
    ∃ a, x = .ok a ∧ f a = .ok b := bind_ok_iff.mp h

theorem map_bind {α β γ δ : Type} {x : R α} {x' : R β} {g : α → β} {k : α → R γ} {k' : β → R δ} {f : γ → δ}
    (hx : x' = x.map g) (hk : ∀ a, x = .ok a → k' (g a) = (k a).map f) : (x' >>= k') = (x >>= k).map f := by
  subst hx
  cases x with
  | error e => rfl
  | ok a => exact hk a rfl

theorem map_bind_same {α γ δ : Type} {x : R α} {k : α → R γ} {k' : α → R δ} {f : γ → δ}
    (hk : ∀ a, x = .ok a → k' a = (k a).map f) : (x >>= k') = (x >>= k).map f :=
  map_bind (g := id) (by cases x <;> rfl) hk

theorem error_iff_not {α : Type} {x : R α} {P : Prop} (h1 : ∀ r, x = .ok r → P) (h2 : P → ∃ r, x = .ok r) :
    (∃ e, x = .error e) ↔ ¬ P := by
  cases x with
  | error e => exact ⟨fun _ hp => let ⟨_, h⟩ := h2 hp; (nomatch h), fun _ => ⟨e, rfl⟩⟩
  | ok r => exact ⟨fun ⟨_, h⟩ => (nomatch h), fun hn => absurd (h1 r rfl) hn⟩

def decOk (env : Env) (s : CSt) : Bool := hasFlag env.flags Gen.flagCostConditions || s.countdown != 0

def dec (env : Env) (s : CSt) : CSt :=
  { s with countdown := if hasFlag env.flags Gen.flagCostConditions then s.countdown else s.countdown - 1 }

theorem decrement_eq (env : Env) (s : CSt) :
    decrement env s = if decOk env s then .ok (dec env s) else .error .reject := by
  unfold decrement decOk dec
  cases hasFlag env.flags Gen.flagCostConditions with
  | true => rfl
  | false =>
    by_cases h : s.countdown = 0
    · simp [h]
    · simp [h]

/-- set HAS_RELATIVE_CONDITION (an addition, not an `|||`: the model of `assert_not_ephemeral` adds the bit when clear) -/
def markFlags (f : Nat) : Nat := if f &&& HAS_RELATIVE_CONDITION ≠ 0 then f else f + HAS_RELATIVE_CONDITION

/-- record spend number `n` as "must not be ephemeral" unless its flags `f` say it already is -/
def markList (f n : Nat) (l : List Nat) : List Nat := if f &&& HAS_RELATIVE_CONDITION ≠ 0 then l else n :: l

theorem markFlags_and (f : Nat) : markFlags f &&& HAS_RELATIVE_CONDITION ≠ 0 := by
  unfold markFlags
  split
  · assumption
  · rename_i h
    exact add_two_and f (Decidable.not_not.mp h)

/-- `assertNotEphemeral` with the case distinction pushed into the two fields it touches -/
def ane (s : CSt) : CSt :=
  { s with
    st := { s.st with assertNotEphemeral := markList s.spend.flags s.ret.spends.length s.st.assertNotEphemeral },
    spend := { s.spend with flags := markFlags s.spend.flags } }

theorem assertNotEphemeral_eq (s : CSt) : assertNotEphemeral s = ane s := by
  unfold assertNotEphemeral ane markList markFlags
  by_cases h : s.spend.flags &&& HAS_RELATIVE_CONDITION ≠ 0
  · rw [if_pos h, if_pos h, if_pos h]
  · rw [if_neg h, if_neg h, if_neg h]

/-- `pushAggSig` with the case distinction pushed into the seven lists -/
def pushSig (op : Nat) (sp : Spend) (e : Bytes × Bytes) : Spend :=
  { sp with
    aggSigMe := if op = Gen.opAggSigMe then sp.aggSigMe ++ [e] else sp.aggSigMe,
    aggSigParent := if op = Gen.opAggSigParent then sp.aggSigParent ++ [e] else sp.aggSigParent,
    aggSigPuzzle := if op = Gen.opAggSigPuzzle then sp.aggSigPuzzle ++ [e] else sp.aggSigPuzzle,
    aggSigAmount := if op = Gen.opAggSigAmount then sp.aggSigAmount ++ [e] else sp.aggSigAmount,
    aggSigPuzzleAmount := if op = Gen.opAggSigPuzzleAmount then sp.aggSigPuzzleAmount ++ [e] else sp.aggSigPuzzleAmount,
    aggSigParentAmount := if op = Gen.opAggSigParentAmount then sp.aggSigParentAmount ++ [e] else sp.aggSigParentAmount,
    aggSigParentPuzzle := if op = Gen.opAggSigParentPuzzle then sp.aggSigParentPuzzle ++ [e] else sp.aggSigParentPuzzle }

section
/- the seven AGG_SIG opcodes, as the distinct numerals they are -/
attribute [local simp] Gen.opAggSigMe Gen.opAggSigParent Gen.opAggSigPuzzle Gen.opAggSigAmount Gen.opAggSigPuzzleAmount
  Gen.opAggSigParentAmount Gen.opAggSigParentPuzzle

theorem pushAggSig_eq (op : Nat) (sp : Spend) (e : Bytes × Bytes) : pushAggSig op sp e = pushSig op sp e := by
  unfold pushAggSig pushSig
  by_cases h1 : op = Gen.opAggSigMe
  · subst h1; simp
  by_cases h2 : op = Gen.opAggSigParent
  · subst h2; simp
  by_cases h3 : op = Gen.opAggSigPuzzle
  · subst h3; simp
  by_cases h4 : op = Gen.opAggSigAmount
  · subst h4; simp
  by_cases h5 : op = Gen.opAggSigPuzzleAmount
  · subst h5; simp
  by_cases h6 : op = Gen.opAggSigParentAmount
  · subst h6; simp
  by_cases h7 : op = Gen.opAggSigParentPuzzle
  · subst h7; simp
  simp at h1 h2 h3 h4 h5 h6 h7
  simp [h1, h2, h3, h4, h5, h6, h7]

end

end ChiaModel.Cond

namespace ChiaModel.Rules
open ChiaModel ChiaModel.Cond

theorem aggSigSuffix_eq (op : Nat) (sp : Spend) : aggSigSuffix op sp = signedSuffix op (attrsOf sp) := rfl

end ChiaModel.Rules

namespace ChiaModel.Cond
open ChiaModel.Rules

/-- `x` combined with an optional contribution.  Every field of `condUpd` has this form, so facts about `condUpd`
(the lock summary it keeps, the snoc equations of the summary's folds) are facts about the combining function `f`. -/
def optApp {α β : Type} (f : α → β → α) (x : α) : Option β → α
  | none => x
  | some v => f x v

@[simp] theorem optApp_none {α β : Type} (f : α → β → α) (x : α) : optApp f x none = x := rfl
@[simp] theorem optApp_some {α β : Type} (f : α → β → α) (x : α) (v : β) : optApp f x (some v) = f x v := rfl

theorem optApp_ite {α β : Type} (f : α → β → α) (x : α) (p : Prop) [Decidable p] (v : β) :
    optApp f x (if p then some v else none) = if p then f x v else x := by
  split <;> rfl

/-- the two ways the model extends a list, named so that they can be passed to `optApp` -/
abbrev snoc {α : Type} (l : List α) (x : α) : List α := l ++ [x]
abbrev consr {α : Type} (l : List α) (x : α) : List α := x :: l

def condOk (env : Env) (s : CSt) (c : Cond) : Bool :=
  selfAssertOk (attrsOf s.spend) c && aggSigOk env c
  && (feeOf c).all (fun v => s.ret.reserveFee + v < 2 ^ 64)
  && (newCoinOf c).all (fun nc => !s.spend.createCoin.any (fun x => x.ph == nc.ph && x.amount == nc.amount))
  && (secondsRelOf c).all (fun v => !optLe s.spend.beforeSecondsRelative v)
  && (heightRelOf c).all (fun v => !optLe s.spend.beforeHeightRelative v)
  && (beforeSecondsRelOf c).all (fun v => !optGe s.spend.secondsRelative v)
  && (beforeHeightRelOf c).all (fun v => !optGe s.spend.heightRelative v)
  && (birthSecondsOf c).all (fun v => !isSomeNe s.spend.birthSeconds v)
  && (birthHeightOf c).all (fun v => !isSomeNe s.spend.birthHeight v)
  && (!isAnnounceCond c || decOk env s)

def condUpd (env : Env) (s : CSt) (c : Cond) : CSt :=
  let a := attrsOf s.spend
  let n := s.ret.spends.length
  { ret := { s.ret with
      reserveFee := optApp (· + ·) s.ret.reserveFee (feeOf c)
      heightAbsolute := optApp max s.ret.heightAbsolute (heightAbsOf c)
      secondsAbsolute := optApp max s.ret.secondsAbsolute (secondsAbsOf c)
      beforeHeightAbsolute := optApp optMin s.ret.beforeHeightAbsolute (beforeHeightAbsOf c)
      beforeSecondsAbsolute := optApp optMin s.ret.beforeSecondsAbsolute (beforeSecondsAbsOf c)
      aggSigUnsafe := optApp snoc s.ret.aggSigUnsafe (sigOf Gen.opAggSigUnsafe c)
      additionAmount := optApp (fun v (nc : NewCoin) => v + nc.amount) s.ret.additionAmount (newCoinOf c) }
    st := { s.st with
      announceCoin := optApp consr s.st.announceCoin (coinAnnouncementOf a c)
      announcePuzzle := optApp consr s.st.announcePuzzle (puzzleAnnouncementOf a c)
      assertCoin := optApp consr s.st.assertCoin (assertCoinAnnouncementOf c)
      assertPuzzle := optApp consr s.st.assertPuzzle (assertPuzzleAnnouncementOf c)
      messages := optApp consr s.st.messages (messageOf a c)
      assertConcurrentSpend := optApp consr s.st.assertConcurrentSpend (concurrentSpendOf c)
      assertConcurrentPuzzle := optApp consr s.st.assertConcurrentPuzzle (concurrentPuzzleOf c)
      assertEphemeral := bif isAssertEphemeral c then n :: s.st.assertEphemeral else s.st.assertEphemeral
      assertNotEphemeral := bif marksNotEphemeral c then markList s.spend.flags n s.st.assertNotEphemeral
                            else s.st.assertNotEphemeral
      pkmPairs := optApp (fun l e => bif hasFlag env.flags Gen.flagDontValidateSignature then l else snoc l e)
        s.st.pkmPairs (signedPairOf a c) }
    spend := { s.spend with
      heightRelative := optApp optMax s.spend.heightRelative (heightRelOf c)
      secondsRelative := optApp optMax s.spend.secondsRelative (secondsRelOf c)
      beforeHeightRelative := optApp optMin s.spend.beforeHeightRelative (beforeHeightRelOf c)
      beforeSecondsRelative := optApp optMin s.spend.beforeSecondsRelative (beforeSecondsRelOf c)
      birthHeight := optApp (fun _ v => some v) s.spend.birthHeight (birthHeightOf c)
      birthSeconds := optApp (fun _ v => some v) s.spend.birthSeconds (birthSecondsOf c)
      createCoin := optApp snoc s.spend.createCoin (newCoinOf c)
      aggSigMe := optApp snoc s.spend.aggSigMe (sigOf Gen.opAggSigMe c)
      aggSigParent := optApp snoc s.spend.aggSigParent (sigOf Gen.opAggSigParent c)
      aggSigPuzzle := optApp snoc s.spend.aggSigPuzzle (sigOf Gen.opAggSigPuzzle c)
      aggSigAmount := optApp snoc s.spend.aggSigAmount (sigOf Gen.opAggSigAmount c)
      aggSigPuzzleAmount := optApp snoc s.spend.aggSigPuzzleAmount (sigOf Gen.opAggSigPuzzleAmount c)
      aggSigParentAmount := optApp snoc s.spend.aggSigParentAmount (sigOf Gen.opAggSigParentAmount c)
      aggSigParentPuzzle := optApp snoc s.spend.aggSigParentPuzzle (sigOf Gen.opAggSigParentPuzzle c)
      flags := bif marksNotEphemeral c then markFlags s.spend.flags else s.spend.flags }
    countdown := bif isAnnounceCond c then (dec env s).countdown else s.countdown
    counter := s.counter }

-- stated for the numeral of `Gen.opAggSigUnsafe`: where it is used the generated opcode constants are already unfolded
theorem signedSuffix_unsafe (a : Attrs) : signedSuffix 49 a = [] := by
  simp [signedSuffix, Gen.opAggSigMe, Gen.opAggSigParent, Gen.opAggSigPuzzle, Gen.opAggSigAmount,
    Gen.opAggSigPuzzleAmount, Gen.opAggSigParentAmount, Gen.opAggSigParentPuzzle]

theorem ite_not {α : Type} {b : Bool} {x y e : α} (h : x = y) :
    (if b = true then e else x) = if (!b) = true then y else e := by
  subst h; cases b <;> rfl

theorem ite_ne {α β : Type} [DecidableEq β] {u v : β} {x y e : α} (h : x = y) :
    (if u ≠ v then e else x) = if decide (u = v) = true then y else e := by
  subst h; by_cases huv : u = v <;> simp [huv]

section
attribute [local simp] selfAssertOk aggSigOk feeOf newCoinOf secondsRelOf heightRelOf beforeSecondsRelOf beforeHeightRelOf
  birthSecondsOf birthHeightOf heightAbsOf secondsAbsOf beforeHeightAbsOf beforeSecondsAbsOf sigOf signedPairOf
  coinAnnouncementOf puzzleAnnouncementOf assertCoinAnnouncementOf assertPuzzleAnnouncementOf messageOf concurrentSpendOf
  concurrentPuzzleOf isAnnounceCond marksNotEphemeral isAssertEphemeral

theorem applyCond_eq (env : Env) (s : CSt) (c : Cond) :
    applyCond env s c = if condOk env s c then .ok (condUpd env s c) else .error .reject := by
  cases c <;>
    simp only [applyCond, condOk, selfAssertOk, aggSigOk, feeOf, newCoinOf, secondsRelOf, heightRelOf,
      beforeSecondsRelOf, beforeHeightRelOf, birthSecondsOf, birthHeightOf, isAnnounceCond, Option.all_none, Option.all_some,
      Bool.and_true, Bool.true_and, Bool.not_false, Bool.true_or, Bool.not_true, Bool.false_or,
      assertNotEphemeral_eq, decrement_eq, ↓reduceIte, attrsOf]
  case aggSig op pk msg =>
    by_cases h1 : op = Gen.opAggSigUnsafe
    · subst h1
      cases h2 : unsafeMsgOk msg <;> cases h3 : env.pkOk pk <;>
        cases h4 : hasFlag env.flags Gen.flagDontValidateSignature <;>
        simp [condUpd, toKey, h3, h4, signedSuffix_unsafe, bind, Except.bind, pure, Except.pure, Gen.opAggSigUnsafe,
          Gen.opAggSigMe, Gen.opAggSigParent, Gen.opAggSigPuzzle, Gen.opAggSigAmount, Gen.opAggSigPuzzleAmount,
          Gen.opAggSigParentAmount, Gen.opAggSigParentPuzzle]
    · cases h3 : env.pkOk pk <;> cases h4 : hasFlag env.flags Gen.flagDontValidateSignature <;>
        simp [condUpd, toKey, h1, h3, h4, optApp_ite, pushAggSig_eq, pushSig, Rules.aggSigSuffix_eq, bind, Except.bind,
          pure, Except.pure]
  case reserveFee v =>
    by_cases h : s.ret.reserveFee + v < 2 ^ 64
    · rw [if_neg (Nat.not_le.mpr h), if_pos (decide_eq_true h)]; rfl
    · rw [if_pos (Nat.not_lt.mp h), if_neg (by simpa using h)]
  -- the remaining guards are a Boolean test (`ite_not`), an equation (`ite_ne`), the announcement countdown, or absent
  all_goals first
    | rfl
    | exact ite_not rfl
    | exact ite_ne rfl
    | (cases decOk env s <;> rfl)

end

theorem condOk_iff (env : Env) (s : CSt) (c : Cond) : condOk env s c = true ↔
    selfAssertOk (attrsOf s.spend) c = true ∧ aggSigOk env c = true
    ∧ (∀ v, feeOf c = some v → s.ret.reserveFee + v < 2 ^ 64)
    ∧ (∀ nc, newCoinOf c = some nc → s.spend.createCoin.any (fun x => x.ph == nc.ph && x.amount == nc.amount) = false)
    ∧ (∀ v, secondsRelOf c = some v → optLe s.spend.beforeSecondsRelative v = false)
    ∧ (∀ v, heightRelOf c = some v → optLe s.spend.beforeHeightRelative v = false)
    ∧ (∀ v, beforeSecondsRelOf c = some v → optGe s.spend.secondsRelative v = false)
    ∧ (∀ v, beforeHeightRelOf c = some v → optGe s.spend.heightRelative v = false)
    ∧ (∀ v, birthSecondsOf c = some v → isSomeNe s.spend.birthSeconds v = false)
    ∧ (∀ v, birthHeightOf c = some v → isSomeNe s.spend.birthHeight v = false)
    ∧ (isAnnounceCond c = false ∨ decOk env s = true) := by
  simp only [condOk, Bool.and_eq_true, and_assoc, Option.all_eq_true, decide_eq_true_eq, Bool.or_eq_true,
    Bool.not_eq_eq_eq_not, Bool.not_true]

theorem applyCond_ok {env : Env} {s s' : CSt} {c : Cond} (h : applyCond env s c = .ok s') :
    condOk env s c = true ∧ s' = condUpd env s c := by
  rw [applyCond_eq] at h
  by_cases hc : condOk env s c = true
  · rw [if_pos hc] at h; injection h with h; exact ⟨hc, h.symm⟩
  · rw [if_neg hc] at h; cases h

/-! ## what a condition only passes through

The cost bookkeeping, the list of finished spends (of which a condition reads the length), the two
eligibility bits of the spend flags and the condition counter are neither read by a guard nor combined with a
contribution: rewriting them commutes with `applyCond`. -/

def touch (fe fc : Nat → Nat) (fs : List Spend → List Spend) (g sc ctr : Nat → Nat) (s : CSt) : CSt :=
  { s with
    ret := { s.ret with executionCost := fe s.ret.executionCost, conditionCost := fc s.ret.conditionCost,
                        spends := fs s.ret.spends },
    spend := { s.spend with flags := g s.spend.flags, conditionCost := sc s.spend.conditionCost },
    counter := ctr s.counter }

section touch
variable {fe fc : Nat → Nat} {fs : List Spend → List Spend} {g sc ctr : Nat → Nat}

theorem condUpd_touch (env : Env) (s : CSt) (c : Cond) (hlen : (fs s.ret.spends).length = s.ret.spends.length)
    (hg : markFlags (g s.spend.flags) = g (markFlags s.spend.flags))
    (hg2 : g s.spend.flags &&& HAS_RELATIVE_CONDITION = s.spend.flags &&& HAS_RELATIVE_CONDITION) :
    condUpd env (touch fe fc fs g sc ctr s) c = touch fe fc fs g sc ctr (condUpd env s c) := by
  have hl (l : List Nat) : markList (g s.spend.flags) s.ret.spends.length l = markList s.spend.flags s.ret.spends.length l := by
    unfold markList; rw [hg2]
  simp only [condUpd, touch, hlen, hg, hl]
  cases marksNotEphemeral c <;> rfl

theorem applyCond_touch (env : Env) (s : CSt) (c : Cond) (hlen : (fs s.ret.spends).length = s.ret.spends.length)
    (hg : markFlags (g s.spend.flags) = g (markFlags s.spend.flags))
    (hg2 : g s.spend.flags &&& HAS_RELATIVE_CONDITION = s.spend.flags &&& HAS_RELATIVE_CONDITION) :
    applyCond env (touch fe fc fs g sc ctr s) c = (applyCond env s c).map (touch fe fc fs g sc ctr) := by
  rw [applyCond_eq, applyCond_eq, condUpd_touch env s c hlen hg hg2]
  -- no guard of `condOk` reads a field that `touch` rewrites: `condOk env (touch … s) c` unfolds to `condOk env s c`
  show (if condOk env s c = true then _ else _) = _
  split <;> rfl

end touch

theorem applyCond_env_eq {env env' : Env} (hp : env'.pkOk = env.pkOk)
    (hcc : hasFlag env'.flags Gen.flagCostConditions = hasFlag env.flags Gen.flagCostConditions)
    (hdvs : hasFlag env'.flags Gen.flagDontValidateSignature = hasFlag env.flags Gen.flagDontValidateSignature)
    (s : CSt) (c : Cond) : applyCond env' s c = applyCond env s c := by
  have h0 : aggSigOk env' c = aggSigOk env c := by unfold aggSigOk; rw [hp]
  have h1 : condOk env' s c = condOk env s c := by unfold condOk decOk; rw [h0, hcc]
  have h2 : condUpd env' s c = condUpd env s c := by simp only [condUpd, dec, hcc, hdvs]
  rw [applyCond_eq, applyCond_eq, h1, h2]

end ChiaModel.Cond
