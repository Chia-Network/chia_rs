import ChiaModel.Lemmas.Rules
/-
The order of the conditions within a spend (C06).  The per-spend rules are about membership and every aggregate of the
summary is a sum, a count, a list in listing order, or the value its specification selects among the members
(`SelSpec_perm`); so, by the refinement `applyAll_ok_iff`, a permuted list is accepted with an equivalent state
(`stateAfter_perm`; `C06.perm_conditions_partial`).  The element-wise parse, the cost table and the flags the visitor
clears respect permutation as well, hence so do the condition loop and `process_single_spend`
(`C06.perm_conditions_loop_partial`, `C06.perm_conditions_spend_partial`).
-/
namespace ChiaModel.Rules
open ChiaModel ChiaModel.Cond

theorem maxList_perm {l l' : List Nat} (h : List.Perm l l') : maxList l = maxList l' :=
  h.foldl_eq' (fun _ _ _ _ _ => Nat.max_right_comm ..) 0

theorem SelSpec_perm {R : Nat → Nat → Prop} (hanti : ∀ a b, R a b → R b a → a = b) {a b : Option Nat} {l l' : List Nat}
    (hp : List.Perm l l') (h : TL.SelSpec R a l) (h' : TL.SelSpec R b l') : a = b := by
  cases a with
  | none =>
    cases h
    cases b with
    | none => rfl
    | some m => exact absurd (hp.symm.subset h'.1) (List.not_mem_nil)
  | some m =>
    cases b with
    | none => cases h'; exact absurd (hp.subset h.1) (List.not_mem_nil)
    | some m' => exact congrArg some (hanti _ _ (h'.2 m (hp.subset h.1)) (h.2 m' (hp.symm.subset h'.1)))

theorem minOpt_perm {l l' : List Nat} (h : List.Perm l l') : minOpt l = minOpt l' :=
  SelSpec_perm (fun _ _ h1 h2 => Nat.le_antisymm h2 h1) h (minOpt_spec l) (minOpt_spec l')

theorem maxOpt_perm {l l' : List Nat} (h : List.Perm l l') : maxOpt l = maxOpt l' :=
  SelSpec_perm (fun _ _ => Nat.le_antisymm) h (maxOpt_spec l) (maxOpt_spec l')

theorem commonValue_perm {l l' : List Nat} (h : List.Perm l l') (hall : ∀ v ∈ l, ∀ w ∈ l, v = w) :
    commonValue l = commonValue l' :=
  SelSpec_perm (fun _ _ e _ => e) h (commonValue_spec l hall)
    (commonValue_spec l' fun v hv w hw => hall v (h.symm.subset hv) w (h.symm.subset hw))

theorem rev_app_perm {α : Type} {a a' o o' : List α} (h : List.Perm a a') (ho : List.Perm o o') :
    List.Perm (a.reverse ++ o) (a'.reverse ++ o') :=
  List.Perm.append ((List.reverse_perm _).trans (h.trans (List.reverse_perm _).symm)) ho

theorem ite_nil_perm {α : Type} (c : Prop) [Decidable c] {a a' : List α} (h : List.Perm a a') :
    List.Perm (if c then [] else a) (if c then [] else a') := by
  split
  · exact List.Perm.refl _
  · exact h

theorem accepts_perm (env : Env) (a : Attrs) (fb cd : Nat) {cs cs' : List Cond} (hp : List.Perm cs cs') :
    SpendAccepts env a fb cd cs ↔ SpendAccepts env a fb cd cs' := by
  have hm : ∀ c, c ∈ cs ↔ c ∈ cs' := fun c => hp.mem_iff
  have hfm : ∀ {β : Type} (f : Cond → Option β) (x : β), x ∈ cs.filterMap f ↔ x ∈ cs'.filterMap f :=
    fun f x => (hp.filterMap f).mem_iff
  have e3 : (createKeys cs).Nodup ↔ (createKeys cs').Nodup := ((hp.filterMap _).map _).nodup_iff
  have e8 : announceCount cs = announceCount cs' := hp.countP_eq _
  have e9 : feeSum cs = feeSum cs' := (hp.filterMap _).sum_nat
  simp only [SpendAccepts, hm, e3, e8, e9, birthHeights, birthSeconds, heightRels, beforeHeightRels, secondsRels,
    beforeSecondsRels, hfm]

theorem compatible_perm (s : CSt) {cs cs' : List Cond} (hp : List.Perm cs cs') : Compatible s cs ↔ Compatible s cs' := by
  have hfm : ∀ {β : Type} (f : Cond → Option β) (x : β), x ∈ cs.filterMap f ↔ x ∈ cs'.filterMap f :=
    fun f x => (hp.filterMap f).mem_iff
  have e : feeSum cs = feeSum cs' := (hp.filterMap _).sum_nat
  simp only [Compatible, e, fees, newCoins, secondsRels, heightRels, beforeSecondsRels, beforeHeightRels, birthSeconds, birthHeights,
    hfm]

/-- `hbh`, `hbs`: the birth assertions must agree, because the record keeps the last one -/
theorem stateAfter_perm (env : Env) (s : CSt) {cs cs' : List Cond} (hp : List.Perm cs cs')
    (hbh : ∀ v ∈ birthHeights cs, ∀ w ∈ birthHeights cs, v = w) (hbs : ∀ v ∈ birthSeconds cs, ∀ w ∈ birthSeconds cs, v = w) :
    CEquiv (stateAfter env s cs) (stateAfter env s cs') := by
  have sig (k : Nat) (l : List (Bytes × Bytes)) : (l ++ sigsOf k cs).Perm (l ++ sigsOf k cs') :=
    List.Perm.append_left _ (hp.filterMap _)
  have rev {β : Type} (f : Cond → Option β) (l : List β) :
      ((cs.filterMap f).reverse ++ l).Perm ((cs'.filterMap f).reverse ++ l) :=
    rev_app_perm (hp.filterMap f) (List.Perm.refl l)
  have hany : anyNotEphemeral cs = anyNotEphemeral cs' := hp.any_eq
  have hann : announceCount cs = announceCount cs' := hp.countP_eq _
  exact {
    ret_spends := rfl
    ret_reserveFee := congrArg (s.ret.reserveFee + ·) (hp.filterMap feeOf).sum_nat
    ret_heightAbsolute := congrArg (max s.ret.heightAbsolute) (maxList_perm (hp.filterMap heightAbsOf))
    ret_secondsAbsolute := congrArg (max s.ret.secondsAbsolute) (maxList_perm (hp.filterMap secondsAbsOf))
    ret_aggSigUnsafe := sig _ _
    ret_beforeHeightAbsolute := congrArg (minOpt2 s.ret.beforeHeightAbsolute) (minOpt_perm (hp.filterMap beforeHeightAbsOf))
    ret_beforeSecondsAbsolute := congrArg (minOpt2 s.ret.beforeSecondsAbsolute) (minOpt_perm (hp.filterMap beforeSecondsAbsOf))
    ret_cost := rfl
    ret_executionCost := rfl
    ret_conditionCost := rfl
    ret_removalAmount := rfl
    ret_additionAmount := congrArg (s.ret.additionAmount + ·) ((hp.filterMap newCoinOf).map NewCoin.amount).sum_nat
    ret_validatedSignature := rfl
    st_announceCoin := rev _ _
    st_announcePuzzle := rev _ _
    st_assertCoin := rev _ _
    st_assertPuzzle := rev _ _
    st_messages := rev _ _
    st_assertConcurrentSpend := rev _ _
    st_assertConcurrentPuzzle := rev _ _
    st_spentCoins := rfl
    st_spentPuzzles := rfl
    st_assertEphemeral := List.Perm.of_eq (congrArg (List.replicate · s.ret.spends.length ++ s.st.assertEphemeral)
      (hp.countP_eq isAssertEphemeral))
    st_assertNotEphemeral := List.Perm.of_eq (congrArg
      (fun b => bif b then markList s.spend.flags s.ret.spends.length s.st.assertNotEphemeral else s.st.assertNotEphemeral) hany)
    st_pkmPairs := List.Perm.append_left _ (ite_nil_perm _ (hp.filterMap _))
    spend_parentId := rfl
    spend_coinAmount := rfl
    spend_puzzleHash := rfl
    spend_coinId := rfl
    spend_heightRelative := congrArg (optApp optMax s.spend.heightRelative) (maxOpt_perm (hp.filterMap heightRelOf))
    spend_secondsRelative := congrArg (optApp optMax s.spend.secondsRelative) (maxOpt_perm (hp.filterMap secondsRelOf))
    spend_beforeHeightRelative := congrArg (optApp optMin s.spend.beforeHeightRelative) (minOpt_perm (hp.filterMap beforeHeightRelOf))
    spend_beforeSecondsRelative := congrArg (optApp optMin s.spend.beforeSecondsRelative) (minOpt_perm (hp.filterMap beforeSecondsRelOf))
    spend_birthHeight := congrArg (optApp (fun _ v => some v) s.spend.birthHeight) (commonValue_perm (hp.filterMap birthHeightOf) hbh)
    spend_birthSeconds := congrArg (optApp (fun _ v => some v) s.spend.birthSeconds) (commonValue_perm (hp.filterMap birthSecondsOf) hbs)
    spend_createCoin := List.Perm.append_left _ (hp.filterMap _)
    spend_aggSigMe := sig _ _
    spend_aggSigParent := sig _ _
    spend_aggSigPuzzle := sig _ _
    spend_aggSigAmount := sig _ _
    spend_aggSigPuzzleAmount := sig _ _
    spend_aggSigParentAmount := sig _ _
    spend_aggSigParentPuzzle := sig _ _
    spend_flags := congrArg (fun b => bif b then markFlags s.spend.flags else s.spend.flags) hany
    spend_executionCost := rfl
    spend_conditionCost := rfl
    countdown := congrArg (fun n => if hasFlag env.flags Gen.flagCostConditions then s.countdown else s.countdown - n) hann
    counter := rfl }

end ChiaModel.Rules

namespace ChiaModel.Cond

theorem parseAll_perm (flags : Nat) {cs cs' : List Sexp} (hp : List.Perm cs cs') : ∀ {items : List Item},
    parseAll flags cs = .ok items → ∃ items', parseAll flags cs' = .ok items' ∧ List.Perm items items' := by
  induction hp with
  | nil => intro items h; exact ⟨items, h, List.Perm.refl _⟩
  | cons c _ ih =>
    intro items h
    obtain ⟨it, its, h1, h2, rfl⟩ := parseAll_cons.mp h
    obtain ⟨its', h2', hp'⟩ := ih h2
    exact ⟨it :: its', parseAll_cons.mpr ⟨_, _, h1, h2', rfl⟩, List.Perm.cons _ hp'⟩
  | swap a b l =>
    intro items h
    obtain ⟨ib, r, h1, hr, rfl⟩ := parseAll_cons.mp h
    obtain ⟨ia, its, h2, h3, rfl⟩ := parseAll_cons.mp hr
    exact ⟨ia :: ib :: its, parseAll_cons.mpr ⟨_, _, h2, parseAll_cons.mpr ⟨_, _, h1, h3, rfl⟩, rfl⟩, List.Perm.swap _ _ _⟩
  | trans _ _ ih1 ih2 =>
    intro items h
    obtain ⟨i1, h1, p1⟩ := ih1 h
    obtain ⟨i2, h2, p2⟩ := ih2 h1
    exact ⟨i2, h2, p1.trans p2⟩

theorem itemConds_perm {l l' : List Item} (hp : List.Perm l l') : List.Perm (itemConds l) (itemConds l') := by
  induction hp with
  | nil => exact List.Perm.refl _
  | cons it _ ih => cases it <;> simp only [itemConds] <;> first | exact ih | exact List.Perm.cons _ ih
  | swap a b l =>
    cases a <;> cases b <;> simp only [itemConds] <;> first | exact List.Perm.refl _ | exact List.Perm.swap _ _ _
  | trans _ _ ih1 ih2 => exact ih1.trans ih2

theorem totalCost_perm (flags : Nat) {l l' : List Item} (hp : List.Perm l l') : totalCost flags l = totalCost flags l' := by
  induction hp with
  | nil => rfl
  | cons it _ ih => simp only [totalCost, ih]
  | swap a b l => simp only [totalCost]; omega
  | trans _ _ ih1 ih2 => exact ih1.trans ih2

theorem totalCount_perm {l l' : List Item} (hp : List.Perm l l') : totalCount l = totalCount l' := by
  induction hp with
  | nil => rfl
  | cons it _ ih => simp only [totalCount, ih]
  | swap a b l => simp only [totalCount]; omega
  | trans _ _ ih1 ih2 => exact ih1.trans ih2

theorem bitsOf_perm (mp : Bool) {l l' : List Item} (hp : List.Perm l l') : bitsOf mp l = bitsOf mp l' := by
  simp only [bitsOf, hp.any_eq]

theorem NoParentId_perm {l l' : List Item} (hp : List.Perm l l') (h : NoParentId l) : NoParentId l' :=
  fun it hit => h it (hp.symm.subset hit)

end ChiaModel.Cond
