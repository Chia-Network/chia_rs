import ChiaModel.Model.Conditions
/-
The cost countdown of `parse_spends` (C04).  Everything that threads the remaining budget has one normal
form (`Countdown`): below a threshold it fails with cost-exceeded, from the threshold on its outcome does
not depend on the budget and the threshold is what it subtracts.  Sequencing adds the thresholds.  How a
result moves with the limit (`Shift`, `ShiftUp`) and that the limit is exact (`limitExact_of_countdown`)
are read off the normal form; `metered` is the shape of the entry points they are stated for.
-/
namespace ChiaModel.Cond

theorem charge_ok_iff {m c m' : Nat} : charge m c = .ok m' ↔ c ≤ m ∧ m' = m - c := by
  unfold charge; split
  · constructor
    · intro h; cases h
    · intro ⟨h, _⟩; omega
  · constructor
    · intro h; injection h with h; omega
    · intro ⟨_, h⟩; rw [h]

theorem charge_err {m c : Nat} {e : Err} (h : charge m c = .error e) : e = .costExceeded := by
  unfold charge at h; split at h
  · injection h with h; exact h.symm
  · cases h

theorem addCost_ok_iff {s : CSt} {m c : Nat} {s' : CSt} {m' : Nat} :
    addCost s m c = .ok (s', m') ↔ c ≤ m ∧ s' = bump s c ∧ m' = m - c := by
  unfold addCost charge
  split
  · exact ⟨nofun, fun h => by omega⟩
  · exact ⟨fun h => by cases h; exact ⟨by omega, rfl, rfl⟩, fun ⟨_, h2, h3⟩ => by rw [h2, h3]; rfl⟩

theorem ite_error_ok {ε α : Type} {c : Prop} [Decidable c] {e : ε} {x : Except ε α} {v : α} :
    (if c then .error e else x) = .ok v ↔ ¬c ∧ x = .ok v := by
  by_cases hc : c
  · rw [if_pos hc]; exact ⟨nofun, fun h => absurd hc h.1⟩
  · rw [if_neg hc]; exact ⟨fun h => ⟨hc, h⟩, And.right⟩

def Countdown {α : Type} (f : Nat → R (α × Nat)) (k : Nat) (r : R α) : Prop :=
  ∀ m, f m = if m < k then .error .costExceeded else r.map (·, m - k)

def IsCountdown {α : Type} (f : Nat → R (α × Nat)) : Prop := ∃ k r, Countdown f k r

theorem IsCountdown.ok {α : Type} (a : α) : IsCountdown (fun m => (.ok (a, m) : R (α × Nat))) :=
  ⟨0, .ok a, fun m => by rw [if_neg (Nat.not_lt_zero m)]; rfl⟩

theorem IsCountdown.error {α : Type} (e : Err) : IsCountdown (fun _ => (.error e : R (α × Nat))) :=
  ⟨0, .error e, fun m => by rw [if_neg (Nat.not_lt_zero m)]; rfl⟩

theorem chargeThen_eq {α : Type} (a : α) (c m : Nat) :
    (do let m ← charge m c; pure (a, m) : R (α × Nat)) =
      if m < c then .error .costExceeded else .ok (a, m - c) := by
  unfold charge; split <;> rfl

theorem IsCountdown.charge {α : Type} (a : α) (c : Nat) :
    IsCountdown (fun m => (do let m ← charge m c; pure (a, m) : R (α × Nat))) :=
  ⟨c, .ok a, chargeThen_eq a c⟩

theorem IsCountdown.bind {α β : Type} {f : Nat → R (α × Nat)} {k : α × Nat → R (β × Nat)}
    (hf : IsCountdown f) (hk : ∀ a, IsCountdown (fun m => k (a, m))) : IsCountdown (fun m => f m >>= k) := by
  obtain ⟨c, r, hf⟩ := hf
  cases r with
  | error e =>
    refine ⟨c, .error e, fun m => ?_⟩
    simp only [hf m]
    split <;> rfl
  | ok a =>
    obtain ⟨c', r', hk⟩ := hk a
    refine ⟨c + c', r', fun m => ?_⟩
    simp only [hf m]
    by_cases h : m < c
    · rw [if_pos h, if_pos (by omega)]; rfl
    · rw [if_neg h]
      refine (hk (m - c)).trans ?_
      rw [Nat.sub_sub]
      by_cases h' : m - c < c'
      · rw [if_pos h', if_pos (by omega)]
      · rw [if_neg h', if_neg (by omega)]

theorem IsCountdown.of_ok {α : Type} {f : Nat → R (α × Nat)} (h : IsCountdown f) {m m' : Nat} {a : α}
    (hm : f m = .ok (a, m')) : m' ≤ m ∧ Countdown f (m - m') (.ok a) := by
  obtain ⟨k, r, hk⟩ := h
  have h1 := hk m
  rw [hm] at h1
  by_cases hlt : m < k
  · rw [if_pos hlt] at h1; cases h1
  · rw [if_neg hlt] at h1
    cases r with
    | error e => cases h1
    | ok a' =>
      injection h1 with h1; injection h1 with h1 h2
      subst h1; subst h2
      rw [show m - (m - k) = k by omega]
      exact ⟨Nat.sub_le _ _, hk⟩

def Shift {α : Type} (f : Nat → R (α × Nat)) : Prop :=
  ∀ m a m', f m = .ok (a, m') →
    m' ≤ m ∧ (∀ δ, δ ≤ m' → f (m - δ) = .ok (a, m' - δ)) ∧
    (∀ δ, m' < δ → δ ≤ m → f (m - δ) = .error .costExceeded)

theorem IsCountdown.shift {α : Type} {f : Nat → R (α × Nat)} (h : IsCountdown f) : Shift f := by
  intro m a m' hm
  obtain ⟨hle, hk⟩ := h.of_ok hm
  refine ⟨hle, fun δ hδ => ?_, fun δ h1 h2 => ?_⟩
  · rw [hk, if_neg (by omega)]
    show Except.ok (a, _) = _
    congr 2; omega
  · rw [hk, if_pos (by omega)]

def ShiftUp {α : Type} (f : Nat → R (α × Nat)) : Prop :=
  ∀ m a m', f m = .ok (a, m') → ∀ δ, f (m + δ) = .ok (a, m' + δ)

theorem IsCountdown.shiftUp {α : Type} {f : Nat → R (α × Nat)} (h : IsCountdown f) : ShiftUp f := by
  intro m a m' hm δ
  obtain ⟨hle, hk⟩ := h.of_ok hm
  rw [hk, if_neg (by omega)]
  show Except.ok (a, _) = _
  congr 2; omega

/-- the shape of every entry point: count down, finish, report the limit minus the remainder as the cost -/
def metered {α β γ : Type} (cd : Nat → R (α × Nat)) (fin : α → R β) (setCost : Nat → β → γ) (L : Nat) : R γ :=
  match cd L with
  | .error e => .error e
  | .ok (a, left) => (fin a).map (setCost (L - left))

theorem metered_ok_iff {α β γ : Type} {cd : Nat → R (α × Nat)} {fin : α → R β} {setCost : Nat → β → γ} {L : Nat} {x : γ} :
    metered cd fin setCost L = .ok x ↔ ∃ a left b, cd L = .ok (a, left) ∧ fin a = .ok b ∧ x = setCost (L - left) b := by
  unfold metered
  constructor
  · intro h
    cases hcd : cd L with
    | error e => rw [hcd] at h; cases h
    | ok q =>
      obtain ⟨a, left⟩ := q
      rw [hcd] at h
      dsimp only at h
      cases hf : fin a with
      | error e => rw [hf] at h; cases h
      | ok b =>
        rw [hf] at h
        injection h with h
        exact ⟨a, left, b, rfl, hf, h.symm⟩
  · rintro ⟨a, left, b, hcd, hf, rfl⟩
    rw [hcd]
    dsimp only
    rw [hf]
    rfl

theorem limitExact_of_countdown {α β γ : Type} {cd : Nat → R (α × Nat)} {fin : α → R β} {setCost : Nat → β → γ}
    {cost : γ → Nat} (hc : IsCountdown cd) (hcost : ∀ c b, cost (setCost c b) = c) {L : Nat} {x : γ}
    (h : metered cd fin setCost L = .ok x) :
    cost x ≤ L ∧ metered cd fin setCost (cost x) = .ok x ∧
    ∀ L', L' < cost x → metered cd fin setCost L' = .error .costExceeded := by
  obtain ⟨a, left, b, hcd, hf, rfl⟩ := metered_ok_iff.mp h
  obtain ⟨_, hk⟩ := hc.of_ok hcd
  rw [hcost]
  refine ⟨Nat.sub_le _ _, metered_ok_iff.mpr ⟨a, 0, b, ?_, hf, rfl⟩, fun L' hL' => ?_⟩
  · rw [hk, if_neg (Nat.lt_irrefl _), Nat.sub_self]; rfl
  · unfold metered; rw [hk, if_pos hL']

theorem isCountdown_addCost (s : CSt) (c : Nat) : IsCountdown (fun m => addCost s m c) :=
  .charge (bump s c) c

theorem isCountdown_stepCond (env : Env) (s : CSt) (c : Sexp) : IsCountdown (fun m => stepCond env s m c) := by
  unfold stepCond
  cases first c with
  | error e => exact .error e
  | ok opn =>
    simp only [bind, Except.bind]
    cases parseOpcode opn with
    | none =>
      simp only
      split
      · exact .error _
      · split
        · exact isCountdown_addCost _ _
        · exact (.ok s)
    | some op =>
      refine .bind (f := fun m => addCost s m (preCharge env.flags op))
        (k := fun x => do let (s, extra) ← pureCond env x.1 c op; addCost s x.2 extra) (isCountdown_addCost s _) fun s' => ?_
      dsimp only
      cases pureCond env s' c op with
      | error e => exact .error e
      | ok p => exact isCountdown_addCost p.1 p.2

theorem isCountdown_condLoop (env : Env) (t : Sexp) : ∀ s, IsCountdown (condLoop env t s) := by
  induction t with
  | atom b =>
    intro s
    cases b with
    | nil => exact (.ok s)
    | cons x xs => exact .error .reject
  | pair c nxt _ ih =>
    intro s
    exact .bind (isCountdown_stepCond env s c) ih

theorem isCountdown_processSingleSpend (env : Env) (ret : Bundle) (st : PState) (parent ph amount conds : Sexp) (cc : Nat) :
    IsCountdown (processSingleSpend env ret st parent ph amount conds cc) := by
  unfold processSingleSpend
  cases spendHeader ret st parent ph amount cc with
  | error e => exact .error e
  | ok s0 =>
    exact .bind (isCountdown_addCost s0 _) fun s1 =>
      .bind (isCountdown_condLoop env conds _) fun s => .ok (finishSpend env s)

theorem isCountdown_spendLoop (env : Env) (cc : Nat) (t : Sexp) :
    ∀ ret st n, IsCountdown (spendLoop env cc t ret st n) := by
  induction t with
  | atom b =>
    intro ret st n
    cases b with
    | nil => exact .ok (ret, st)
    | cons x xs => exact .error .reject
  | pair sp nxt _ ih =>
    intro ret st n
    simp only [spendLoop]
    split
    · exact .error _
    · cases parseSingleSpend sp with
      | error e => exact .error e
      | ok q =>
        exact .bind (isCountdown_processSingleSpend env ret st q.1 q.2.1 q.2.2.1 q.2.2.2 cc) fun p => ih p.1 p.2 (n - 1)

theorem parseSpends_metered (env : Env) (sigOk : List (Bytes × Bytes) → Bool) (t : Sexp) (L cc : Nat) :
    parseSpends env sigOk t L cc =
      match first t with
      | .error e => .error e
      | .ok iter => metered (spendLoop env cc iter {} {} (spendLimit env.flags))
          (fun a => (finishBundle env sigOk a.1 a.2).map (·, a.2)) (fun c x => ({ x.1 with cost := c }, x.2)) L := by
  unfold parseSpends metered
  cases first t with
  | error e => rfl
  | ok iter =>
    dsimp only
    cases spendLoop env cc iter {} {} (spendLimit env.flags) L with
    | error e => rfl
    | ok q =>
      dsimp only
      cases finishBundle env sigOk q.1.1 q.1.2 <;> rfl

end ChiaModel.Cond
