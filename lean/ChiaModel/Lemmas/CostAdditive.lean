import ChiaModel.Lemmas.NativeInv
import ChiaModel.Props.C04
/-
C10/C04: the execution cost and the condition cost of an accepted spend loop are SUMS OVER THE SPENDS of a
quantity read off each spend's own puzzle run `(clvm cost, conditions)` — nothing else enters (not the other
spends, not the parser state, not the remaining budget, not the visitor).  Hence the execution + condition cost
of a block is the sum of what `run_spendbundle` reports for the bundles it was assembled from, whatever the
order of the spends.
-/
namespace ChiaModel.Gn
open ChiaModel ChiaModel.Cond

/-- the puzzle runs a loop over `n` spends starting at index `i` consumes, in order -/
def oracleVals (puz : Nat → RunRes) : Nat → Nat → List RunRes
  | _, 0 => []
  | i, n + 1 => puz i :: oracleVals puz (i + 1) n

theorem oracleVals_eq (puz : Nat → RunRes) : ∀ n i, oracleVals puz i n = (List.range' i n).map puz
  | 0, _ => rfl
  | n + 1, i => by rw [oracleVals, oracleVals_eq puz n, List.range'_succ, List.map_cons]

theorem oracleVals_length (puz : Nat → RunRes) : ∀ n i, (oracleVals puz i n).length = n := by
  intro n i; rw [oracleVals_eq, List.length_map, List.length_range']

theorem oracleVals_append (puz : Nat → RunRes) (a b i : Nat) :
    oracleVals puz i (a + b) = oracleVals puz i a ++ oracleVals puz (i + a) b := by
  simp only [oracleVals_eq, ← List.map_append, List.range'_append_1]

theorem oracleVals_eq_map {α : Type} (puz : Nat → RunRes) (run : α → RunRes) (l : List α) (i : Nat)
    (h : ∀ j (h : j < l.length), puz (i + j) = run l[j]) : oracleVals puz i l.length = l.map run := by
  rw [oracleVals_eq]
  exact List.ext_getElem (by simp) fun j _ h2 => by simp [h j (by simpa using h2)]

theorem oracleVals_range (puz : Nat → RunRes) (n : Nat) : oracleVals puz 0 n = (List.range n).map puz := by
  rw [oracleVals_eq, List.range_eq_range']

theorem listElems_ofList (l : List Sexp) : listElems (Sexp.ofList l) = l := by
  induction l with
  | nil => rfl
  | cons a t ih =>
    show listElems (.pair a (Sexp.ofList t)) = a :: t
    simp only [listElems, ih]

theorem nativeLoop_costs (env : Env) (puz : Nat → RunRes) :
    ∀ (t : Sexp) i ret st n m ret' st' m', nativeLoop env puz t i ret st n m = .ok ((ret', st'), m') →
      ret'.executionCost = ret.executionCost + ((oracleVals puz i (listElems t).length).map runExec).sum ∧
      ret'.conditionCost = ret.conditionCost + ((oracleVals puz i (listElems t).length).map (runCond env.flags)).sum := by
  intro t i ret st n m ret' st' m' h
  refine nativeLoop_induct (P := fun t i ret _ _ _ =>
    ret'.executionCost = ret.executionCost + ((oracleVals puz i (listElems t).length).map runExec).sum ∧
    ret'.conditionCost = ret.conditionCost + ((oracleVals puz i (listElems t).length).map (runCond env.flags)).sum)
    (fun _ _ => ⟨rfl, rfl⟩) ?_ t i ret st n m h
  intro spend nxt i ret st n m parent puzzle amount sol ext r1 s1 m1 _ _ hs ih
  obtain ⟨c1, c2, _⟩ := spendStep_cost hs
  simp only [listElems, List.length_cons, oracleVals, List.map_cons, List.sum_cons]
  omega

theorem bundleLoop_costs (env : Env) (puz : Nat → RunRes) :
    ∀ (l : List CoinSpendM) i ret st m ret' st' m', bundleLoop env puz l i ret st m = .ok ((ret', st'), m') →
      ret'.executionCost = ret.executionCost + ((oracleVals puz i l.length).map runExec).sum ∧
      ret'.conditionCost = ret.conditionCost + ((oracleVals puz i l.length).map (runCond env.flags)).sum := by
  intro l i ret st m ret' st' m' h
  refine bundleLoop_induct (P := fun l i ret _ _ =>
    ret'.executionCost = ret.executionCost + ((oracleVals puz i l.length).map runExec).sum ∧
    ret'.conditionCost = ret.conditionCost + ((oracleVals puz i l.length).map (runCond env.flags)).sum)
    (fun _ => ⟨rfl, rfl⟩) ?_ l i ret st m h
  intro cs rest i ret st m r1 s1 m1 _ hs ih
  obtain ⟨c1, c2, _⟩ := spendStep_cost hs
  simp only [List.length_cons, oracleVals, List.map_cons, List.sum_cons]
  omega

theorem native_costs (p : Params) (g : GenInput) (c : Nat) (out allSpends : Sexp) (puz : Nat → RunRes) (L : Nat) (b : Bundle)
    (hfirst : first out = .ok allSpends)
    (h : native p g (some (c, out)) puz L = .ok b) :
    b.executionCost = c + ((oracleVals puz 0 (listElems allSpends).length).map runExec).sum ∧
    b.conditionCost = ((oracleVals puz 0 (listElems allSpends).length).map (runCond p.flags)).sum := by
  obtain ⟨_, _, _, _, gc, allSpends', args, ret, st, left, b0, hg, _, _, hloop, hb, rfl⟩ := native_ok_iff.mp h
  injection hg with hg; injection hg with h1 h2; subst h1; subst h2
  injection hfirst with hfirst; subst hfirst
  obtain ⟨_, _, rfl⟩ := finishBundle_ok_iff.mp hb
  obtain ⟨pc1, pc2⟩ := C04.postProcess_costs (nativeEnv p) ret st
  obtain ⟨e1, e2⟩ := nativeLoop_costs _ puz _ 0 _ _ _ _ ret st left hloop
  exact ⟨pc1.trans e1, pc2.trans (e2.trans (Nat.zero_add _))⟩

theorem runSpendbundle_costs (p : Params) (spends : List CoinSpendM) (puz : Nat → RunRes) (L : Nat)
    (b : Bundle) (pk : List (Bytes × Bytes)) (h : runSpendbundle p spends puz L = .ok (b, pk)) :
    b.executionCost = ((oracleVals puz 0 spends.length).map runExec).sum ∧
    b.conditionCost = ((oracleVals puz 0 spends.length).map (runCond p.flags)).sum := by
  obtain ⟨_, _, ret, st, left, hloop, _, rfl, _⟩ := runSpendbundle_ok_iff.mp h
  obtain ⟨pc1, pc2⟩ := C04.postProcess_costs (mpEnv p) ret st
  obtain ⟨e1, e2⟩ := bundleLoop_costs _ puz _ 0 _ _ _ ret st left hloop
  exact ⟨pc1.trans (e1.trans (Nat.zero_add _)), pc2.trans (e2.trans (Nat.zero_add _))⟩

end ChiaModel.Gn
