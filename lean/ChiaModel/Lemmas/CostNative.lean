import ChiaModel.Lemmas.CondInv
import ChiaModel.Model.Generator
/-
The cost countdown of the execution paths `run_block_generator2`, `run_block_generator` and `run_spendbundle`.
An interpreter run under `runWithLimit` followed by `subtract_cost` counts down like the condition loops
(`IsCountdown`, Lemmas/Cost.lean), so every entry point is `metered`: count down, finish, report limit minus
remainder (`native_eq`, `legacy_eq`, `runBundleWith_metered`), and an accepted run is characterised once
per entry point (`native_ok_iff`, `legacy_ok_iff`, `runSpendbundle_ok_iff`).  The two block entry points count down
alike — size cost, checks, the generator or ROM run, then their loop —: `blockCountdown`, with its countdown lemma and
its inversion stated once.
-/
namespace ChiaModel.Gn
open ChiaModel ChiaModel.Cond

theorem subtractCost_eq_charge (m c : Nat) : subtractCost m c = charge m c := by
  unfold subtractCost charge
  by_cases h : c > m
  · rw [if_pos h]
  · rw [if_neg h]

theorem runWithLimit_ok_iff {r : RunRes} {l c : Nat} {out : Sexp} :
    runWithLimit r l = .ok (c, out) ↔ r = some (c, out) ∧ c ≤ l := by
  unfold runWithLimit
  split
  · exact ⟨nofun, fun h => nomatch h.1⟩
  · split
    · exact ⟨nofun, fun ⟨h1, h2⟩ => by cases h1; omega⟩
    · exact ⟨fun h => by cases h; exact ⟨rfl, by omega⟩, fun ⟨h1, _⟩ => by cases h1; rfl⟩

/-- what an accepted spend adds to the execution cost: the CLVM cost of its puzzle run -/
def runExec : RunRes → Nat
  | some (c, _) => c
  | none => 0

def runCharge (r : RunRes) (m : Nat) : R ((Nat × Sexp) × Nat) :=
  match runWithLimit r m with
  | .error e => .error e
  | .ok (c, out) =>
    match subtractCost m c with
    | .error e => .error e
    | .ok m' => .ok ((c, out), m')

theorem runCharge_some (p : Nat × Sexp) (m : Nat) :
    runCharge (some p) m = if m < p.1 then .error .costExceeded else .ok (p, m - p.1) := by
  unfold runCharge runWithLimit subtractCost
  by_cases h : m < p.1
  · simp only [gt_iff_lt, h, if_true]
  · simp only [gt_iff_lt, h, if_false]

theorem runCharge_ok_iff {r : RunRes} {m : Nat} {p : Nat × Sexp} {m' : Nat} :
    runCharge r m = .ok (p, m') ↔ r = some p ∧ p.1 ≤ m ∧ m' = m - p.1 := by
  cases r with
  | none => exact ⟨fun h => (nomatch h), fun h => (nomatch h.1)⟩
  | some q =>
    rw [runCharge_some]
    constructor
    · intro h
      obtain ⟨hlt, h⟩ := ite_error_ok.mp h
      injection h with h; injection h with h1 h2
      subst h1
      exact ⟨rfl, by omega, h2.symm⟩
    · rintro ⟨h1, h2, h3⟩
      injection h1 with h1; subst h1; subst h3
      rw [if_neg (by omega)]

theorem isCountdown_runCharge (r : RunRes) : IsCountdown (runCharge r) := by
  cases r with
  | none => exact .error .reject
  | some p => exact ⟨p.1, .ok p, runCharge_some p⟩

/-- the iteration the spend loops of `run_block_generator2` and `run_spendbundle` share; `declaredOk` is the comparison
of the declared puzzle hash with the puzzle's, which only `run_spendbundle` makes -/
def spendStep (env : Env) (r : RunRes) (declaredOk : Bool) (ret : Bundle) (st : PState) (parent : Sexp) (h32 : Bytes)
    (amount : Sexp) (m : Nat) : R ((Bundle × PState) × Nat) := do
  let (p, m) ← runCharge r m
  if !declaredOk then .error .reject else
  processSingleSpend env { ret with executionCost := ret.executionCost + p.1 } st parent (.atom h32) amount p.2 p.1 m

theorem isCountdown_spendStep (env : Env) (r : RunRes) (declaredOk : Bool) (ret : Bundle) (st : PState) (parent : Sexp)
    (h32 : Bytes) (amount : Sexp) : IsCountdown (spendStep env r declaredOk ret st parent h32 amount) := by
  unfold spendStep
  refine .bind (isCountdown_runCharge r) fun p => ?_
  dsimp only
  split
  · exact .error _
  · exact isCountdown_processSingleSpend ..

theorem spendStep_ok_iff {env : Env} {r : RunRes} {declaredOk : Bool} {ret : Bundle} {st : PState} {parent amount : Sexp}
    {h32 : Bytes} {m : Nat} {x : (Bundle × PState) × Nat} :
    spendStep env r declaredOk ret st parent h32 amount m = .ok x ↔
      declaredOk = true ∧ ∃ c conds, r = some (c, conds) ∧ c ≤ m ∧
        processSingleSpend env { ret with executionCost := ret.executionCost + c } st parent (.atom h32) amount conds c (m - c)
          = .ok x := by
  unfold spendStep
  constructor
  · intro h
    obtain ⟨⟨⟨c, conds⟩, m0⟩, hr, h⟩ := bind_ok h
    obtain ⟨rfl, hc, rfl⟩ := runCharge_ok_iff.mp hr
    obtain ⟨hd, h⟩ := ite_error_ok.mp h
    exact ⟨by simpa using hd, c, conds, rfl, hc, h⟩
  · rintro ⟨rfl, c, conds, rfl, hc, h⟩
    rw [runCharge_ok_iff.mpr ⟨rfl, hc, rfl⟩]
    exact h

theorem extract5_some {sp a b c d r : Sexp} (h : extract5 sp = some (a, b, c, d, r)) :
    sp = .pair a (.pair b (.pair c (.pair d r))) := by
  unfold extract5 at h
  split at h
  · cases h; rfl
  · cases h

theorem extract5_allBytes {sp a b c d r : Sexp} (h : extract5 sp = some (a, b, c, d, r)) (hb : sp.AllBytes) :
    a.AllBytes ∧ c.AllBytes := by
  rw [extract5_some h] at hb
  exact ⟨hb.1, hb.2.2.1⟩

theorem nativeLoop_pair (env : Env) (puz : Nat → RunRes) (spend nxt : Sexp) (i : Nat) (ret : Bundle) (st : PState) (n m : Nat) :
    nativeLoop env puz (.pair spend nxt) i ret st n m =
      if n = 0 then .error .reject else
      match extract5 spend with
      | none => .error .reject
      | some (parent, puzzle, amount, _, _) => (do
        let (q, m) ← spendStep env (puz i) true ret st parent (Sexp.treeHash puzzle) amount m
        nativeLoop env puz nxt (i + 1) q.1 q.2 (n - 1) m) := by
  simp only [nativeLoop]
  split
  · rfl
  · cases extract5 spend with
    | none => rfl
    | some q =>
      obtain ⟨parent, puzzle, amount, sol, ext⟩ := q
      simp only [spendStep, runCharge]
      cases runWithLimit (puz i) m with
      | error e => rfl
      | ok p =>
        obtain ⟨c, out⟩ := p
        dsimp only
        cases subtractCost m c with
        | error e => rfl
        | ok m1 =>
          simp only [bind, Except.bind]
          cases processSingleSpend env { ret with executionCost := ret.executionCost + c } st parent
              (.atom (Sexp.treeHash puzzle)) amount out c m1 with
          | error e => rfl
          | ok r => rfl

theorem nativeLoop_pair_ok {env : Env} {puz : Nat → RunRes} {spend nxt : Sexp} {i : Nat} {ret : Bundle} {st : PState}
    {n m : Nat} {r : (Bundle × PState) × Nat} (h : nativeLoop env puz (.pair spend nxt) i ret st n m = .ok r) :
    n ≠ 0 ∧ ∃ parent puzzle amount sol ext ret1 st1 m1,
      extract5 spend = some (parent, puzzle, amount, sol, ext) ∧
      spendStep env (puz i) true ret st parent (Sexp.treeHash puzzle) amount m = .ok ((ret1, st1), m1) ∧
      nativeLoop env puz nxt (i + 1) ret1 st1 (n - 1) m1 = .ok r := by
  rw [nativeLoop_pair] at h
  obtain ⟨hn, h⟩ := ite_error_ok.mp h
  refine ⟨hn, ?_⟩
  cases h5 : extract5 spend with
  | none => rw [h5] at h; cases h
  | some q5 =>
    obtain ⟨parent, puzzle, amount, sol, ext⟩ := q5
    rw [h5] at h
    obtain ⟨⟨⟨ret1, st1⟩, m1⟩, hs, h⟩ := bind_ok h
    exact ⟨parent, puzzle, amount, sol, ext, ret1, st1, m1, rfl, hs, h⟩

theorem isCountdown_nativeLoop (env : Env) (puz : Nat → RunRes) : ∀ (t : Sexp) (i : Nat) (ret : Bundle) (st : PState) (n : Nat),
    IsCountdown (nativeLoop env puz t i ret st n) := by
  intro t
  induction t with
  | atom b =>
    intro i ret st n
    cases b with
    | nil => exact .ok (ret, st)
    | cons x xs => exact .error .reject
  | pair spend nxt _ ih =>
    intro i ret st n
    change IsCountdown fun m => nativeLoop _ _ _ _ _ _ _ m
    simp only [nativeLoop_pair]
    split
    · exact .error _
    · cases extract5 spend with
      | none => exact .error _
      | some q => exact .bind (isCountdown_spendStep ..) fun x => ih (i + 1) x.1 x.2 (n - 1)

theorem nativeLoop_induct {env : Env} {puz : Nat → RunRes} {ret' : Bundle} {st' : PState} {m' : Nat}
    {P : Sexp → Nat → Bundle → PState → Nat → Nat → Prop} (nil : ∀ i n, P (.atom []) i ret' st' n m')
    (step : ∀ spend nxt i ret st n m parent puzzle amount sol ext r1 s1 m1, n ≠ 0 →
      extract5 spend = some (parent, puzzle, amount, sol, ext) →
      spendStep env (puz i) true ret st parent (Sexp.treeHash puzzle) amount m = .ok ((r1, s1), m1) →
      P nxt (i + 1) r1 s1 (n - 1) m1 → P (.pair spend nxt) i ret st n m) :
    ∀ t i ret st n m, nativeLoop env puz t i ret st n m = .ok ((ret', st'), m') → P t i ret st n m := by
  intro t
  induction t with
  | atom b =>
    intro i ret st n m h
    cases b with
    | nil =>
      injection h with h; injection h with h1 h2; injection h1 with h1 h3
      subst h1; subst h2; subst h3
      exact nil i n
    | cons x xs => cases h
  | pair spend nxt _ ih =>
    intro i ret st n m h
    obtain ⟨hn, parent, puzzle, amount, sol, ext, r1, s1, m1, he, hs, h⟩ := nativeLoop_pair_ok h
    exact step _ _ _ _ _ _ _ _ _ _ _ _ _ _ _ hn he hs (ih _ _ _ _ _ h)

theorem bundleLoop_cons (env : Env) (puz : Nat → RunRes) (cs : CoinSpendM) (rest : List CoinSpendM) (i : Nat) (ret : Bundle)
    (st : PState) (m : Nat) :
    bundleLoop env puz (cs :: rest) i ret st m = (do
      let (q, m) ← spendStep env (puz i) (cs.puzzleHash = Sexp.treeHash cs.puzzle) ret st (.atom cs.parent)
        (Sexp.treeHash cs.puzzle) (.atom (canonNat cs.amount)) m
      bundleLoop env puz rest (i + 1) q.1 q.2 m) := by
  simp only [bundleLoop, spendStep, runCharge]
  cases runWithLimit (puz i) m with
  | error e => rfl
  | ok p =>
    obtain ⟨c, out⟩ := p
    dsimp only
    cases subtractCost m c with
    | error e => rfl
    | ok m1 =>
      simp only [bind, Except.bind]
      by_cases hp : cs.puzzleHash = Sexp.treeHash cs.puzzle
      · simp only [hp, ne_eq, not_true_eq_false, if_false, decide_true, Bool.not_true, Bool.false_eq_true]
        cases processSingleSpend env { ret with executionCost := ret.executionCost + c } st (.atom cs.parent)
            (.atom (Sexp.treeHash cs.puzzle)) (.atom (canonNat cs.amount)) out c m1 with
        | error e => rfl
        | ok r => rfl
      · simp only [hp, ne_eq, not_false_eq_true, if_true, decide_false, Bool.not_false]

theorem isCountdown_bundleLoop (env : Env) (puz : Nat → RunRes) : ∀ (l : List CoinSpendM) (i : Nat) (ret : Bundle) (st : PState),
    IsCountdown (bundleLoop env puz l i ret st) := by
  intro l
  induction l with
  | nil => intro i ret st; exact .ok (ret, st)
  | cons cs rest ih =>
    intro i ret st
    change IsCountdown fun m => bundleLoop _ _ _ _ _ _ m
    simp only [bundleLoop_cons]
    exact .bind (isCountdown_spendStep ..) fun x => ih (i + 1) x.1 x.2

theorem bundleLoop_induct {env : Env} {puz : Nat → RunRes} {ret' : Bundle} {st' : PState} {m' : Nat}
    {P : List CoinSpendM → Nat → Bundle → PState → Nat → Prop} (nil : ∀ i, P [] i ret' st' m')
    (step : ∀ cs rest i ret st m r1 s1 m1, cs.puzzleHash = Sexp.treeHash cs.puzzle →
      spendStep env (puz i) true ret st (.atom cs.parent) (Sexp.treeHash cs.puzzle) (.atom (canonNat cs.amount)) m
        = .ok ((r1, s1), m1) →
      P rest (i + 1) r1 s1 m1 → P (cs :: rest) i ret st m) :
    ∀ l i ret st m, bundleLoop env puz l i ret st m = .ok ((ret', st'), m') → P l i ret st m := by
  intro l
  induction l with
  | nil =>
    intro i ret st m h
    injection h with h; injection h with h1 h2; injection h1 with h1 h3
    subst h1; subst h2; subst h3
    exact nil i
  | cons cs rest ih =>
    intro i ret st m h
    rw [bundleLoop_cons] at h
    obtain ⟨⟨⟨r1, s1⟩, m1⟩, hs, h⟩ := bind_ok h
    have hd := of_decide_eq_true (spendStep_ok_iff.mp hs).1
    rw [decide_eq_true hd] at hs
    exact step _ _ _ _ _ _ _ _ _ hd hs (ih _ _ _ _ h)

theorem bundleLoop_cons_iff (env : Env) (puz : Nat → RunRes) (cs : CoinSpendM) (rest : List CoinSpendM) (i : Nat) (ret : Bundle)
    (st : PState) (m : Nat) (r : (Bundle × PState) × Nat) :
    bundleLoop env puz (cs :: rest) i ret st m = .ok r ↔
      ∃ c conds ret1 st1 m1, puz i = some (c, conds) ∧ c ≤ m ∧ cs.puzzleHash = Sexp.treeHash cs.puzzle ∧
        processSingleSpend env { ret with executionCost := ret.executionCost + c } st (.atom cs.parent)
          (.atom (Sexp.treeHash cs.puzzle)) (.atom (canonNat cs.amount)) conds c (m - c) = .ok ((ret1, st1), m1) ∧
        bundleLoop env puz rest (i + 1) ret1 st1 m1 = .ok r := by
  rw [bundleLoop_cons]
  constructor
  · intro h
    obtain ⟨⟨⟨ret1, st1⟩, m1⟩, hs, h⟩ := bind_ok h
    obtain ⟨hd, c, conds, hp, hcm, hps⟩ := spendStep_ok_iff.mp hs
    exact ⟨c, conds, ret1, st1, m1, hp, hcm, of_decide_eq_true hd, hps, h⟩
  · rintro ⟨c, conds, ret1, st1, m1, hp, hcm, hph, hps, h⟩
    rw [spendStep_ok_iff.mpr ⟨decide_eq_true hph, c, conds, hp, hcm, hps⟩]
    exact h

theorem nativeLoop_too_long (env : Env) (puz : Nat → RunRes) : ∀ (l : List Sexp) (i : Nat) (ret : Bundle) (st : PState) (n m : Nat)
    (r : (Bundle × PState) × Nat), n < l.length → nativeLoop env puz (Sexp.ofList l) i ret st n m ≠ .ok r := by
  intro l
  induction l with
  | nil => intro i ret st n m r h; simp at h
  | cons a t ih =>
    intro i ret st n m r hn h
    obtain ⟨hn0, _, _, _, _, _, _, _, _, _, _, hrest⟩ := nativeLoop_pair_ok h
    exact ih _ _ _ _ _ _ (by simp only [List.length_cons] at hn; omega) hrest

theorem nativeLoop_too_long_error (env : Env) (puz : Nat → RunRes) (l : List Sexp) (i : Nat) (ret : Bundle) (st : PState)
    (n m : Nat) (h : n < l.length) : ∃ e, nativeLoop env puz (Sexp.ofList l) i ret st n m = .error e := by
  cases hr : nativeLoop env puz (Sexp.ofList l) i ret st n m with
  | error e => exact ⟨e, rfl⟩
  | ok r => exact absurd hr (nativeLoop_too_long env puz l i ret st n m r h)

variable {p : Params} {g : GenInput} {genRun romRun : RunRes} {puz : Nat → RunRes} {spends : List CoinSpendM} {L : Nat}
  {x : (Bundle × PState) × Nat} {b : Bundle}

def nativeBase (p : Params) (g : GenInput) : Nat :=
  (if hasFlag p.flags Gen.flagInternedGenerator then internedVbytes g.prog else g.len) * p.costPerByte

def nativeEnv (p : Params) : Env := { flags := p.flags, mempool := false, pkOk := p.pkOk }

/-- the countdown both block entry points run before they finish: pay the size cost `B`, pass the checks made after
it (`ok`), run the generator (or the ROM) `run` under what is left and pay for it, take the first element of its
result, and go on with `k` (given the run's cost and that element) -/
def blockCountdown {α : Type} (B : Nat) (ok : Bool) (run : RunRes) (k : Nat → Sexp → Nat → R (α × Nat)) (m : Nat) :
    R (α × Nat) := do
  let (_, m) ← (do let m' ← charge m B; pure ((), m') : R (Unit × Nat))
  if !ok then .error .reject else do
  let (r, m) ← runCharge run m
  match first r.2 with
  | .error e => .error e
  | .ok spends => k r.1 spends m

theorem isCountdown_blockCountdown {α : Type} (B : Nat) (ok : Bool) (run : RunRes) {k : Nat → Sexp → Nat → R (α × Nat)}
    (hk : ∀ c spends, IsCountdown (k c spends)) : IsCountdown (blockCountdown B ok run k) := by
  unfold blockCountdown
  refine .bind (.charge () _) fun _ => ?_
  dsimp only
  split
  · exact .error _
  refine .bind (isCountdown_runCharge run) fun r => ?_
  dsimp only
  cases first r.2 with
  | error e => exact .error e
  | ok spends => exact hk _ _

theorem blockCountdown_ok_iff {α : Type} {B : Nat} {ok : Bool} {run : RunRes} {k : Nat → Sexp → Nat → R (α × Nat)} {L : Nat}
    {x : α × Nat} :
    blockCountdown B ok run k L = .ok x ↔
      B ≤ L ∧ ok = true ∧ ∃ c spends args, run = some (c, .pair spends args) ∧ c ≤ L - B ∧ k c spends (L - B - c) = .ok x := by
  unfold blockCountdown
  constructor
  · intro h
    obtain ⟨⟨_, m0⟩, h0, h⟩ := bind_ok h
    rw [chargeThen_eq] at h0
    obtain ⟨hB, h0⟩ := ite_error_ok.mp h0
    injection h0 with h0; injection h0 with _ h0; subst h0
    obtain ⟨hok, h⟩ := ite_error_ok.mp h
    obtain ⟨⟨⟨c, out⟩, m1⟩, hrun, h⟩ := bind_ok h
    obtain ⟨rfl, hc, rfl⟩ := runCharge_ok_iff.mp hrun
    cases out with
    | atom b => cases h
    | pair spends args => exact ⟨by omega, by simpa using hok, c, spends, args, rfl, hc, h⟩
  · rintro ⟨hB, rfl, c, spends, args, rfl, hc, h⟩
    rw [charge_ok_iff.mpr ⟨hB, rfl⟩]
    simp only [bind, Except.bind, pure, Except.pure]
    rw [runCharge_ok_iff.mpr ⟨rfl, hc, rfl⟩]
    exact h

/-- on a run that succeeds with a list-headed result, after passed checks: both payments, then `k` -/
theorem blockCountdown_some {α : Type} {B c : Nat} {ok : Bool} {spends args : Sexp} {k : Nat → Sexp → Nat → R (α × Nat)}
    (hok : ok = true) (L : Nat) : blockCountdown B ok (some (c, .pair spends args)) k L =
      if L < B + c then .error .costExceeded else k c spends (L - B - c) := by
  unfold blockCountdown
  rw [chargeThen_eq, hok]
  by_cases hb : L < B
  · rw [if_pos hb, if_pos (Nat.lt_of_lt_of_le hb (Nat.le_add_right _ _))]; rfl
  · rw [if_neg hb]
    simp only [bind, Except.bind, runCharge_some, first, Bool.not_true, Bool.false_eq_true, if_false]
    by_cases hc : L < B + c
    · rw [if_pos (by omega), if_pos hc]
    · rw [if_neg (by omega), if_neg hc]

/-- everything of `run_block_generator2` that touches the cost countdown -/
def nativeCountdown (p : Params) (g : GenInput) (genRun : RunRes) (puz : Nat → RunRes) : Nat → R ((Bundle × PState) × Nat) :=
  blockCountdown (nativeBase p g) (generatorNodeOk p.flags g.prog && !decide (simpleGen p.flags ∧ g.nrefs > 0)) genRun
    fun gc allSpends m =>
      if !allExtract3 allSpends then .error .reject else
      nativeLoop (nativeEnv p) puz allSpends 0 { executionCost := gc } {} (spendLimit p.flags) m

theorem native_eq (p : Params) (g : GenInput) (genRun : RunRes) (puz : Nat → RunRes) (L : Nat) :
    native p g genRun puz L =
      if simpleGen p.flags ∧ !g.startsQuote then .error .reject else
      metered (nativeCountdown p g genRun puz) (fun a => finishBundle (nativeEnv p) p.sigOk a.1 a.2)
        (fun c b => { b with cost := c }) L := by
  unfold native metered nativeCountdown blockCountdown nativeBase nativeEnv runCharge
  by_cases h0 : simpleGen p.flags ∧ !g.startsQuote
  · rw [if_pos h0, if_pos h0]
  rw [if_neg h0, if_neg h0]
  simp only [subtractCost_eq_charge, bind, Except.bind, pure, Except.pure]
  cases charge L ((if hasFlag p.flags Gen.flagInternedGenerator = true then internedVbytes g.prog else g.len) * p.costPerByte) with
  | error e => rfl
  | ok m1 =>
    dsimp only
    by_cases h1 : generatorNodeOk p.flags g.prog = true
    case neg => simp [h1]
    by_cases h2 : simpleGen p.flags = true ∧ g.nrefs > 0
    · simp [h1, h2]
    simp only [h1, h2, Bool.not_true, Bool.false_eq_true, if_false, decide_false, Bool.not_false, Bool.and_true]
    cases runWithLimit genRun m1 with
    | error e => rfl
    | ok q =>
      obtain ⟨c, out⟩ := q
      dsimp only
      cases charge m1 c with
      | error e => rfl
      | ok m2 =>
        dsimp only
        cases first out with
        | error e => rfl
        | ok allSpends =>
          dsimp only
          by_cases h3 : (!allExtract3 allSpends) = true
          · simp only [h3, if_true]
          simp only [h3, Bool.false_eq_true, if_false]
          cases nativeLoop { flags := p.flags, mempool := false, pkOk := p.pkOk } puz allSpends 0 { executionCost := c } { } (spendLimit p.flags) m2 with
          | error e => rfl
          | ok q =>
            dsimp only
            cases finishBundle { flags := p.flags, mempool := false, pkOk := p.pkOk } p.sigOk q.1.1 q.1.2 <;> rfl

theorem isCountdown_nativeCountdown (p : Params) (g : GenInput) (genRun : RunRes) (puz : Nat → RunRes) :
    IsCountdown (nativeCountdown p g genRun puz) :=
  isCountdown_blockCountdown _ _ _ fun _ _ => by
    split
    · exact .error _
    · exact isCountdown_nativeLoop ..

theorem nativeCountdown_ok_iff :
    nativeCountdown p g genRun puz L = .ok x ↔
      nativeBase p g ≤ L ∧ generatorNodeOk p.flags g.prog = true ∧ ¬(simpleGen p.flags ∧ g.nrefs > 0) ∧
      ∃ gc allSpends args, genRun = some (gc, .pair allSpends args) ∧ gc ≤ L - nativeBase p g ∧
        allExtract3 allSpends = true ∧
        nativeLoop (nativeEnv p) puz allSpends 0 { executionCost := gc } {} (spendLimit p.flags) (L - nativeBase p g - gc)
          = .ok x := by
  simp only [nativeCountdown, blockCountdown_ok_iff, ite_error_ok, Bool.and_eq_true, Bool.not_eq_true', decide_eq_false_iff_not,
    Bool.not_eq_false, and_assoc]

theorem native_ok_iff :
    native p g genRun puz L = .ok b ↔
      ¬(simpleGen p.flags ∧ (!g.startsQuote) = true) ∧ ¬(simpleGen p.flags ∧ g.nrefs > 0) ∧
      nativeBase p g ≤ L ∧ generatorNodeOk p.flags g.prog = true ∧
      ∃ gc allSpends args ret st left b0, genRun = some (gc, .pair allSpends args) ∧ gc ≤ L - nativeBase p g ∧
        allExtract3 allSpends = true ∧
        nativeLoop (nativeEnv p) puz allSpends 0 { executionCost := gc } {} (spendLimit p.flags) (L - nativeBase p g - gc)
          = .ok ((ret, st), left) ∧
        finishBundle (nativeEnv p) p.sigOk ret st = .ok b0 ∧ b = { b0 with cost := L - left } := by
  rw [native_eq]
  constructor
  · intro h
    obtain ⟨hq, h⟩ := ite_error_ok.mp h
    obtain ⟨⟨ret, st⟩, left, b0, hl, hb, rfl⟩ := metered_ok_iff.mp h
    obtain ⟨hB, hnode, hr, gc, allSpends, args, hg, hgc, h3, hloop⟩ := nativeCountdown_ok_iff.mp hl
    exact ⟨hq, hr, hB, hnode, gc, allSpends, args, ret, st, left, b0, hg, hgc, h3, hloop, hb, rfl⟩
  · rintro ⟨hq, hr, hB, hnode, gc, allSpends, args, ret, st, left, b0, hg, hgc, h3, hloop, hb, rfl⟩
    rw [if_neg hq]
    exact metered_ok_iff.mpr ⟨_, _, _, nativeCountdown_ok_iff.mpr ⟨hB, hnode, hr, gc, allSpends, args, hg, hgc, h3, hloop⟩, hb, rfl⟩

def bundleBase (p : Params) (spends : List CoinSpendM) : Nat :=
  (if hasFlag p.flags Gen.flagInternedGenerator then internedVbytes (buildGenerator spends)
   else calculateGeneratorLength spends - QUOTE_BYTES) * p.costPerByte

/-- the environment `run_spendbundle` runs the spend loop in: the mempool visitor -/
abbrev mpEnv (p : Params) : Env := { flags := p.flags, mempool := true, pkOk := p.pkOk }

/-- the LIMIT_SPENDS test of `run_spendbundle` -/
abbrev TooMany (p : Params) (css : List CoinSpendM) : Prop :=
  hasFlag p.flags Gen.flagLimitSpends ∧ css.length > MAX_SPENDS_PER_BLOCK

/-- `run_spendbundle` with the base cost `B` charged up front instead of `calculate_base_cost`.  Under
INTERNED_GENERATOR the base cost is the interned size of `build_generator spends`, which is not invariant under
reordering the bundle; statements that compare two orders of a bundle keep `B` fixed. -/
def runBundleWith (B : Nat) (p : Params) (spends : List CoinSpendM) (puz : Nat → RunRes) (maxCost : Nat) :
    R (Bundle × List (Bytes × Bytes)) :=
  match subtractCost maxCost B with
  | .error e => .error e
  | .ok costLeft =>
    if hasFlag p.flags Gen.flagLimitSpends ∧ spends.length > MAX_SPENDS_PER_BLOCK then .error .reject else
    let env : Env := { flags := p.flags, mempool := true, pkOk := p.pkOk }
    match bundleLoop env puz spends 0 {} {} costLeft with
    | .error e => .error e
    | .ok ((ret, st), costLeft) =>
      let ret := postProcess env ret st
      match validateConditions ret st with
      | .error e => .error e
      | .ok _ => .ok ({ ret with cost := maxCost - costLeft }, st.pkmPairs)

theorem runSpendbundle_with (p : Params) (spends : List CoinSpendM) (puz : Nat → RunRes) (L : Nat) :
    runSpendbundle p spends puz L = runBundleWith (bundleBase p spends) p spends puz L := by
  -- as a term, `rfl` would also be checked as a `@[defeq]` rewrite rule, which is slow here
  rfl

def bundleCountdown (B : Nat) (p : Params) (spends : List CoinSpendM) (puz : Nat → RunRes) (m : Nat) :
    R ((Bundle × PState) × Nat) := do
  let (_, m) ← (do let m' ← charge m B; pure ((), m') : R (Unit × Nat))
  if TooMany p spends then .error .reject else
  bundleLoop (mpEnv p) puz spends 0 {} {} m

theorem runBundleWith_metered (B : Nat) (p : Params) (spends : List CoinSpendM) (puz : Nat → RunRes) (L : Nat) :
    runBundleWith B p spends puz L = metered (bundleCountdown B p spends puz)
      (fun a => (validateConditions (postProcess (mpEnv p) a.1 a.2) a.2).map fun _ => a)
      (fun c a => ({ postProcess (mpEnv p) a.1 a.2 with cost := c }, a.2.pkmPairs)) L := by
  unfold runBundleWith metered bundleCountdown
  simp only [subtractCost_eq_charge, bind, Except.bind, pure, Except.pure]
  cases charge L B with
  | error e => rfl
  | ok m1 =>
    dsimp only
    split
    · rfl
    cases bundleLoop _ puz spends 0 {} {} m1 with
    | error e => rfl
    | ok q =>
      dsimp only
      cases validateConditions (postProcess _ q.1.1 q.1.2) q.1.2 <;> rfl

theorem bundleCountdown_eq (B : Nat) (p : Params) (spends : List CoinSpendM) (puz : Nat → RunRes) (L : Nat) :
    bundleCountdown B p spends puz L =
      if L < B then .error .costExceeded else
      if TooMany p spends then .error .reject else bundleLoop (mpEnv p) puz spends 0 {} {} (L - B) := by
  unfold bundleCountdown
  rw [chargeThen_eq]
  split <;> rfl

theorem isCountdown_bundleCountdown (B : Nat) (p : Params) (spends : List CoinSpendM) (puz : Nat → RunRes) :
    IsCountdown (bundleCountdown B p spends puz) := by
  unfold bundleCountdown
  refine .bind (.charge () _) fun _ => ?_
  dsimp only
  split
  · exact .error _
  · exact isCountdown_bundleLoop ..

theorem runBundleWith_small {B : Nat} (h : L < B) : runBundleWith B p spends puz L = .error .costExceeded := by
  rw [runBundleWith_metered, metered, bundleCountdown_eq, if_pos h]

/-- TooManySpends is tested after the size cost is charged and before the first spend is run -/
theorem runBundleWith_tooMany {B : Nat} (hm : TooMany p spends) :
    runBundleWith B p spends puz L = .error (if B ≤ L then .reject else .costExceeded) := by
  by_cases hB : B ≤ L
  · rw [if_pos hB, runBundleWith_metered, metered, bundleCountdown_eq, if_neg (Nat.not_lt.mpr hB), if_pos hm]
  · rw [if_neg hB, runBundleWith_small (Nat.lt_of_not_le hB)]

theorem runBundleWith_loop {B : Nat} (h : B ≤ L) (hm : ¬ TooMany p spends) :
    runBundleWith B p spends puz L =
      match bundleLoop (mpEnv p) puz spends 0 {} {} (L - B) with
      | .error e => .error e
      | .ok ((ret, st), left) =>
        match validateConditions (postProcess (mpEnv p) ret st) st with
        | .error e => .error e
        | .ok _ => .ok ({ postProcess (mpEnv p) ret st with cost := L - left }, st.pkmPairs) := by
  rw [runBundleWith_metered, metered, bundleCountdown_eq, if_neg (Nat.not_lt.mpr h), if_neg hm]
  cases bundleLoop (mpEnv p) puz spends 0 {} {} (L - B) with
  | error e => rfl
  | ok q =>
    dsimp only
    cases validateConditions (postProcess (mpEnv p) q.1.1 q.1.2) q.1.2 <;> rfl

theorem runBundleWith_ok_iff {B : Nat} {pk : List (Bytes × Bytes)} :
    runBundleWith B p spends puz L = .ok (b, pk) ↔
      B ≤ L ∧ ¬ TooMany p spends ∧
      ∃ ret st left, bundleLoop (mpEnv p) puz spends 0 {} {} (L - B) = .ok ((ret, st), left) ∧
        validateConditions (postProcess (mpEnv p) ret st) st = .ok () ∧
        b = { postProcess (mpEnv p) ret st with cost := L - left } ∧ pk = st.pkmPairs := by
  rw [runBundleWith_metered, metered_ok_iff]
  simp only [bundleCountdown_eq, ite_error_ok, Nat.not_lt]
  constructor
  · rintro ⟨⟨ret, st⟩, left, a, ⟨hB, hm, hl⟩, hv, h⟩
    cases hv' : validateConditions (postProcess (mpEnv p) ret st) st with
    | error e => rw [hv'] at hv; cases hv
    | ok u =>
      rw [hv'] at hv; cases hv; cases h
      exact ⟨hB, hm, ret, st, left, hl, hv', rfl, rfl⟩
  · rintro ⟨hB, hm, ret, st, left, hl, hv, rfl, rfl⟩
    exact ⟨(ret, st), left, (ret, st), ⟨hB, hm, hl⟩, by rw [hv]; rfl, rfl⟩

theorem runSpendbundle_metered (p : Params) (spends : List CoinSpendM) (puz : Nat → RunRes) (L : Nat) :
    runSpendbundle p spends puz L = metered (bundleCountdown (bundleBase p spends) p spends puz)
      (fun a => (validateConditions (postProcess (mpEnv p) a.1 a.2) a.2).map fun _ => a)
      (fun c a => ({ postProcess (mpEnv p) a.1 a.2 with cost := c }, a.2.pkmPairs)) L := by
  rw [runSpendbundle_with]
  exact runBundleWith_metered ..

theorem runSpendbundle_ok_iff {pk : List (Bytes × Bytes)} :
    runSpendbundle p spends puz L = .ok (b, pk) ↔
      bundleBase p spends ≤ L ∧ ¬(hasFlag p.flags Gen.flagLimitSpends ∧ spends.length > MAX_SPENDS_PER_BLOCK) ∧
      ∃ ret st left, bundleLoop (mpEnv p) puz spends 0 {} {} (L - bundleBase p spends) = .ok ((ret, st), left) ∧
        validateConditions (postProcess (mpEnv p) ret st) st = .ok () ∧
        b = { postProcess (mpEnv p) ret st with cost := L - left } ∧ pk = st.pkmPairs := by
  rw [runSpendbundle_with]
  exact runBundleWith_ok_iff

/-- everything of `run_block_generator` that touches the cost countdown: the byte cost, the ROM run, and the
spend loop of `parse_spends` on the ROM's output -/
def legacyCountdown (p : Params) (g : GenInput) (romRun : RunRes) : Nat → R ((Bundle × PState) × Nat) :=
  blockCountdown (g.len * p.costPerByte) (generatorNodeOk p.flags g.prog) romRun
    fun _ spends m => spendLoop (nativeEnv p) 0 spends {} {} (spendLimit p.flags) m

theorem isCountdown_legacyCountdown (p : Params) (g : GenInput) (romRun : RunRes) :
    IsCountdown (legacyCountdown p g romRun) :=
  isCountdown_blockCountdown _ _ _ fun _ _ => isCountdown_spendLoop ..

/-- `parse_spends` reports what its own loop used; `run_block_generator` adds what was used before it. -/
theorem legacy_eq (p : Params) (g : GenInput) (romRun : RunRes) (L : Nat) :
    legacy p g romRun L =
      if simpleGen p.flags ∧ !g.startsQuote then .error .reject else
      if simpleGen p.flags ∧ g.nrefs > 0 then .error .reject else
      metered (legacyCountdown p g romRun) (fun a => finishBundle (nativeEnv p) p.sigOk a.1 a.2)
        (fun c b => { b with cost := c, executionCost := runExec romRun }) L := by
  unfold legacy metered legacyCountdown blockCountdown nativeEnv runCharge parseSpends
  by_cases h0 : simpleGen p.flags ∧ !g.startsQuote
  · rw [if_pos h0, if_pos h0]
  rw [if_neg h0, if_neg h0]
  by_cases h1 : simpleGen p.flags ∧ g.nrefs > 0
  · rw [if_pos h1, if_pos h1]
  rw [if_neg h1, if_neg h1]
  simp only [subtractCost_eq_charge, bind, Except.bind, pure, Except.pure]
  cases hc1 : charge L (g.len * p.costPerByte) with
  | error e => rfl
  | ok m1 =>
    dsimp only
    by_cases h2 : (!generatorNodeOk p.flags g.prog) = true
    · simp only [h2, if_true]
    simp only [h2, Bool.false_eq_true, if_false]
    cases hrun : runWithLimit romRun m1 with
    | error e => rfl
    | ok q =>
      obtain ⟨c, out⟩ := q
      dsimp only
      cases hc2 : charge m1 c with
      | error e => rfl
      | ok m2 =>
        dsimp only
        cases first out with
        | error e => rfl
        | ok spends =>
          dsimp only
          cases hl : spendLoop { flags := p.flags, mempool := false, pkOk := p.pkOk } 0 spends {} {} (spendLimit p.flags) m2 with
          | error e => rfl
          | ok x =>
            obtain ⟨⟨ret, st⟩, left⟩ := x
            dsimp only
            cases finishBundle { flags := p.flags, mempool := false, pkOk := p.pkOk } p.sigOk ret st with
            | error e => rfl
            | ok ret' =>
              dsimp only
              have e1 := (charge_ok_iff.mp hc1).2
              have e2 := (charge_ok_iff.mp hc2).2
              have e3 := ((isCountdown_spendLoop _ 0 spends {} {} (spendLimit p.flags)).of_ok hl).1
              subst e1; subst e2
              rw [(runWithLimit_ok_iff.mp hrun).1, Nat.add_comm,
                Nat.sub_add_sub_cancel (Nat.le_trans (Nat.sub_le _ _) (Nat.sub_le _ _)) e3]
              rfl

theorem legacyCountdown_add (hnode : generatorNodeOk p.flags g.prog = true) (rc : Nat)
    (spends args : Sexp) (m : Nat) :
    legacyCountdown p g (some (rc, .pair spends args)) (g.len * p.costPerByte + (rc + m))
      = spendLoop (nativeEnv p) 0 spends {} {} (spendLimit p.flags) m := by
  rw [legacyCountdown, blockCountdown_some hnode, if_neg (by omega), Nat.add_sub_cancel_left, Nat.add_sub_cancel_left]

theorem legacyCountdown_ok_iff :
    legacyCountdown p g romRun L = .ok x ↔
      g.len * p.costPerByte ≤ L ∧ generatorNodeOk p.flags g.prog = true ∧
      ∃ rc spends args, romRun = some (rc, .pair spends args) ∧ rc ≤ L - g.len * p.costPerByte ∧
        spendLoop (nativeEnv p) 0 spends {} {} (spendLimit p.flags) (L - g.len * p.costPerByte - rc) = .ok x :=
  blockCountdown_ok_iff

theorem legacy_ok_iff :
    legacy p g romRun L = .ok b ↔
      ¬(simpleGen p.flags ∧ (!g.startsQuote) = true) ∧ ¬(simpleGen p.flags ∧ g.nrefs > 0) ∧
      g.len * p.costPerByte ≤ L ∧ generatorNodeOk p.flags g.prog = true ∧
      ∃ rc spends args ret st left b0, romRun = some (rc, .pair spends args) ∧ rc ≤ L - g.len * p.costPerByte ∧
        spendLoop (nativeEnv p) 0 spends {} {} (spendLimit p.flags) (L - g.len * p.costPerByte - rc) = .ok ((ret, st), left) ∧
        finishBundle (nativeEnv p) p.sigOk ret st = .ok b0 ∧ b = { b0 with cost := L - left, executionCost := rc } := by
  rw [legacy_eq]
  constructor
  · intro h
    obtain ⟨hq, h⟩ := ite_error_ok.mp h
    obtain ⟨hr, h⟩ := ite_error_ok.mp h
    obtain ⟨⟨ret, st⟩, left, b0, hl, hb, rfl⟩ := metered_ok_iff.mp h
    obtain ⟨hB, hnode, rc, spends, args, rfl, hrc, hloop⟩ := legacyCountdown_ok_iff.mp hl
    exact ⟨hq, hr, hB, hnode, rc, spends, args, ret, st, left, b0, rfl, hrc, hloop, hb, rfl⟩
  · rintro ⟨hq, hr, hB, hnode, rc, spends, args, ret, st, left, b0, rfl, hrc, hloop, hb, rfl⟩
    rw [if_neg hq, if_neg hr]
    exact metered_ok_iff.mpr ⟨_, _, _, legacyCountdown_ok_iff.mpr ⟨hB, hnode, rc, spends, args, rfl, hrc, hloop⟩, hb, rfl⟩

end ChiaModel.Gn
