import ChiaModel.Lemmas.TreeCache
/-
C17: the back-reference deserialiser builds a well-formed heap and returns a pointer into it.
-/
namespace ChiaModel.TreeHash
open ChiaModel

/-- parse-stack invariant: the heap is well formed and every pointer on the stack (values and cached
stack lists) points into it -/
structure DInv (heap : Heap) (vals : Array Val) : Prop where
  wf : WF heap
  ptr : ∀ (i : Nat) (v : Val), vals[i]? = some v → v.1 < heap.size ∧ ∀ p, v.2 = some p → p < heap.size

theorem wf_push {heap : Heap} (hwf : WF heap) (nd : Node)
    (hnd : ∀ l r, nd = Node.pair l r → l < heap.size ∧ r < heap.size) : WF (heap.push nd) := by
  intro n l r hn
  rw [Array.getElem?_push] at hn
  by_cases h : n = heap.size
  · rw [if_pos h] at hn
    have := hnd l r (Option.some.inj hn)
    omega
  · rw [if_neg h] at hn; exact hwf n l r hn

theorem dinv_mono {heap heap' : Heap} {vals : Array Val} (hd : DInv heap vals) (hwf : WF heap')
    (hsz : heap.size ≤ heap'.size) : DInv heap' vals :=
  ⟨hwf, fun i v hv => ⟨by have := (hd.ptr i v hv).1; omega, fun p hp => by have := (hd.ptr i v hv).2 p hp; omega⟩⟩

theorem dinv_push {heap : Heap} {vals : Array Val} (hd : DInv heap vals) (v : Val)
    (h1 : v.1 < heap.size) (h2 : ∀ p, v.2 = some p → p < heap.size) : DInv heap (vals.push v) := by
  refine ⟨hd.wf, ?_⟩
  intro i w hw
  rw [Array.getElem?_push] at hw
  by_cases h : i = vals.size
  · rw [if_pos h] at hw; cases hw; exact ⟨h1, h2⟩
  · rw [if_neg h] at hw; exact hd.ptr i w hw

theorem dinv_pop {heap : Heap} {vals : Array Val} (hd : DInv heap vals) : DInv heap vals.pop := by
  refine ⟨hd.wf, ?_⟩
  intro i w hw
  rw [Array.getElem?_pop] at hw
  split at hw
  · exact hd.ptr i w hw
  · cases hw

theorem dinv_alloc {heap : Heap} {vals : Array Val} (hd : DInv heap vals) (nd : Node)
    (hnd : ∀ l r, nd = Node.pair l r → l < heap.size ∧ r < heap.size) :
    DInv (heap.push nd) (vals.push (heap.size, none)) :=
  dinv_push (dinv_mono hd (wf_push hd.wf nd hnd) (by simp)) (heap.size, none) (by simp) (by intro p hp; cases hp)

def TOk (heap : Heap) (args : Array Val) : TState → Prop
  | .vec i => i < args.size
  | .sx none => True
  | .sx (some p) => p < heap.size

theorem travStep_ok {heap : Heap} {args : Array Val} (hd : DInv heap args) {st st' : TState} {bit : Bool} :
    TOk heap args st → travStep heap args st bit = some st' → TOk heap args st' := by
  fun_cases travStep heap args st bit with
  | case2 p l r hp =>
    -- down a pair: both children lie below it
    intro hst hs; cases hs
    have := hd.wf p l r hp
    simp only [TOk] at hst ⊢; split <;> omega
  | case4 => intro _ hs; cases hs; trivial   -- past the bottom of the stack: NIL
  | case5 i _ hi => intro hst hs; cases hs; simp only [TOk] at hst ⊢; omega   -- one entry further down
  | case6 i _ =>
    -- leaving the stack for the value at `i`
    intro hst hs; cases hs
    have hi : i < args.size := hst
    have hget : args[i]? = some args[i] := by simp [hi]
    simp only [TOk, Array.getD_eq_getD_getElem?, hget, Option.getD_some]
    exact (hd.ptr i _ hget).1
  | _ => intro _ hs; cases hs

theorem travBits_ok {heap : Heap} {args : Array Val} (hd : DInv heap args) (bits : List Bool) (st st' : TState) :
    TOk heap args st → travBits heap args st bits = some st' → TOk heap args st' := by
  fun_induction travBits heap args st bits with
  | case1 st => intro hst hs; cases hs; exact hst
  | case2 => intro _ hs; cases hs
  | case3 st b bs st1 h1 ih => exact fun hst => ih (travStep_ok hd hst h1)

theorem realise_ok {heap : Heap} {args : Array Val} (hd : DInv heap args) (p : Option Nat)
    (hp : ∀ q, p = some q → q < heap.size) :
    DInv (realise heap p).1 args ∧ (realise heap p).2 < (realise heap p).1.size := by
  cases p with
  | some q => exact ⟨hd, hp q rfl⟩
  | none =>
    simp only [realise]
    exact ⟨dinv_mono hd (wf_push hd.wf _ (by intro l r h; cases h)) (by simp), by simp⟩

theorem buildList_ok (cnt k : Nat) (heap : Heap) (args : Array Val) (acc : Option Nat) :
    DInv heap args → (∀ q, acc = some q → q < heap.size) →
    DInv (buildList cnt k heap args acc).1 (buildList cnt k heap args acc).2.1 ∧
    ∀ q, (buildList cnt k heap args acc).2.2 = some q → q < (buildList cnt k heap args acc).1.size := by
  fun_induction buildList cnt k heap args acc with
  | case1 => exact fun hd hacc => ⟨hd, hacc⟩
  | case2 => exact fun hd hacc => ⟨hd, hacc⟩
  | case3 cnt k heap args acc v1 cached hk ih =>
    exact fun hd _ => ih hd (by intro q hq; cases hq; exact (hd.ptr k _ hk).2 cached rfl)
  | case4 cnt k heap args acc v1 hk heap1 tail he _ ih =>
    intro hd hacc
    -- the new cell is consed onto `tail`, which lives in `heap1` (the heap, or the heap with a NIL added)
    have h1 : DInv heap1 args ∧ tail < heap1.size := by
      cases acc with
      | some t => cases he; exact ⟨hd, hacc _ rfl⟩
      | none => cases he; exact realise_ok hd none nofun
    have hv1 := (h1.1.ptr k _ hk).1
    refine ih ⟨wf_push h1.1.wf _ (by intro l r h; cases h; exact ⟨hv1, h1.2⟩), fun i w hw => ?_⟩
      (by intro q hq; cases hq; rw [Array.size_push]; exact Nat.lt_succ_self _)
    rw [Array.size_push]
    rw [Array.getElem?_setIfInBounds] at hw
    by_cases hki : k = i
    · rw [if_pos hki] at hw
      split at hw
      · cases hw; exact ⟨by omega, fun p hp => by cases hp; omega⟩
      · cases hw
    · rw [if_neg hki] at hw
      have := h1.1.ptr i w hw
      exact ⟨by omega, fun p hp => by have := this.2 p hp; omega⟩

theorem traverse_ok {heap : Heap} {args : Array Val} (hd : DInv heap args) {path : Bytes}
    {heap1 : Heap} {args1 : Array Val} {node : Nat} :
    traversePathWithVec heap path args = some (heap1, args1, node) → DInv heap1 args1 ∧ node < heap1.size := by
  fun_cases traversePathWithVec heap path args with
  | case1 _ h1 q he =>
    -- an all-zero path: NIL
    intro ht; cases ht
    have := realise_ok hd none nofun
    rwa [he] at this
  | case2 => intro ht; cases ht
  | case3 bits _ p hs h1 q he =>
    -- the walk ends inside a tree
    intro ht; cases ht
    have h0 : TOk heap args (travInit args) := by
      unfold travInit
      by_cases hemp : args.isEmpty = true
      · simp [hemp, TOk]
      · simp only [hemp, Bool.false_eq_true, if_false, TOk]
        have : args.size ≠ 0 := fun h0 => hemp (by simp [Array.isEmpty, h0])
        omega
    have hst := travBits_ok hd bits _ _ h0 hs
    have := realise_ok hd p (by intro q hq; subst hq; exact hst)
    rwa [he] at this
  | case4 bits _ i _ h1 a1 r heb h2 q he =>
    -- the walk ends on the stack: the list of the entries from there down is built
    intro ht; cases ht
    have hb := buildList_ok (i + 1) 0 heap args none hd nofun
    rw [heb] at hb
    have := realise_ok hb.1 _ hb.2
    rwa [he] at this

theorem newAtom_not_pair (b : Bytes) : ∀ l r, newAtom b ≠ Node.pair l r := by
  intro l r; unfold newAtom; split <;> simp

theorem parseAtomNode_not_pair {b0 : Nat} {rest rest1 : Bytes} {nd : Node} :
    parseAtomNode b0 rest = some (nd, rest1) → ∀ l r, nd ≠ Node.pair l r := by
  fun_cases parseAtomNode b0 rest with
  | case3 => intro h; cases h
  | case4 _ _ blob _ _ => intro h l r; cases h; exact newAtom_not_pair blob l r
  | _ => intro h l r; cases h; simp   -- the two constants

/-- `DInv` is kept by each step of the loop; at the end the root is the top of the stack. -/
theorem deserLoop_ok (fuel : Nat) (ops : List ParseOp) (vals : Array Val) (heap : Heap) (bs : Bytes)
    (heap' : Heap) (root : Nat) : DInv heap vals → deserLoop fuel ops vals heap bs = some (heap', root) →
    WF heap' ∧ root < heap'.size := by
  fun_induction deserLoop fuel ops vals heap bs with
  | case2 _ _ _ _ v hb =>
    -- no operation left
    intro hd h; cases h; exact ⟨hd.wf, (hd.ptr _ v hb).1⟩
  | case5 _ _ _ _ _ ih =>
    -- a pair byte only schedules work
    exact ih
  | case8 _ _ _ _ _ _ _ _ _ _ node ht _ ih =>
    -- a back reference
    intro hd
    have := traverse_ok hd ht
    exact ih (dinv_push this.1 (node, none) this.2 (by intro p hp; cases hp))
  | case10 _ _ _ _ _ _ _ _ nd _ hp ih =>
    -- an atom pushes a node that is no pair
    intro hd
    exact ih (dinv_alloc hd nd fun l r e => absurd e (parseAtomNode_not_pair hp l r))
  | case11 _ _ _ _ _ right left hl hr ih =>
    -- `cons` pushes a pair of two stack values
    intro hd
    exact ih (dinv_alloc (dinv_pop (dinv_pop hd)) (.pair left.1 right.1)
      (by intro l r e; cases e; exact ⟨((dinv_pop hd).ptr _ left hl).1, (hd.ptr _ right hr).1⟩))
  | _ => intro _ h; cases h

end ChiaModel.TreeHash
