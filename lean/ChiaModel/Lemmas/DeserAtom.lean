import ChiaModel.Lemmas.Deser
/-
C17: parsing back the plain serialisation of an atom (all five length-prefix classes).
-/
namespace ChiaModel.TreeHash
open ChiaModel

/-- what `fits_in_small_atom` accepts is non-negative and minimal, hence the canonical form of its
value, which is what a small atom shows -/
theorem fits_smallBytes (b : Bytes) (hb : isBytes b) (v : Nat) (h : fitsInSmallAtom b = some v) :
    smallBytes v = b := by
  cases b with
  | nil => cases h; rfl
  | cons b0 tl =>
    obtain ⟨hc, hv⟩ := Option.ite_none_left_eq_some.mp h
    cases hv
    have hlt := beVal_lt _ hb
    have hpow : 256 ^ (b0 :: tl).length ≤ 256 ^ 4 := Nat.pow_le_pow_right (by decide) (by omega)
    have hmin : Minimal (b0 :: tl) := by
      cases tl with
      | nil => exact fun h0 => hc (Or.inr (Or.inl ⟨rfl, h0⟩))
      | cons y t => exact ⟨fun h0 => hc (Or.inr (Or.inr (Or.inr (Or.inl h0)))), fun h0 => by omega⟩
    have hneg : headGe128 (b0 :: tl) = false := decide_eq_false (by omega)
    rw [smallBytes_eq_canon _ (by omega)]
    exact canonNat_beVal _ hb hneg hmin (by omega)

/-- `new_atom` picks the small representation only where it shows the same bytes -/
theorem denote_newAtom {h : Heap} {n : Nat} {b : Bytes} (hb : isBytes b) (hn : h[n]? = some (newAtom b)) :
    denote h n = .atom b := by
  unfold newAtom at hn
  cases hf : fitsInSmallAtom b with
  | none => rw [hf] at hn; exact denote_atom hn
  | some v => rw [hf] at hn; rw [denote_small hn, fits_smallBytes b hb v hf]

/-! ### the length prefix

A prefix of `k` bytes (`1 ≤ k ≤ 5`) holds a length below `2^(7-k) · 256^(k-1)` big-endian; its first
byte is `k` one bits, a zero bit and the top `7 - k` bits of the length. -/

theorem prefixByte : ∀ k < 7, 0 < k → ∀ hi < 2 ^ (7 - k),
    Sexp.leadingOnes (256 - 2 ^ (8 - k) + hi) = k ∧ (256 - 2 ^ (8 - k) + hi) % (256 >>> k) = hi ∧
      (256 - 2 ^ (8 - k)) ||| hi = 256 - 2 ^ (8 - k) + hi := by decide +kernel

/-- it is not a single-byte atom, it is neither the pair marker nor the back-reference marker, and it
is `0x80` only as the prefix of the empty atom -/
theorem prefixByte_range (k hi : Nat) (hk : 0 < k) (hk5 : k < 6) (hhi : hi < 2 ^ (7 - k)) :
    0x80 ≤ 256 - 2 ^ (8 - k) + hi ∧ 256 - 2 ^ (8 - k) + hi < 0xfc ∧
      (256 - 2 ^ (8 - k) + hi = 0x80 → k = 1 ∧ hi = 0) := by
  obtain rfl | rfl | rfl | rfl | rfl : k = 1 ∨ k = 2 ∨ k = 3 ∨ k = 4 ∨ k = 5 := by omega
  all_goals omega

theorem atomPrefix_single {b0 : Nat} (h : b0 < 0x80) : Sexp.atomPrefix b0 1 = some [] := by
  rw [Sexp.atomPrefix, if_neg Nat.one_ne_zero, if_pos ⟨rfl, h⟩]

theorem atomPrefix_long (b0 size : Nat) (h0 : size ≠ 0) (h1 : ¬(size = 1 ∧ b0 < 0x80)) (hl : size < 0x400000000) :
    ∃ k, 0 < k ∧ k < 6 ∧ size < 2 ^ (7 - k) * 256 ^ (k - 1) ∧
      Sexp.atomPrefix b0 size = some ((256 - 2 ^ (8 - k) + size / 256 ^ (k - 1)) :: be (k - 1) size) := by
  have cls : ∀ k p, 0 < k → k < 6 → size < 2 ^ (7 - k) * 256 ^ (k - 1) →
      p = ((256 - 2 ^ (8 - k)) ||| size / 256 ^ (k - 1)) :: be (k - 1) size →
      ∃ k, 0 < k ∧ k < 6 ∧ size < 2 ^ (7 - k) * 256 ^ (k - 1) ∧
        some p = some ((256 - 2 ^ (8 - k) + size / 256 ^ (k - 1)) :: be (k - 1) size) := by
    intro k p hk hk5 h hp
    have := (Nat.div_lt_iff_lt_mul (Nat.pow_pos (by decide))).mpr h
    exact ⟨k, hk, hk5, h, by rw [hp, (prefixByte k (by omega) hk _ this).2.2]⟩
  unfold Sexp.atomPrefix
  rw [if_neg h0, if_neg h1]
  by_cases h2 : size < 0x40
  · rw [if_pos h2]
    exact cls 1 _ (by decide) (by decide) h2 (by simp)
  rw [if_neg h2]
  by_cases h3 : size < 0x2000
  · rw [if_pos h3]
    exact cls 2 _ (by decide) (by decide) h3 (by simp [be_succ, Nat.shiftRight_eq_div_pow])
  rw [if_neg h3]
  by_cases h4 : size < 0x100000
  · rw [if_pos h4]
    exact cls 3 _ (by decide) (by decide) h4 (by simp [be_succ, Nat.shiftRight_eq_div_pow])
  rw [if_neg h4]
  by_cases h5 : size < 0x8000000
  · rw [if_pos h5]
    exact cls 4 _ (by decide) (by decide) h5 (by simp [be_succ, Nat.shiftRight_eq_div_pow])
  rw [if_neg h5, if_pos hl]
  exact cls 5 _ (by decide) (by decide) hl (by simp [be_succ, Nat.shiftRight_eq_div_pow])

theorem parseAtomBody_be (k n : Nat) (b rest : Bytes) (hk : 0 < k) (hk6 : k < 7)
    (hn : n < 2 ^ (7 - k) * 256 ^ (k - 1)) (hb : b.length = n) (hlt : n < 0x400000000) :
    Sexp.parseAtomBody (256 - 2 ^ (8 - k) + n / 256 ^ (k - 1)) (be (k - 1) n ++ (b ++ rest)) = some (b, rest) := by
  have hhi : n / 256 ^ (k - 1) < 2 ^ (7 - k) := (Nat.div_lt_iff_lt_mul (Nat.pow_pos (by decide))).mpr hn
  obtain ⟨h1, h2, _⟩ := prefixByte k hk6 hk _ hhi
  have h128 : ¬ 256 - 2 ^ (8 - k) + n / 256 ^ (k - 1) < 0x80 := by
    have : 2 ^ (8 - k) ≤ 2 ^ 7 := Nat.pow_le_pow_right (by decide) (by omega)
    omega
  have hsz : beVal (n / 256 ^ (k - 1) :: be (k - 1) n) = n := by
    have h256 : 2 ^ (7 - k) ≤ 2 ^ 8 := Nat.pow_le_pow_right (by decide) (by omega)
    have e : n / 256 ^ (k - 1) :: be (k - 1) n = be (k - 1 + 1) n := by
      rw [be_succ, Nat.mod_eq_of_lt (by omega)]
    rw [e, beVal_be]
    calc n < 2 ^ (7 - k) * 256 ^ (k - 1) := hn
      _ ≤ 256 * 256 ^ (k - 1) := Nat.mul_le_mul_right _ h256
      _ = 256 ^ (k - 1 + 1) := by rw [Nat.pow_succ, Nat.mul_comm]
  have hlen := be_length (k - 1) n
  rw [Sexp.parseAtomBody, if_neg h128]
  simp only [h1, h2]
  rw [if_neg (Nat.not_le.mpr hk6), List.take_left' hlen, List.drop_left' hlen, hlen, if_neg (Nat.lt_irrefl _), hsz,
    if_neg (Nat.not_le.mpr hlt), List.take_left' hb, List.drop_left' hb, hb, if_neg (Nat.lt_irrefl _)]

/-- `parse_atom` reads the serialisation of an atom back as what `new_atom` makes of it: its two constants, for `0x80`
and `0x01`, are `new_atom` of the empty atom and of `[1]` -/
theorem parseAtomNode_serAtom (b rest : Bytes) (hl : b.length < 0x400000000) :
    ∃ b0 tl, Sexp.serAtom b ++ rest = b0 :: tl ∧ b0 ≠ 0xff ∧ b0 ≠ 0xfe ∧
      parseAtomNode b0 tl = some (newAtom b, rest) := by
  -- whatever `parseAtomBody` returns goes through `new_atom`
  have fin : ∀ b0 tl, b0 ≠ 0x01 → b0 ≠ 0x80 → Sexp.parseAtomBody b0 tl = some (b, rest) →
      parseAtomNode b0 tl = some (newAtom b, rest) := by
    intro b0 tl h1 h2 hp
    simp only [parseAtomNode, if_neg h1, if_neg h2, hp]
  by_cases h0 : b = []
  · subst h0
    exact ⟨0x80, rest, rfl, by decide, by decide, rfl⟩
  have hpos : 0 < b.length := List.length_pos_iff.mpr h0
  by_cases h1 : b.length = 1 ∧ b.headD 0 < 0x80
  · obtain ⟨x, rfl⟩ : ∃ x, b = [x] := List.length_eq_one_iff.mp h1.1
    have hx : x < 0x80 := h1.2
    have he : Sexp.serAtom [x] ++ rest = x :: rest := by
      rw [Sexp.serAtom, List.length_singleton, List.headD_cons, atomPrefix_single hx]; rfl
    by_cases hone : x = 1
    · subst hone
      exact ⟨1, rest, he, by decide, by decide, rfl⟩
    · refine ⟨x, rest, he, by omega, by omega, fin x rest hone (by omega) ?_⟩
      simp only [Sexp.parseAtomBody, if_pos hx]
  obtain ⟨k, hk, hk5, hhi, hpre⟩ := atomPrefix_long (b.headD 0) b.length (by omega) h1 hl
  have hhi' : b.length / 256 ^ (k - 1) < 2 ^ (7 - k) := (Nat.div_lt_iff_lt_mul (Nat.pow_pos (by decide))).mpr hhi
  obtain ⟨h80, hfc, h80'⟩ := prefixByte_range k _ hk hk5 hhi'
  have hne : 256 - 2 ^ (8 - k) + b.length / 256 ^ (k - 1) ≠ 0x80 := by
    intro e
    obtain ⟨rfl, e0⟩ := h80' e
    rw [Nat.sub_self, Nat.pow_zero, Nat.div_one] at e0
    omega
  refine ⟨_, _, ?_, ?_, ?_, fin _ _ ?_ hne (parseAtomBody_be k _ b rest hk (by omega) hhi rfl hl)⟩
  · rw [Sexp.serAtom, hpre]; simp
  all_goals omega

end ChiaModel.TreeHash
