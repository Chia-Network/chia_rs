import ChiaModel.Lemmas.DeserAtom
/-
C17: the back-reference deserialiser reads the plain serialisation of a tree back as that tree.
-/
namespace ChiaModel.TreeHash
open ChiaModel

/-- every atom is a byte string that the serialiser can write (shorter than 2^34 bytes) -/
def AtomsOK : Sexp → Prop
  | .atom b => isBytes b ∧ b.length < 0x400000000
  | .pair l r => AtomsOK l ∧ AtomsOK r

theorem extends_refl (h : Heap) : Extends h h := ⟨Nat.le_refl _, fun _ _ => rfl⟩

theorem extends_trans {a b c : Heap} (h1 : Extends a b) (h2 : Extends b c) : Extends a c :=
  ⟨Nat.le_trans h1.1 h2.1, fun i hi => by rw [h2.2 i (by have := h1.1; omega), h1.2 i hi]⟩

theorem extends_push (h : Heap) (nd : Node) : Extends h (h.push nd) :=
  ⟨by simp, fun i hi => by rw [Array.getElem?_push, if_neg (by omega)]⟩

theorem serAtom_length_pos (b : Bytes) (hl : b.length < 0x400000000) : 1 ≤ (Sexp.serAtom b).length := by
  obtain ⟨b0, tl, he, _⟩ := parseAtomNode_serAtom b [] hl
  have := congrArg List.length he
  simp at this; omega

theorem size_le_serialize (t : Sexp) (ht : AtomsOK t) : t.size ≤ (Sexp.serialize t).length := by
  induction t with
  | atom b => exact serAtom_length_pos b ht.2
  | pair l r ihl ihr =>
    have := ihl ht.1; have := ihr ht.2
    simp only [Sexp.serialize, Sexp.size, List.length_cons, List.length_append]; omega

theorem deserLoop_serialize : ∀ (t : Sexp), AtomsOK t → ∀ (fuel : Nat) (ops : List ParseOp) (vals : Array Val)
    (heap : Heap) (rest : Bytes), WF heap →
    ∃ heap' n,
      deserLoop (fuel + stepsOf t) (.sexp :: ops) vals heap (Sexp.serialize t ++ rest)
        = deserLoop fuel ops (vals.push (n, none)) heap' rest ∧
      Extends heap heap' ∧ WF heap' ∧ n < heap'.size ∧ denote heap' n = t := by
  intro t
  induction t with
  | atom b =>
    intro ht fuel ops vals heap rest hwf
    obtain ⟨b0, tl, he, hff, hfe, hp⟩ := parseAtomNode_serAtom b rest ht.2
    refine ⟨heap.push (newAtom b), heap.size, ?_, extends_push heap _,
      wf_push hwf _ fun l r e => absurd e (newAtom_not_pair b l r), by simp, denote_newAtom ht.1 (by simp)⟩
    simp only [Sexp.serialize, he, stepsOf, deserLoop, if_neg hff, if_neg hfe, hp]
  | pair l r ihl ihr =>
    intro ht fuel ops vals heap rest hwf
    obtain ⟨heap1, nl, runl, ext1, wf1, hnl, dl⟩ :=
      ihl ht.1 ((fuel + 1) + stepsOf r) (.sexp :: .cons :: ops) vals heap (Sexp.serialize r ++ rest) hwf
    obtain ⟨heap2, nr, runr, ext2, wf2, hnr, dr⟩ :=
      ihr ht.2 (fuel + 1) (.cons :: ops) (vals.push (nl, none)) heap1 rest wf1
    have hnl2 : nl < heap2.size := Nat.lt_of_lt_of_le hnl ext2.1
    have wf3 : WF (heap2.push (Node.pair nl nr)) :=
      wf_push wf2 _ (by intro a b e; cases e; exact ⟨hnl2, hnr⟩)
    have ext3 := extends_push heap2 (Node.pair nl nr)
    refine ⟨heap2.push (Node.pair nl nr), heap2.size, ?_, extends_trans ext1 (extends_trans ext2 ext3), wf3,
      by simp, ?_⟩
    · have e : fuel + stepsOf (Sexp.pair l r) = (((fuel + 1) + stepsOf r) + stepsOf l) + 1 := by
        simp only [stepsOf]; omega
      have e2 : Sexp.serialize (Sexp.pair l r) ++ rest
          = 0xff :: (Sexp.serialize l ++ (Sexp.serialize r ++ rest)) := by
        simp [Sexp.serialize]
      rw [e, e2, deserLoop, if_pos rfl, runl, runr, deserLoop]
      simp only [Array.back?_push, Array.pop_push]
    · have hget : (heap2.push (Node.pair nl nr))[heap2.size]? = some (Node.pair nl nr) := by simp
      rw [denote_pair wf3 hget, denote_extends ext3 wf3 hnr, dr,
        denote_extends (extends_trans ext2 ext3) wf3 hnl, dl]

end ChiaModel.TreeHash
