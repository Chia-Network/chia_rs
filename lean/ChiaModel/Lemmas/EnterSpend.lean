import ChiaModel.Spec.BundleRules
import ChiaModel.Lemmas.Rules
/-
C01, one spend.  `parse_single_spend` + `process_single_spend` + `parse_conditions`, from any bundle state, accept iff the
tuple parses, its coin is new, its table cost fits and its conditions satisfy the per-spend rules; the result is
`enterSpend` of the parsed spend (`spend_ok_iff`; `processSingleSpend_enter` is the accepting direction for the spend loops
that call `processSingleSpend` themselves).  `enterSpend` is explicit field by field (`enterSpend_eq`, and `spendRec_eq`,
`spendRec_flags` for the record it pushes, which does not depend on the spends before it).  An invariant of `parse_spends`
is a fact about these two records; along the spend loop it is carried by `spendLoop_enter`.  The functions of the raw spend
tuple that the properties are stated with (`parsedConds`, `condCostOf`, the attributes) are read off the parsed spend once
(`parseSpend_tree`).  `processSingleSpend_record` / `_costs` are one accepted spend in that vocabulary, for the loops of the execution paths.
-/
namespace ChiaModel.Cond
open ChiaModel

/-- elements of a (possibly improper) list -/
def listElems : Sexp → List Sexp
  | .pair a r => a :: listElems r
  | .atom _ => []

/-- **The cost table, per condition**: what one condition `c` of an accepted spend costs. -/
def condCostOf (flags : Nat) (c : Sexp) : Nat :=
  match first c with
  | .error _ => 0
  | .ok opn =>
    match parseOpcode opn with
    | none => if hasFlag flags Gen.flagCostConditions then Gen.genericConditionCost else 0
    | some op =>
      preCharge flags op +
        (match rest c with
         | .error _ => 0
         | .ok args => match parseArgs args op flags with
           | .ok cva => condExtraCost cva
           | .error _ => 0)

def spendCostOf (flags : Nat) (sp : Sexp) : Nat :=
  match parseSingleSpend sp with
  | .ok (_, _, _, conds) => spendCharge flags + ((listElems conds).map (condCostOf flags)).sum
  | .error _ => 0

theorem bump_cc (s : CSt) (c : Nat) : (bump s c).spend.conditionCost = s.spend.conditionCost + c
    ∧ (bump s c).ret.conditionCost = s.ret.conditionCost + c ∧ (bump s c).ret.spends = s.ret.spends := by
  simp [bump]

theorem condCostOf_eq {flags : Nat} {c : Sexp} {it : Item} (h : parseItem flags c = .ok it) :
    condCostOf flags c = itemCost flags it := by
  obtain ⟨opn, args, rfl, ⟨ho, rfl⟩ | ⟨op, cva, ho, hpa, rfl⟩⟩ := parseItem_ok h
  · simp only [condCostOf, first, ho]; rfl
  · simp only [condCostOf, first, rest, ho, hpa]; rfl

theorem totalCost_eq_sum {flags : Nat} : ∀ {cs : List Sexp} {items : List Item}, parseAll flags cs = .ok items →
    (cs.map (condCostOf flags)).sum = totalCost flags items
  | [], items, h => by cases h; rfl
  | c :: cs, items, h => by
    obtain ⟨it, its, hit, hits, rfl⟩ := parseAll_cons.mp h
    simp only [List.map_cons, List.sum_cons, totalCost, condCostOf_eq hit, totalCost_eq_sum hits]

end ChiaModel.Cond

namespace ChiaModel.Rules
open ChiaModel ChiaModel.Cond ChiaModel.TL

/-- the state `spendHeader` returns for a spend with attributes `a` -/
def headerState (ret : Bundle) (st : PState) (a : Attrs) (cc : Nat) : CSt :=
  { ret := { ret with removalAmount := ret.removalAmount + a.amount }
    st := { st with spentCoins := st.spentCoins ++ [a.coinId], spentPuzzles := a.puzzleHash :: st.spentPuzzles }
    spend := { parentId := a.parentId, coinAmount := a.amount, puzzleHash := a.puzzleHash, coinId := a.coinId,
               executionCost := cc } }

theorem spendStart_eq (env : Env) (cc : Nat) (ret : Bundle) (st : PState) (a : Attrs) :
    spendStart env cc ret st a = newSpendVisit env (bump (headerState ret st a cc) (spendCharge env.flags)) := rfl

section spendStart
variable (env : Env) (cc : Nat) (ret : Bundle) (st : PState) (a : Attrs)

theorem spendStart_flags : (spendStart env cc ret st a).spend.flags = startFlags env.mempool a.amount := by
  rw [spendStart_eq, newSpendVisit_eq]; rfl

theorem spendStart_fresh : FreshSpend (spendStart env cc ret st a).spend := by
  have hf := spendStart_flags env cc ret st a
  rw [spendStart_eq, newSpendVisit_eq] at hf ⊢
  exact ⟨rfl, rfl, rfl, rfl, rfl, rfl, rfl, rfl, rfl, rfl, rfl, rfl, rfl, rfl, hf ▸ startFlags_and_two _ _⟩

theorem spendStart_attrs : attrsOf (spendStart env cc ret st a).spend = a := by
  rw [spendStart_eq, newSpendVisit_eq]; rfl

theorem spendStart_fee : (spendStart env cc ret st a).ret.reserveFee = ret.reserveFee := by
  rw [spendStart_eq, newSpendVisit_eq]; rfl

theorem spendStart_countdown : (spendStart env cc ret st a).countdown = 1024 := by
  rw [spendStart_eq, newSpendVisit_eq]; rfl

theorem spendStart_counter : (spendStart env cc ret st a).counter = 0 := by
  rw [spendStart_eq, newSpendVisit_eq]; rfl

end spendStart

theorem spendTuple_some {sp conds : Sexp} {a : Attrs} (h : spendTuple sp = some (a, conds)) :
    ∃ parent ph amt r v, sp = .pair (.atom parent) (.pair (.atom ph) (.pair (.atom amt) (.pair conds r))) ∧
      parent.length = 32 ∧ ph.length = 32 ∧ sanitizeUint amt 8 = .ok v ∧ a = ⟨parent, ph, coinId parent ph amt, v⟩ := by
  revert h
  fun_cases spendTuple sp with
  | case1 parent ph amt conds' r hl v hv => -- the one arm that returns a tuple
    intro h; cases h; exact ⟨parent, ph, amt, r, v, rfl, hl.1, hl.2, hv, rfl⟩
  | _ => intro h; cases h

theorem header_iff (ret : Bundle) (st : PState) (sp conds : Sexp) (cc : Nat) (s0 : CSt) :
    (∃ parent ph amount, parseSingleSpend sp = .ok (parent, ph, amount, conds) ∧
        spendHeader ret st parent ph amount cc = .ok s0) ↔
      ∃ a, spendTuple sp = some (a, conds) ∧ a.coinId ∉ st.spentCoins ∧ s0 = headerState ret st a cc := by
  constructor
  · rintro ⟨parent, ph, amount, hp, hh⟩
    obtain ⟨r, rfl⟩ := parseSingleSpend_ok hp
    obtain ⟨parentId, puzzleHash, amountBuf, myAmount, rfl, l1, rfl, l2, rfl, hs, hc, rfl⟩ := spendHeader_ok hh
    refine ⟨⟨parentId, puzzleHash, coinId parentId puzzleHash amountBuf, myAmount⟩, ?_, ?_, rfl⟩
    · simp [spendTuple, l1, l2, hs]
    · simpa using hc
  · rintro ⟨a, ht, hc, rfl⟩
    obtain ⟨parent, ph, amt, r, v, rfl, l1, l2, hs, rfl⟩ := spendTuple_some ht
    refine ⟨.atom parent, .atom ph, .atom amt, rfl, ?_⟩
    simp [spendHeader, sanitizeHash, atomOf, parseAmount, l1, l2, hs, headerState, bind, Except.bind, pure, Except.pure]
    exact hc

theorem parseSpend_iff {flags : Nat} {sp : Sexp} {p : PSpend} :
    parseSpend flags sp = some p ↔
      ∃ conds cs, spendTuple sp = some (p.attrs, conds) ∧ sexpList conds = some cs ∧ parseAll flags cs = .ok p.items := by
  constructor
  · fun_cases parseSpend flags sp with
    | case3 a conds ht cs hl items hp => -- tuple, NIL-terminated list and `parseAll` all succeed
      intro h; cases h; exact ⟨conds, cs, ht, hl, hp⟩
    | _ => intro h; cases h
  · rintro ⟨conds, cs, h1, h2, h3⟩
    simp only [parseSpend, h1, h2, h3]

/-- the fee clause speaks only when the spend reserves a fee, as in `Compatible` -/
theorem spend_ok_iff (env : Env) (cc : Nat) (ret : Bundle) (st : PState) (sp : Sexp)
    (m : Nat) (ret' : Bundle) (st' : PState) (m' : Nat) :
    (∃ parent ph amount conds, parseSingleSpend sp = .ok (parent, ph, amount, conds) ∧
        processSingleSpend env ret st parent ph amount conds cc m = .ok ((ret', st'), m')) ↔
      ∃ p, parseSpend env.flags sp = some p ∧ p.attrs.coinId ∉ st.spentCoins ∧
        spendCost env.flags p ≤ m ∧ m' = m - spendCost env.flags p ∧
        SpendAccepts env p.attrs 0 1024 (itemConds p.items) ∧
        (∀ _v ∈ fees (itemConds p.items), ret.reserveFee + feeSum (itemConds p.items) < 2 ^ 64) ∧
        (ret', st') = enterSpend env cc (ret, st) p := by
  have loop (a : Attrs) (conds : Sexp) (m1 : Nat) (s : CSt) := condLoop_ok_iff env conds (spendStart env cc ret st a) m1 s m'
  simp only [stateAfter_fresh env _ (spendStart_fresh env cc ret st _), compatible_fresh _ (spendStart_fresh env cc ret st _),
    spendStart_attrs, spendStart_fee, spendStart_countdown, spendStart_counter] at loop
  constructor
  · rintro ⟨parent, ph, amount, conds, hp, h⟩
    obtain ⟨s0, s, hh, hc, hl, hf⟩ := processSingleSpend_iff.mp h
    obtain ⟨a, ht, hnot, rfl⟩ := (header_iff ret st sp conds cc s0).mp ⟨parent, ph, amount, hp, hh⟩
    obtain ⟨cs, items, hcs, hpa, hk, hm, ⟨hacc, hfee⟩, hs⟩ := (loop a conds _ s).mp hl
    refine ⟨⟨a, items⟩, parseSpend_iff.mpr ⟨conds, cs, ht, hcs, hpa⟩, hnot, ?_, ?_, hacc, hfee, ?_⟩
    · simp only [spendCost]; omega
    · simp only [spendCost]; omega
    · rw [hf, hs]; rfl
  · rintro ⟨p, hp, hnot, hk, hm, hacc, hfee, hr⟩
    obtain ⟨conds, cs, ht, hcs, hpa⟩ := parseSpend_iff.mp hp
    obtain ⟨parent, ph, amount, hps, hh⟩ := (header_iff ret st sp conds cc _).mpr ⟨p.attrs, ht, hnot, rfl⟩
    simp only [spendCost] at hk hm
    have hl := (loop p.attrs conds (m - spendCharge env.flags) _).mpr
      ⟨cs, p.items, hcs, hpa, by omega, by omega, ⟨hacc, hfee⟩, rfl⟩
    exact ⟨parent, ph, amount, conds, hps, processSingleSpend_iff.mpr ⟨_, _, hh, by omega, hl, hr⟩⟩

def tuple (parent ph amount conds : Sexp) : Sexp := .pair parent (.pair ph (.pair amount (.pair conds (.atom []))))

theorem processSingleSpend_ok_iff {env : Env} {ret : Bundle} {st : PState} {parent ph amount conds : Sexp} {cc m : Nat}
    {ret' : Bundle} {st' : PState} {m' : Nat} :
    processSingleSpend env ret st parent ph amount conds cc m = .ok ((ret', st'), m') ↔
      ∃ p, parseSpend env.flags (tuple parent ph amount conds) = some p ∧ p.attrs.coinId ∉ st.spentCoins ∧
        spendCost env.flags p ≤ m ∧ m' = m - spendCost env.flags p ∧
        SpendAccepts env p.attrs 0 1024 (itemConds p.items) ∧
        (∀ _v ∈ fees (itemConds p.items), ret.reserveFee + feeSum (itemConds p.items) < 2 ^ 64) ∧
        (ret', st') = enterSpend env cc (ret, st) p :=
  Iff.trans ⟨fun h => ⟨parent, ph, amount, conds, rfl, h⟩, fun ⟨_, _, _, _, e, h⟩ => by cases e; exact h⟩
    (spend_ok_iff env cc ret st (tuple parent ph amount conds) m ret' st' m')

theorem processSingleSpend_enter {env : Env} {ret : Bundle} {st : PState} {parent ph amount conds : Sexp} {cc m : Nat}
    {ret' : Bundle} {st' : PState} {m' : Nat}
    (h : processSingleSpend env ret st parent ph amount conds cc m = .ok ((ret', st'), m')) :
    ∃ p, parseSpend env.flags (tuple parent ph amount conds) = some p ∧ p.attrs.coinId ∉ st.spentCoins ∧
      spendCost env.flags p ≤ m ∧ m' = m - spendCost env.flags p ∧
      SpendAccepts env p.attrs 0 1024 (itemConds p.items) ∧ (ret', st') = enterSpend env cc (ret, st) p := by
  obtain ⟨p, hp, hnot, hk, hm, hacc, -, hr⟩ := processSingleSpend_ok_iff.mp h
  exact ⟨p, hp, hnot, hk, hm, hacc, hr⟩

/-- the spend record the summary fold pushes for `p` (it does not depend on the spends before it) -/
def spendRec (env : Env) (cc : Nat) (p : PSpend) : Spend :=
  postSpend env (wrapF (allBits env.mempool 0 p.items) (spendResult env (spendStart env cc {} {} p.attrs) (itemConds p.items))
      (totalCount p.items) (totalCost env.flags p.items)).spend

theorem enterSpend_eq (env : Env) (cc : Nat) (acc : Bundle × PState) (p : PSpend) :
    enterSpend env cc acc p =
      ({ acc.1 with
          spends := acc.1.spends ++ [spendRec env cc p]
          reserveFee := acc.1.reserveFee + feeSum (itemConds p.items)
          heightAbsolute := max acc.1.heightAbsolute (maxList (heightAbss (itemConds p.items)))
          secondsAbsolute := max acc.1.secondsAbsolute (maxList (secondsAbss (itemConds p.items)))
          aggSigUnsafe := acc.1.aggSigUnsafe ++ sigsOf Gen.opAggSigUnsafe (itemConds p.items)
          beforeHeightAbsolute := minOpt2 acc.1.beforeHeightAbsolute (minOpt (beforeHeightAbss (itemConds p.items)))
          beforeSecondsAbsolute := minOpt2 acc.1.beforeSecondsAbsolute (minOpt (beforeSecondsAbss (itemConds p.items)))
          conditionCost := acc.1.conditionCost + spendCharge env.flags + totalCost env.flags p.items
          removalAmount := acc.1.removalAmount + p.attrs.amount
          additionAmount := acc.1.additionAmount + additions (itemConds p.items) },
       { acc.2 with
          announceCoin := ((itemConds p.items).filterMap (coinAnnouncementOf p.attrs)).reverse ++ acc.2.announceCoin
          announcePuzzle := ((itemConds p.items).filterMap (puzzleAnnouncementOf p.attrs)).reverse ++ acc.2.announcePuzzle
          assertCoin := ((itemConds p.items).filterMap assertCoinAnnouncementOf).reverse ++ acc.2.assertCoin
          assertPuzzle := ((itemConds p.items).filterMap assertPuzzleAnnouncementOf).reverse ++ acc.2.assertPuzzle
          messages := ((itemConds p.items).filterMap (messageOf p.attrs)).reverse ++ acc.2.messages
          assertConcurrentSpend := ((itemConds p.items).filterMap concurrentSpendOf).reverse ++ acc.2.assertConcurrentSpend
          assertConcurrentPuzzle := ((itemConds p.items).filterMap concurrentPuzzleOf).reverse ++ acc.2.assertConcurrentPuzzle
          spentCoins := acc.2.spentCoins ++ [p.attrs.coinId]
          spentPuzzles := p.attrs.puzzleHash :: acc.2.spentPuzzles
          assertEphemeral := List.replicate (ephemeralCount (itemConds p.items)) acc.1.spends.length ++ acc.2.assertEphemeral
          assertNotEphemeral :=
            bif anyNotEphemeral (itemConds p.items) then acc.1.spends.length :: acc.2.assertNotEphemeral
            else acc.2.assertNotEphemeral
          pkmPairs := acc.2.pkmPairs ++
            (if hasFlag env.flags Gen.flagDontValidateSignature then [] else (itemConds p.items).filterMap (signedPairOf p.attrs)) }) := by
  -- `newSpendVisit` and `postSpend` are an `if` on the visitor around a record: only once `env.mempool` is a constructor do
  -- both sides compute to records that agree field by field
  obtain ⟨flags, mempool, pkOk⟩ := env
  cases mempool <;> rfl

theorem enterSpend_fee (env : Env) (cc : Nat) (acc : Bundle × PState) (p : PSpend) :
    (enterSpend env cc acc p).1.reserveFee = acc.1.reserveFee + feeSum (itemConds p.items) := by
  rw [enterSpend_eq]

theorem enterSpend_spentCoins (env : Env) (cc : Nat) (acc : Bundle × PState) (p : PSpend) :
    (enterSpend env cc acc p).2.spentCoins = acc.2.spentCoins ++ [p.attrs.coinId] := by
  rw [enterSpend_eq]

/-- the flags of the record pushed for `p`: the start flags, HAS_RELATIVE_CONDITION if some condition marks the spend, and
the eligibility bits cleared that a condition (`allBits`) or `post_spend` clears -/
def recFlags (env : Env) (p : PSpend) : Nat :=
  clr ((allBits env.mempool 0 p.items).1 || (env.mempool && decide (p.attrs.amount > additions (itemConds p.items))),
       (allBits env.mempool 0 p.items).2 || (env.mempool &&
          !(newCoins (itemConds p.items)).any (fun c => c.ph == p.attrs.puzzleHash && c.amount == p.attrs.amount)))
    (bif anyNotEphemeral (itemConds p.items) then startFlags env.mempool p.attrs.amount + HAS_RELATIVE_CONDITION
     else startFlags env.mempool p.attrs.amount)

theorem spendRec_flags (env : Env) (cc : Nat) (p : PSpend) : (spendRec env cc p).flags = recFlags env p := by
  unfold spendRec recFlags
  rw [postSpend_eq]
  show clr _ (clr _ _) = _
  rw [clr_clr, spendStart_eq, newSpendVisit_eq]
  rfl

theorem spendRec_eq (env : Env) (cc : Nat) (p : PSpend) :
    spendRec env cc p =
      { parentId := p.attrs.parentId, coinAmount := p.attrs.amount, puzzleHash := p.attrs.puzzleHash, coinId := p.attrs.coinId
        heightRelative := maxOpt (heightRels (itemConds p.items))
        secondsRelative := maxOpt (secondsRels (itemConds p.items))
        beforeHeightRelative := minOpt (beforeHeightRels (itemConds p.items))
        beforeSecondsRelative := minOpt (beforeSecondsRels (itemConds p.items))
        birthHeight := commonValue (birthHeights (itemConds p.items))
        birthSeconds := commonValue (birthSeconds (itemConds p.items))
        createCoin := newCoins (itemConds p.items)
        aggSigMe := sigsOf Gen.opAggSigMe (itemConds p.items)
        aggSigParent := sigsOf Gen.opAggSigParent (itemConds p.items)
        aggSigPuzzle := sigsOf Gen.opAggSigPuzzle (itemConds p.items)
        aggSigAmount := sigsOf Gen.opAggSigAmount (itemConds p.items)
        aggSigPuzzleAmount := sigsOf Gen.opAggSigPuzzleAmount (itemConds p.items)
        aggSigParentAmount := sigsOf Gen.opAggSigParentAmount (itemConds p.items)
        aggSigParentPuzzle := sigsOf Gen.opAggSigParentPuzzle (itemConds p.items)
        flags := recFlags env p
        executionCost := cc
        conditionCost := spendCost env.flags p } := by
  rw [← spendRec_flags, spendCost, ← Nat.zero_add (spendCharge env.flags)]
  unfold spendRec
  rw [postSpend_eq]
  -- as in `enterSpend_eq`: the `if` of `newSpendVisit` stands around the start record until the visitor is a constructor
  obtain ⟨flags, mempool, pkOk⟩ := env
  cases mempool <;> rfl

theorem enterSpend_spends (env : Env) (cc : Nat) (acc : Bundle × PState) (p : PSpend) :
    (enterSpend env cc acc p).1.spends = acc.1.spends ++ [spendRec env cc p] := by
  rw [enterSpend_eq]

theorem enterSpend_conditionCost (env : Env) (cc : Nat) (acc : Bundle × PState) (p : PSpend) :
    (enterSpend env cc acc p).1.conditionCost = acc.1.conditionCost + spendCost env.flags p := by
  rw [enterSpend_eq]; exact Nat.add_assoc ..

/-- `Q`: a relation between the bundle state, the cost budget and the spend tuples processed so far.  If every accepted
spend extends it, it holds at the end of the loop for all tuples of the list. -/
theorem spendLoop_enter (env : Env) (cc : Nat) (Q : Bundle × PState → Nat → List Sexp → Prop) : ∀ (t : Sexp),
    (∀ acc m done tree p, tree ∈ listElems t → Q acc m done → parseSpend env.flags tree = some p →
      p.attrs.coinId ∉ acc.2.spentCoins → spendCost env.flags p ≤ m → SpendAccepts env p.attrs 0 1024 (itemConds p.items) →
      Q (enterSpend env cc acc p) (m - spendCost env.flags p) (done ++ [tree])) →
    ∀ ret st n m ret' st' m' (ts0 : List Sexp), spendLoop env cc t ret st n m = .ok ((ret', st'), m') →
      Q (ret, st) m ts0 → Q (ret', st') m' (ts0 ++ listElems t) := by
  intro t
  induction t with
  | atom b =>
    intro _ ret st n m ret' st' m' ts0 h hq
    cases b with
    | nil =>
      simp only [spendLoop] at h; injection h with h; injection h with h1 h2; injection h1 with h1 h3; subst h1 h2 h3
      simpa [listElems] using hq
    | cons x xs => simp [spendLoop] at h
  | pair sp nxt _ ih =>
    intro hstep ret st n m ret' st' m' ts0 h hq
    obtain ⟨-, r1, s1, m1, h1, h⟩ := (spendLoop_cons ..).mp h
    obtain ⟨p, hps, hnew, hk, rfl, hacc, -, he⟩ := (spend_ok_iff ..).mp h1
    have := ih (fun acc m done tree p hm => hstep acc m done tree p (List.mem_cons_of_mem _ hm)) r1 s1 (n - 1) _ ret' st' m'
      (ts0 ++ [sp]) h (he ▸ hstep (ret, st) m ts0 sp p List.mem_cons_self hq hps hnew hk hacc)
    simpa [listElems, List.append_assoc] using this

theorem sexpList_listElems : ∀ {t : Sexp} {cs : List Sexp}, sexpList t = some cs → listElems t = cs
  | .atom [], cs, h => by cases h; rfl
  | .atom (_ :: _), cs, h => by cases h
  | .pair a r, cs, h => by
    simp only [sexpList, Option.map_eq_some_iff] at h
    obtain ⟨l, hl, rfl⟩ := h
    simp only [listElems, sexpList_listElems hl]

/-- what `parseSpend flags sp = some p` says of the raw tuple `sp`: `amt` is its amount atom, `conds` its condition list -/
structure TupleOf (flags : Nat) (sp : Sexp) (p : PSpend) (amt : Bytes) (conds : Sexp) : Prop where
  tuple : parseSingleSpend sp = .ok (.atom p.attrs.parentId, .atom p.attrs.puzzleHash, .atom amt, conds)
  amount_val : sanitizeUint amt 8 = .ok p.attrs.amount
  coinId_eq : p.attrs.coinId = coinId p.attrs.parentId p.attrs.puzzleHash amt
  parent_len : p.attrs.parentId.length = 32
  ph_len : p.attrs.puzzleHash.length = 32
  conds_eq : parsedConds flags conds = itemConds p.items
  cost_sum : ((listElems conds).map (condCostOf flags)).sum = totalCost flags p.items
  conds_list : sexpList conds = some (listElems conds)
  conds_parse : parseAll flags (listElems conds) = .ok p.items

theorem parseSpend_tree {flags : Nat} {sp : Sexp} {p : PSpend} (h : parseSpend flags sp = some p) :
    ∃ amt conds, TupleOf flags sp p amt conds := by
  obtain ⟨conds, cs, ht, hcs, hpa⟩ := parseSpend_iff.mp h
  obtain ⟨parent, ph, amt, r, v, rfl, l1, l2, hs, ha⟩ := spendTuple_some ht
  obtain rfl := sexpList_listElems hcs
  obtain ⟨a, items⟩ := p
  cases ha
  exact ⟨amt, conds, rfl, hs, rfl, l1, l2, parsedConds_eq_itemConds _ _ _ _ hcs hpa, totalCost_eq_sum hpa, hcs, hpa⟩

theorem tuple_tree {flags : Nat} {parent ph amount conds : Sexp} {p : PSpend}
    (h : parseSpend flags (tuple parent ph amount conds) = some p) :
    ∃ amt, parent = .atom p.attrs.parentId ∧ ph = .atom p.attrs.puzzleHash ∧ amount = .atom amt ∧
      sanitizeUint amt 8 = .ok p.attrs.amount ∧ p.attrs.coinId = coinId p.attrs.parentId p.attrs.puzzleHash amt ∧
      p.attrs.parentId.length = 32 ∧ p.attrs.puzzleHash.length = 32 ∧
      parsedConds flags conds = itemConds p.items ∧
      ((listElems conds).map (condCostOf flags)).sum = totalCost flags p.items := by
  obtain ⟨amt, conds', hps, h2, h3, h4, h5, h6, h7⟩ := parseSpend_tree h
  cases hps
  exact ⟨amt, rfl, rfl, rfl, h2, h3, h4, h5, h6, h7⟩

/-- `sp` is the record pushed for the spend tuple `(parent ph amount conds)`, in the vocabulary of the raw tuple: `ab` is
the amount atom, `cs` the elements of the condition list, `items` what they parse to -/
structure RecordOf (flags : Nat) (parent ph amount conds : Sexp) (sp : Spend) (ab : Bytes) (cs : List Sexp)
    (items : List Item) : Prop where
  parent_eq : parent = .atom sp.parentId
  parent_len : sp.parentId.length = 32
  ph_eq : ph = .atom sp.puzzleHash
  amount_eq : amount = .atom ab
  amount_val : sanitizeUint ab 8 = .ok sp.coinAmount
  coinId_eq : sp.coinId = coinId sp.parentId sp.puzzleHash ab
  conds_list : sexpList conds = some cs
  conds_parse : parseAll flags cs = .ok items
  createCoin_eq : sp.createCoin = newCoins (itemConds items)
  cost_sum : ((listElems conds).map (condCostOf flags)).sum = totalCost flags items

/-- one accepted spend pushes one record, the record of its tuple; for the loops of the execution paths -/
theorem processSingleSpend_record {env : Env} {ret : Bundle} {st : PState} {parent ph amount conds : Sexp} {c m : Nat}
    {ret' : Bundle} {st' : PState} {m' : Nat}
    (h : processSingleSpend env ret st parent ph amount conds c m = .ok ((ret', st'), m')) :
    ∃ sp ab cs items, ret'.spends = ret.spends ++ [sp] ∧ RecordOf env.flags parent ph amount conds sp ab cs items := by
  obtain ⟨p, hp, -, -, -, -, -, he⟩ := processSingleSpend_ok_iff.mp h
  obtain ⟨ab, conds', t⟩ := parseSpend_tree hp
  cases t.tuple
  obtain rfl : ret' = (enterSpend env c (ret, st) p).1 := congrArg Prod.fst he
  refine ⟨spendRec env c p, ab, listElems conds, p.items, enterSpend_spends .., ?_⟩
  rw [spendRec_eq]
  exact ⟨rfl, t.parent_len, rfl, rfl, t.amount_val, t.coinId_eq, t.conds_list, t.conds_parse, rfl, t.cost_sum⟩

/-- what one accepted spend books: nothing on the execution cost, the table cost of its tuple on the condition cost and
off the budget -/
theorem processSingleSpend_costs {env : Env} {ret : Bundle} {st : PState} {parent ph amount conds : Sexp} {c m : Nat}
    {ret' : Bundle} {st' : PState} {m' : Nat}
    (h : processSingleSpend env ret st parent ph amount conds c m = .ok ((ret', st'), m')) :
    ret'.executionCost = ret.executionCost ∧
    ret'.conditionCost = ret.conditionCost + (spendCharge env.flags + ((listElems conds).map (condCostOf env.flags)).sum) ∧
    m = m' + (spendCharge env.flags + ((listElems conds).map (condCostOf env.flags)).sum) := by
  obtain ⟨p, hp, -, hk, rfl, -, -, he⟩ := processSingleSpend_ok_iff.mp h
  obtain ⟨-, -, -, -, -, -, -, -, -, hc⟩ := tuple_tree hp
  obtain rfl : ret' = (enterSpend env c (ret, st) p).1 := congrArg Prod.fst he
  rw [hc]
  exact ⟨by rw [enterSpend_eq], enterSpend_conditionCost .., (Nat.sub_add_cancel hk).symm⟩

end ChiaModel.Rules
