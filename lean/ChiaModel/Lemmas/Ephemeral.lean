import ChiaModel.Lemmas.EnterSpend
/-
C03, ephemeral rule: a spend that carries a relative lock or a birth assertion (including the
negative relative ones that are otherwise tautologies) is recorded in `assert_not_ephemeral`.
-/
namespace ChiaModel.TL
open ChiaModel ChiaModel.Cond

/-- conditions after which `parse_conditions` calls `assert_not_ephemeral` -/
def relOrBirth : Cond → Bool
  | .assertHeightRelative _ | .assertSecondsRelative _ | .assertBeforeHeightRelative _ | .assertBeforeSecondsRelative _
  | .assertMyBirthHeight _ | .assertMyBirthSeconds _ | .skipRelativeCondition => true
  | _ => false

def hasRel (s : CSt) : Prop := s.spend.flags &&& HAS_RELATIVE_CONDITION ≠ 0

/-- the spend being parsed is registered whenever its HAS_RELATIVE_CONDITION bit is set -/
def NE (s : CSt) : Prop := hasRel s → s.ret.spends.length ∈ s.st.assertNotEphemeral

structure StepNE (s s' : CSt) (c : Cond) : Prop where
  spends : s'.ret.spends = s.ret.spends
  grow : ∃ l, s'.st.assertNotEphemeral = l ++ s.st.assertNotEphemeral
  keep : hasRel s → hasRel s'
  trig : relOrBirth c = true → hasRel s'
  ne : NE s → NE s'

theorem relOrBirth_eq (c : Cond) : relOrBirth c = Rules.marksNotEphemeral c := by
  cases c <;> rfl

structure LoopNE (s s' : CSt) (trigger : Prop) : Prop where
  spends : s'.ret.spends = s.ret.spends
  grow : ∃ l, s'.st.assertNotEphemeral = l ++ s.st.assertNotEphemeral
  ne : NE s → NE s'
  rel : (hasRel s ∨ trigger) → hasRel s'

def condsOfSpend (flags : Nat) (tree : Sexp) : List Cond :=
  match parseSingleSpend tree with
  | .ok (_, _, _, conds) => parsedConds flags conds
  | .error _ => []

def spendHasRel (flags : Nat) (tree : Sexp) : Prop := ∃ x ∈ condsOfSpend flags tree, relOrBirth x = true

theorem spendHasRel_iff {flags : Nat} {sp : Sexp} {p : Rules.PSpend} (h : Rules.parseSpend flags sp = some p) :
    spendHasRel flags sp ↔ Rules.anyNotEphemeral (itemConds p.items) = true := by
  obtain ⟨amt, conds, t⟩ := Rules.parseSpend_tree h
  simp only [spendHasRel, condsOfSpend, t.tuple, t.conds_eq, Rules.anyNotEphemeral, List.any_eq_true, relOrBirth_eq]

/-- positions are read off `zipIdx`, which appends as the loop does -/
theorem spendLoop_ne (env : Env) (cc : Nat) (t : Sexp) ret st n m ret' st' m' (ts0 : List Sexp)
    (h : spendLoop env cc t ret st n m = .ok ((ret', st'), m')) (hlen : ret.spends.length = ts0.length)
    (hinv : ∀ q ∈ ts0.zipIdx, spendHasRel env.flags q.1 → q.2 ∈ st.assertNotEphemeral) :
    ret'.spends.length = (ts0 ++ listElems t).length ∧
    ∀ q ∈ (ts0 ++ listElems t).zipIdx, spendHasRel env.flags q.1 → q.2 ∈ st'.assertNotEphemeral := by
  refine Rules.spendLoop_enter env cc (fun acc _ ts => acc.1.spends.length = ts.length ∧
    ∀ q ∈ ts.zipIdx, spendHasRel env.flags q.1 → q.2 ∈ acc.2.assertNotEphemeral) t ?_
    ret st n m ret' st' m' ts0 h ⟨hlen, hinv⟩
  intro acc m done sp p _ ⟨hlen, hinv⟩ hp _ _ _
  rw [Rules.enterSpend_eq]
  refine ⟨by simp [hlen], fun q hq hrel => ?_⟩
  show q.2 ∈ (bif Rules.anyNotEphemeral (itemConds p.items) then _ else _)
  rw [List.zipIdx_append, List.zipIdx_singleton, List.mem_append, List.mem_singleton, Nat.zero_add] at hq
  rcases hq with hq | rfl
  · have := hinv q hq hrel
    cases Rules.anyNotEphemeral (itemConds p.items)
    · exact this
    · exact List.mem_cons_of_mem _ this
  · rw [(spendHasRel_iff hp).mp hrel, hlen]
    exact List.mem_cons_self

end ChiaModel.TL
