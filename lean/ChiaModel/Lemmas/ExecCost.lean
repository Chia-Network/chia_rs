import ChiaModel.Lemmas.EnterSpend
/-
The `execution_cost` bookkeeping fields (of the bundle and of each spend) are write-only for `process_single_spend`:
whether a spend is accepted, and the `enterSpend` it then returns, read of the bundle only the fee reserved so far and
the number of finished spends (`processSingleSpend_ok_iff`, `enterSpend_eq`).  Consequence: `processSingleSpend` called with a
different `clvmCost` argument, on a bundle that differs only in those fields, accepts the same spends with the same
parser state and remaining budget, and the resulting bundles again differ only in those fields
(`processSingleSpend_execRel`).
-/
namespace ChiaModel.Cond

abbrev reExec (e : Nat) (sps : List Spend) (se : Nat) (s : CSt) : CSt :=
  { s with ret := { s.ret with executionCost := e, spends := sps }, spend := { s.spend with executionCost := se } }

@[simp] theorem reExec_spend_parentId (e : Nat) (sps : List Spend) (se : Nat) (s : CSt) : (reExec e sps se s).spend.parentId = s.spend.parentId := rfl
@[simp] theorem reExec_spend_coinAmount (e : Nat) (sps : List Spend) (se : Nat) (s : CSt) : (reExec e sps se s).spend.coinAmount = s.spend.coinAmount := rfl
@[simp] theorem reExec_spend_puzzleHash (e : Nat) (sps : List Spend) (se : Nat) (s : CSt) : (reExec e sps se s).spend.puzzleHash = s.spend.puzzleHash := rfl
@[simp] theorem reExec_spend_coinId (e : Nat) (sps : List Spend) (se : Nat) (s : CSt) : (reExec e sps se s).spend.coinId = s.spend.coinId := rfl
@[simp] theorem reExec_spend_heightRelative (e : Nat) (sps : List Spend) (se : Nat) (s : CSt) : (reExec e sps se s).spend.heightRelative = s.spend.heightRelative := rfl
@[simp] theorem reExec_spend_secondsRelative (e : Nat) (sps : List Spend) (se : Nat) (s : CSt) : (reExec e sps se s).spend.secondsRelative = s.spend.secondsRelative := rfl
@[simp] theorem reExec_spend_beforeHeightRelative (e : Nat) (sps : List Spend) (se : Nat) (s : CSt) : (reExec e sps se s).spend.beforeHeightRelative = s.spend.beforeHeightRelative := rfl
@[simp] theorem reExec_spend_beforeSecondsRelative (e : Nat) (sps : List Spend) (se : Nat) (s : CSt) : (reExec e sps se s).spend.beforeSecondsRelative = s.spend.beforeSecondsRelative := rfl
@[simp] theorem reExec_spend_birthHeight (e : Nat) (sps : List Spend) (se : Nat) (s : CSt) : (reExec e sps se s).spend.birthHeight = s.spend.birthHeight := rfl
@[simp] theorem reExec_spend_birthSeconds (e : Nat) (sps : List Spend) (se : Nat) (s : CSt) : (reExec e sps se s).spend.birthSeconds = s.spend.birthSeconds := rfl
@[simp] theorem reExec_spend_createCoin (e : Nat) (sps : List Spend) (se : Nat) (s : CSt) : (reExec e sps se s).spend.createCoin = s.spend.createCoin := rfl
@[simp] theorem reExec_spend_flags (e : Nat) (sps : List Spend) (se : Nat) (s : CSt) : (reExec e sps se s).spend.flags = s.spend.flags := rfl
@[simp] theorem reExec_spend_conditionCost (e : Nat) (sps : List Spend) (se : Nat) (s : CSt) : (reExec e sps se s).spend.conditionCost = s.spend.conditionCost := rfl
@[simp] theorem reExec_ret_reserveFee (e : Nat) (sps : List Spend) (se : Nat) (s : CSt) : (reExec e sps se s).ret.reserveFee = s.ret.reserveFee := rfl
@[simp] theorem reExec_ret_heightAbsolute (e : Nat) (sps : List Spend) (se : Nat) (s : CSt) : (reExec e sps se s).ret.heightAbsolute = s.ret.heightAbsolute := rfl
@[simp] theorem reExec_ret_secondsAbsolute (e : Nat) (sps : List Spend) (se : Nat) (s : CSt) : (reExec e sps se s).ret.secondsAbsolute = s.ret.secondsAbsolute := rfl
@[simp] theorem reExec_ret_beforeHeightAbsolute (e : Nat) (sps : List Spend) (se : Nat) (s : CSt) : (reExec e sps se s).ret.beforeHeightAbsolute = s.ret.beforeHeightAbsolute := rfl
@[simp] theorem reExec_ret_beforeSecondsAbsolute (e : Nat) (sps : List Spend) (se : Nat) (s : CSt) : (reExec e sps se s).ret.beforeSecondsAbsolute = s.ret.beforeSecondsAbsolute := rfl
@[simp] theorem reExec_ret_aggSigUnsafe (e : Nat) (sps : List Spend) (se : Nat) (s : CSt) : (reExec e sps se s).ret.aggSigUnsafe = s.ret.aggSigUnsafe := rfl
@[simp] theorem reExec_ret_additionAmount (e : Nat) (sps : List Spend) (se : Nat) (s : CSt) : (reExec e sps se s).ret.additionAmount = s.ret.additionAmount := rfl
@[simp] theorem reExec_ret_removalAmount (e : Nat) (sps : List Spend) (se : Nat) (s : CSt) : (reExec e sps se s).ret.removalAmount = s.ret.removalAmount := rfl
@[simp] theorem reExec_ret_conditionCost (e : Nat) (sps : List Spend) (se : Nat) (s : CSt) : (reExec e sps se s).ret.conditionCost = s.ret.conditionCost := rfl
@[simp] theorem reExec_st (e : Nat) (sps : List Spend) (se : Nat) (s : CSt) : (reExec e sps se s).st = s.st := rfl
@[simp] theorem reExec_countdown (e : Nat) (sps : List Spend) (se : Nat) (s : CSt) : (reExec e sps se s).countdown = s.countdown := rfl
@[simp] theorem reExec_counter (e : Nat) (sps : List Spend) (se : Nat) (s : CSt) : (reExec e sps se s).counter = s.counter := rfl
@[simp] theorem reExec_ret_spends (e : Nat) (sps : List Spend) (se : Nat) (s : CSt) : (reExec e sps se s).ret.spends = sps := rfl

def eraseExec (sp : Spend) : Spend := { sp with executionCost := 0 }

/-- `ExecRel a b`: the bundles `a` and `b` agree in everything except (possibly) the bundle-level
`executionCost` and the per-spend `executionCost` fields. -/
def ExecRel (a b : Bundle) : Prop :=
  a.spends.map eraseExec = b.spends.map eraseExec ∧
  a = { b with executionCost := a.executionCost, spends := a.spends }

theorem ExecRel.refl (a : Bundle) : ExecRel a a := ⟨rfl, rfl⟩

theorem ExecRel.symm {a b : Bundle} (h : ExecRel a b) : ExecRel b a := by
  obtain ⟨h1, h2⟩ := h
  refine ⟨h1.symm, ?_⟩
  rw [h2]

theorem ExecRel.length {a b : Bundle} (h : ExecRel a b) : a.spends.length = b.spends.length := by
  have := congrArg List.length h.1
  simpa using this

theorem processSingleSpend_execRel {env : Env} {ret ret' : Bundle} {st : PState} {parent ph amount conds : Sexp}
    {c m : Nat} {r1 : Bundle} {st1 : PState} {m1 : Nat} (c' : Nat) (hrel : ExecRel ret' ret)
    (h : processSingleSpend env ret st parent ph amount conds c m = .ok ((r1, st1), m1)) :
    ∃ r1', processSingleSpend env ret' st parent ph amount conds c' m = .ok ((r1', st1), m1) ∧ ExecRel r1' r1 ∧
      r1'.executionCost = ret'.executionCost := by
  have hlen := hrel.length
  obtain ⟨hsp, hret'⟩ := hrel
  obtain ⟨p, hp, hnew, hk, hm, hacc, hfee, he⟩ := Rules.processSingleSpend_ok_iff.mp h
  -- the same parsed spend is accepted after `ret'`, which has reserved the same fee
  have h' := (Rules.processSingleSpend_ok_iff (cc := c') (ret' := (Rules.enterSpend env c' (ret', st) p).1)
    (st' := (Rules.enterSpend env c' (ret', st) p).2)).mpr ⟨p, hp, hnew, hk, hm, hacc, by rw [hret']; exact hfee, rfl⟩
  have hr1 : r1 = (Rules.enterSpend env c (ret, st) p).1 := congrArg Prod.fst he
  have hst1 : st1 = (Rules.enterSpend env c (ret, st) p).2 := congrArg Prod.snd he
  -- the parser state after the spend reads of the bundle only the number of finished spends
  have hst : (Rules.enterSpend env c' (ret', st) p).2 = st1 := by
    rw [hst1, Rules.enterSpend_eq, Rules.enterSpend_eq]
    dsimp only
    rw [hlen]
  refine ⟨(Rules.enterSpend env c' (ret', st) p).1, by rw [h', hst], ⟨?_, ?_⟩, by rw [Rules.enterSpend_eq]⟩
  · rw [hr1, Rules.enterSpend_spends, Rules.enterSpend_spends, List.map_append, List.map_append]
    dsimp only
    rw [hsp]
    simp only [List.map_cons, List.map_nil, Rules.spendRec_eq, eraseExec]
  · rw [hr1, Rules.enterSpend_eq, Rules.enterSpend_eq]
    dsimp only
    rw [hret']

end ChiaModel.Cond
