import ChiaModel.Model.BlsCache
/-
Algebra of the normalised formal sums of the ideal BLS model (C15): `bytesLt` is a strict total
order, the coefficient function is additive, normal forms are canonical, and
`a + (−1)•b = 0 ↔ a = b`.
-/
namespace ChiaModel.Bls

theorem bytesLt_iff : ∀ a b : Bytes, bytesLt a b = true ↔ a < b
  | [], [] => by simp [bytesLt]
  | [], _ :: _ => by simp [bytesLt]
  | _ :: _, [] => by simp [bytesLt]
  | x :: xs, y :: ys => by
    rw [List.cons_lt_cons_iff, ← bytesLt_iff xs ys, bytesLt]
    by_cases h1 : x < y
    · simp [h1]
    · by_cases h2 : y < x
      · simp [h1, h2]; omega
      · simp [h1, h2]; omega

theorem bytesLt_irrefl (a : Bytes) : bytesLt a a = false :=
  Bool.eq_false_iff.mpr fun h => List.lt_irrefl a ((bytesLt_iff a a).mp h)

theorem bytesLt_trans {a b c : Bytes} (h1 : bytesLt a b = true) (h2 : bytesLt b c = true) :
    bytesLt a c = true :=
  (bytesLt_iff a c).mpr (List.lt_trans ((bytesLt_iff a b).mp h1) ((bytesLt_iff b c).mp h2))

theorem bytesLt_total {a b : Bytes} (h1 : ¬ bytesLt a b = true) (h2 : ¬ bytesLt b a = true) : a = b :=
  List.le_antisymm (fun h => h2 ((bytesLt_iff b a).mpr h)) (fun h => h1 ((bytesLt_iff a b).mpr h))

theorem bytesLt_of_not {a b : Bytes} (hne : a ≠ b) (h : ¬ bytesLt a b = true) : bytesLt b a = true :=
  Decidable.of_not_not fun h' => hne (bytesLt_total h h')

theorem bytesLt_ne {a b : Bytes} (h : bytesLt a b = true) : a ≠ b := by
  intro e; subst e; rw [bytesLt_irrefl] at h; cases h

theorem FSum.nil_add (a : FSum) : FSum.add [] a = a := rfl

theorem FSum.one_smul (a : FSum) : FSum.smul 1 a = a := by
  unfold FSum.smul
  rw [if_neg (by decide)]
  induction a with
  | nil => rfl
  | cons t rest ih =>
    show (t.1, 1 * t.2) :: List.map (fun t : Bytes × Int => (t.1, 1 * t.2)) rest = t :: rest
    rw [ih, Int.one_mul]

theorem pairGen_eq (s : Sig) : pairGen s = s.terms := FSum.one_smul s.terms

def coeff (y : Bytes) : FSum → Int
  | [] => 0
  | (x, c) :: r => (if x = y then c else 0) + coeff y r

theorem coeff_addTerm (x y : Bytes) (c : Int) (l : FSum) :
    coeff y (addTerm x c l) = coeff y l + (if x = y then c else 0) := by
  fun_induction addTerm x c l
  -- The cases of `addTerm`, numbered by its equations: 1, 2 the sum is empty (`c = 0`, `c ≠ 0`); 3, 4 `x` meets its own
  -- generator (the coefficients cancel, add up); 5, 6 `x` belongs in front of the head (`c = 0`, `c ≠ 0`); 7 further back.
  -- In each the two sides are sums of the same coefficients, given what the case assumes.
  all_goals simp only [coeff, ite_self, *]
  -- where `x` meets its own generator, whether `y` is that generator decides both sides
  case case3 | case4 => split <;> omega
  all_goals omega

theorem coeff_add (y : Bytes) (a b : FSum) : coeff y (FSum.add a b) = coeff y a + coeff y b := by
  induction a with
  | nil => simp [FSum.add, coeff]
  | cons t r ih =>
    obtain ⟨x, c⟩ := t
    show coeff y (addTerm x c (FSum.add r b)) = _
    rw [coeff_addTerm, ih]
    simp only [coeff]
    omega

theorem coeff_smul (y : Bytes) (k : Int) (a : FSum) : coeff y (FSum.smul k a) = k * coeff y a := by
  unfold FSum.smul
  by_cases hk : k = 0
  · simp [hk, coeff]
  · rw [if_neg hk]
    induction a with
    | nil => simp [coeff]
    | cons t r ih =>
      obtain ⟨x, c⟩ := t
      simp only [List.map_cons, coeff, ih, Int.mul_add]
      split <;> simp

def Normal (l : FSum) : Prop :=
  l.Pairwise (fun a b => bytesLt a.1 b.1 = true) ∧ ∀ t ∈ l, t.2 ≠ 0

theorem normal_nil : Normal [] := ⟨List.Pairwise.nil, by intro t ht; cases ht⟩

theorem Normal.tail {t : Bytes × Int} {r : FSum} (h : Normal (t :: r)) : Normal r :=
  ⟨(List.pairwise_cons.mp h.1).2, fun u hu => h.2 u (List.mem_cons_of_mem _ hu)⟩

theorem coeff_zero_of_ne (y : Bytes) (l : FSum) (h : ∀ t ∈ l, t.1 ≠ y) : coeff y l = 0 := by
  induction l with
  | nil => rfl
  | cons t r ih =>
    obtain ⟨x, c⟩ := t
    simp only [coeff]
    rw [if_neg (h (x, c) (List.mem_cons_self ..)), ih (fun u hu => h u (List.mem_cons_of_mem _ hu))]
    rfl

theorem coeff_head {x : Bytes} {c : Int} {r : FSum} (h : Normal ((x, c) :: r)) :
    coeff x ((x, c) :: r) = c := by
  simp only [coeff, if_true]
  rw [coeff_zero_of_ne x r (fun t ht => (bytesLt_ne ((List.pairwise_cons.mp h.1).1 t ht)).symm)]
  omega

theorem coeff_lt_head {x y : Bytes} {c : Int} {r : FSum} (h : Normal ((x, c) :: r))
    (hy : bytesLt y x = true) : coeff y ((x, c) :: r) = 0 := by
  apply coeff_zero_of_ne
  intro t ht
  rcases List.mem_cons.mp ht with rfl | ht
  · exact (bytesLt_ne hy).symm
  · exact (bytesLt_ne (bytesLt_trans hy ((List.pairwise_cons.mp h.1).1 t ht))).symm

theorem coeff_head_ne {x : Bytes} {c : Int} {r : FSum} (h : Normal ((x, c) :: r)) : coeff x ((x, c) :: r) ≠ 0 := by
  rw [coeff_head h]
  exact h.2 (x, c) (List.mem_cons_self ..)

/-- of two normal forms with the same coefficients neither starts below the other: the smaller head would have
coefficient zero in the other sum -/
theorem head_not_lt {x y : Bytes} {c d : Int} {ra rb : FSum} (ha : Normal ((x, c) :: ra)) (hb : Normal ((y, d) :: rb))
    (h : ∀ z, coeff z ((x, c) :: ra) = coeff z ((y, d) :: rb)) : ¬ bytesLt x y = true := by
  intro hxy
  have := h x
  rw [coeff_lt_head hb hxy] at this
  exact coeff_head_ne ha this

theorem normal_ext {a b : FSum} (ha : Normal a) (hb : Normal b) (h : ∀ y, coeff y a = coeff y b) : a = b := by
  induction a generalizing b with
  | nil =>
    cases b with
    | nil => rfl
    | cons u rb =>
      obtain ⟨y, d⟩ := u
      exact absurd (h y).symm (coeff_head_ne hb)
  | cons t ra ih =>
    obtain ⟨x, c⟩ := t
    cases b with
    | nil => exact absurd (h x) (coeff_head_ne ha)
    | cons u rb =>
      obtain ⟨y, d⟩ := u
      obtain rfl : x = y := bytesLt_total (head_not_lt ha hb h) (head_not_lt hb ha fun z => (h z).symm)
      obtain rfl : c = d := by
        have := h x
        rwa [coeff_head ha, coeff_head hb] at this
      rw [ih ha.tail hb.tail fun z => by have := h z; simp only [coeff] at this; omega]

theorem normal_cons {x : Bytes} {c : Int} {r : FSum} :
    Normal ((x, c) :: r) ↔ (∀ t ∈ r, bytesLt x t.1 = true) ∧ c ≠ 0 ∧ Normal r := by
  unfold Normal
  rw [List.pairwise_cons, List.forall_mem_cons]
  exact ⟨fun ⟨⟨a, b⟩, c, d⟩ => ⟨a, c, b, d⟩, fun ⟨a, c, b, d⟩ => ⟨⟨a, b⟩, c, d⟩⟩

theorem addTerm_lb {z x : Bytes} (c : Int) {l : FSum} (hx : bytesLt z x = true) (hl : ∀ t ∈ l, bytesLt z t.1 = true) :
    ∀ t ∈ addTerm x c l, bytesLt z t.1 = true := by
  -- cases as numbered in `coeff_addTerm`
  fun_induction addTerm x c l with
  | case1 => exact hl
  | case2 => exact List.forall_mem_cons.mpr ⟨hx, hl⟩
  | case3 => exact (List.forall_mem_cons.mp hl).2
  | case4 => exact List.forall_mem_cons.mpr ⟨hx, (List.forall_mem_cons.mp hl).2⟩
  | case5 => exact hl
  | case6 => exact List.forall_mem_cons.mpr ⟨hx, hl⟩
  | case7 y d rest _ _ ih => exact List.forall_mem_cons.mpr ⟨(List.forall_mem_cons.mp hl).1, ih (List.forall_mem_cons.mp hl).2⟩

theorem addTerm_normal (x : Bytes) (c : Int) {l : FSum} (h : Normal l) : Normal (addTerm x c l) := by
  -- cases as numbered in `coeff_addTerm`
  fun_induction addTerm x c l with
  | case1 => exact h
  | case2 hc => exact normal_cons.mpr ⟨nofun, hc, h⟩
  | case3 => exact h.tail
  | case4 d rest hdc => exact normal_cons.mpr ⟨(normal_cons.mp h).1, hdc, h.tail⟩
  | case5 => exact h
  | case6 y d rest _ hlt hc =>
    exact normal_cons.mpr ⟨List.forall_mem_cons.mpr ⟨hlt, fun t ht => bytesLt_trans hlt ((normal_cons.mp h).1 t ht)⟩, hc, h⟩
  | case7 y d rest hxy hlt ih =>
    -- `x` goes somewhere behind `y`: it is above `y`, and so is everything else behind `y`
    obtain ⟨hlb, hd, hr⟩ := normal_cons.mp h
    exact normal_cons.mpr ⟨addTerm_lb c (bytesLt_of_not hxy hlt) hlb, hd, ih hr⟩

theorem add_normal (a : FSum) {b : FSum} (h : Normal b) : Normal (FSum.add a b) := by
  induction a with
  | nil => exact h
  | cons t r ih => exact addTerm_normal t.1 t.2 ih

theorem smul_normal (k : Int) {a : FSum} (h : Normal a) : Normal (FSum.smul k a) := by
  by_cases hk : k = 0
  · subst hk; exact normal_nil
  unfold FSum.smul
  rw [if_neg hk]
  refine ⟨?_, ?_⟩
  · rw [List.pairwise_map]
    exact h.1
  · intro t ht
    obtain ⟨u, hu, rfl⟩ := List.mem_map.mp ht
    exact Int.mul_ne_zero hk (h.2 u hu)

theorem add_neg_eq_nil_iff {a b : FSum} (ha : Normal a) (hb : Normal b) :
    FSum.add a (FSum.smul (-1) b) = [] ↔ a = b := by
  constructor
  · intro h
    apply normal_ext ha hb
    intro y
    have := congrArg (coeff y) h
    rw [coeff_add, coeff_smul] at this
    simp only [coeff] at this
    omega
  · intro h
    subst h
    apply normal_ext (add_normal a (smul_normal _ ha)) normal_nil
    intro y
    rw [coeff_add, coeff_smul]
    simp only [coeff]
    omega

theorem add_comm_normal {a b : FSum} (ha : Normal a) (hb : Normal b) : FSum.add a b = FSum.add b a := by
  apply normal_ext (add_normal a hb) (add_normal b ha)
  intro y
  rw [coeff_add, coeff_add]
  omega

/-! ## everything the model builds is in normal form -/

theorem hashToG2_normal (x : Bytes) : Normal (hashToG2 x).terms :=
  ⟨List.pairwise_singleton _ _, by intro t ht; simp only [hashToG2, List.mem_singleton] at ht; subst ht; exact (by decide : (1 : Int) ≠ 0)⟩

theorem pairing_normal (p : Pair) : Normal p.pairing := smul_normal _ (hashToG2_normal _)

theorem sign_terms (p : Pair) : p.sign.terms = p.pairing := rfl
theorem sign_off (p : Pair) : p.sign.off = false := rfl

theorem sign_normal (p : Pair) : Normal p.sign.terms := pairing_normal p

theorem foldl_add_normal (l : List GT) (hl : ∀ g ∈ l, Normal g) {acc : GT} (h : Normal acc) :
    Normal (l.foldl FSum.add acc) := by
  induction l generalizing acc with
  | nil => exact h
  | cons g r ih =>
    exact ih (fun u hu => hl u (List.mem_cons_of_mem _ hu)) (add_normal _ (hl g (List.mem_cons_self ..)))

theorem foldl_sigAdd (l : List Sig) (s : Sig) :
    l.foldl Sig.add s = { off := s.off || l.any (·.off), terms := (l.map (·.terms)).foldl FSum.add s.terms } := by
  induction l generalizing s with
  | nil => simp
  | cons a r ih => simp [ih, Sig.add, Bool.or_assoc]

/-- `aggregate` of signatures in normal form is in normal form (so is every signature the driver
builds: aggregates of honest signatures and `hash_to_g2("junk")`) -/
theorem aggregate_normal (sigs : List Sig) (h : ∀ s ∈ sigs, Normal s.terms) : Normal (aggregate sigs).terms := by
  unfold aggregate
  rw [foldl_sigAdd]
  exact foldl_add_normal _ (List.forall_mem_map.mpr h) normal_nil

end ChiaModel.Bls
