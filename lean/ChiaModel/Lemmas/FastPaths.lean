import ChiaModel.Lemmas.Scan
import ChiaModel.Lemmas.GenPaths
/-
What an accepting run of the native spend loop says about the generator's spend list (`Trace`), and
what the trusted fast paths (`additions_and_removals`, `get_puzzle_and_solution_for_coin`) compute on
a list with such a trace.
-/
namespace ChiaModel.Gn
open ChiaModel ChiaModel.Cond

/-- a removal as reported by `additions_and_removals` -/
def rem (sp : Spend) : Bytes × Bytes × Bytes × Nat := (sp.coinId, sp.parentId, sp.puzzleHash, sp.coinAmount)

/-- the additions a spend gives rise to: its created coins, parent = its coin id, with their hints -/
def spendAdds (sp : Spend) : List ((Bytes × Bytes × Nat) × Option Bytes) := sp.createCoin.map (ncAdd sp.coinId)

/-- `Trace puz t i m news`: what an accepting run of the native loop over the spend list `t` (first oracle index
`i`, budget `m`) leaves behind, as far as the fast paths read it.  `news` are the spend records pushed, one per list
element, each with the fields of its element and a puzzle run that fits the budget; scanning that run's conditions
for CREATE_COIN (`scanCreateCoins`, what `additions_and_removals` does) yields exactly the record's additions. -/
def Trace (puz : Nat → RunRes) : Sexp → Nat → Nat → List Spend → Prop
  | t, _, _, [] => t = .atom []
  | t, i, m, sp :: rest => ∃ spend nxt puzzle ab sol r c conds m2,
      t = .pair spend nxt ∧ extract5 spend = some (.atom sp.parentId, puzzle, .atom ab, sol, r) ∧
      sp.parentId.length = 32 ∧ sanitizeUint ab 8 = .ok sp.coinAmount ∧ sp.puzzleHash = Sexp.treeHash puzzle ∧
      sp.coinId = coinId sp.parentId sp.puzzleHash ab ∧ puz i = some (c, conds) ∧ c ≤ m ∧ m2 ≤ m - c ∧
      scanCreateCoins sp.coinId conds = some (spendAdds sp) ∧ Trace puz nxt (i + 1) m2 rest

theorem nativeLoop_trace (env : Env) (puz : Nat → RunRes) : ∀ (t : Sexp) (i : Nat) (ret : Bundle) (st : PState) (n m : Nat)
    (ret' : Bundle) (st' : PState) (m' : Nat), nativeLoop env puz t i ret st n m = .ok ((ret', st'), m') →
    ∃ news, ret'.spends = ret.spends ++ news ∧ Trace puz t i m news := by
  intro t i ret st n m ret' st' m' h
  refine nativeLoop_induct (P := fun t i ret _ _ m => ∃ news, ret'.spends = ret.spends ++ news ∧ Trace puz t i m news)
    (fun _ _ => ⟨[], (List.append_nil _).symm, rfl⟩) ?_ t i ret st n m h
  intro spend nxt i ret st n m parent puzzle amount sol r r1 s1 m2 _ h5 hs ih
  obtain ⟨_, c, conds, hp, hc, hps⟩ := spendStep_ok_iff.mp hs
  obtain ⟨sp, ab, cs, items, t1, hr⟩ := Rules.processSingleSpend_record hps
  obtain ⟨-, -, hle⟩ := Rules.processSingleSpend_costs hps
  obtain ⟨rest, r1', r2'⟩ := ih
  obtain rfl := hr.parent_eq
  obtain rfl := hr.amount_eq
  refine ⟨sp :: rest, by rw [r1', t1]; simp, ?_⟩
  refine ⟨spend, nxt, puzzle, ab, sol, r, c, conds, m2, rfl, h5, hr.parent_len, hr.amount_val,
    (Sexp.atom.inj hr.ph_eq).symm, hr.coinId_eq, hp, hc, by omega, ?_, r2'⟩
  rw [scan_items sp.coinId hr.conds_parse hr.conds_list, spendAdds, hr.createCoin_eq]

theorem addRemLoop_of_trace (puz : Nat → RunRes) : ∀ (news : List Spend) (t : Sexp) (i m M : Nat),
    Trace puz t i m news → t.AllBytes → m ≤ M →
    addRemLoop puz t i M = some (news.flatMap spendAdds, news.map rem) := by
  intro news
  induction news with
  | nil =>
    intro t i m M h _ _
    simp only [Trace] at h
    subst h; rfl
  | cons sp rest ih =>
    intro t i m M h hab hm
    obtain ⟨spend, nxt, puzzle, ab, sol, r, c, conds, m2, rfl, h5, hl, hv, hph, hid, hp, hc, hm2, hscan, htr⟩ := h
    simp only [Sexp.AllBytes] at hab
    obtain ⟨_, hbb⟩ := extract5_allBytes h5 hab.1
    obtain ⟨hcanon, hlt⟩ := C11.sanitizeUint_u64 hbb hv
    have hidv : sha256 (sp.parentId ++ Sexp.treeHash puzzle ++ Gen.coinIdAmount sp.coinAmount) = sp.coinId := by
      rw [hid, C11.coinIdAmount_canon _ hlt, ← hcanon, hph]; rfl
    have ih' := ih nxt (i + 1) m2 (M - c) htr hab.2 (by omega)
    simp only [addRemLoop, h5]
    rw [if_neg (by omega), hv]
    simp only [hp]
    rw [if_neg (by omega), hidv, hscan, ih']
    simp only [List.flatMap_cons, List.map_cons, rem, hph]

theorem go_of_trace (puz : Nat → RunRes) : ∀ (news : List Spend) (t : Sexp) (i m : Nat),
    Trace puz t i m news → ∀ sp ∈ news, ∃ pz sl, getPuzzleAndSolution.go sp.parentId sp.puzzleHash sp.coinAmount t = some (pz, sl) ∧
      Sexp.treeHash pz = sp.puzzleHash := by
  intro news
  induction news with
  | nil => intro t i m _ sp hsp; cases hsp
  | cons sp0 rest ih =>
    intro t i m h sp hsp
    obtain ⟨spend, nxt, puzzle, ab, sol, r, c, conds, m2, rfl, h5, hl, hv, hph, hid, hp, hc, hm2, hscan, htr⟩ := h
    obtain rfl := extract5_some h5
    simp only [getPuzzleAndSolution.go, hv]
    by_cases hcond : sp0.parentId = sp.parentId ∧ sp0.coinAmount = sp.coinAmount ∧ Sexp.treeHash puzzle = sp.puzzleHash
    · rw [if_pos hcond]
      exact ⟨puzzle, sol, rfl, hcond.2.2⟩
    · rw [if_neg hcond]
      rcases List.mem_cons.mp hsp with rfl | hin
      · exact absurd ⟨rfl, rfl, hph.symm⟩ hcond
      · exact ih nxt (i + 1) m2 htr sp hin

end ChiaModel.Gn
