import ChiaModel.Model.Mempool
import ChiaModel.Lemmas.Strict
import ChiaModel.Lemmas.Ints
import ChiaModel.Lemmas.CondLoop
import ChiaModel.Lemmas.ArgGrammar
/-
C19: the fingerprint byte stream determines the parsed conditions.  The stream encodes a list of items (`fpStream_items`);
an item is the opcode atom and as many argument atoms as the opcode hashes (`condItem_some`), so the list can be read back
from the stream (`encItems_inj`), and an item determines the condition it was taken from (`condOfItem_eq`).  What
`parse_args` reads of an argument list is taken from the argument table (`Grammar.parseArgs_eq_spec`): the opcodes hashed
with one argument have one required argument and nothing after it, CREATE_COIN has two and the memos.
-/
namespace ChiaModel.Mp
open ChiaModel ChiaModel.Cond

/-- every atom of the tree is shorter than 2^32 bytes (a clvmr `Allocator` cannot hold a longer one:
its heap is indexed by `u32`) -/
def AtomsShort : Sexp → Prop
  | .atom b => b.length < 4294967296
  | .pair l r => AtomsShort l ∧ AtomsShort r

theorem lp32_inj {a a' r r' : Bytes} (ha : a.length < 4294967296) (ha' : a'.length < 4294967296)
    (h : lp32 a ++ r = lp32 a' ++ r') : a = a' ∧ r = r' := by
  simp only [lp32, List.append_assoc] at h
  obtain ⟨h1, h2⟩ := List.append_inj h (by rw [be_length, be_length])
  have e : a.length = a'.length := by
    have b1 := beVal_be 4 (a.length % 4294967296) (by omega)
    have b2 := beVal_be 4 (a'.length % 4294967296) (by omega)
    rw [h1] at b1
    rw [b1] at b2
    omega
  exact List.append_inj h2 e

theorem encAtoms_inj : ∀ (l l' : List Bytes) (r r' : Bytes), l.length = l'.length →
    (∀ a ∈ l, a.length < 4294967296) → (∀ a ∈ l', a.length < 4294967296) →
    encAtoms l ++ r = encAtoms l' ++ r' → l = l' ∧ r = r' := by
  intro l
  induction l with
  | nil =>
    intro l' r r' hl _ _ h
    cases l' with
    | nil => simpa [encAtoms] using h
    | cons _ _ => simp at hl
  | cons a tl ih =>
    intro l' r r' hl hs hs' h
    cases l' with
    | nil => simp at hl
    | cons a' tl' =>
      simp only [encAtoms, List.append_assoc] at h
      obtain ⟨e1, e2⟩ := lp32_inj (hs a (by simp)) (hs' a' (by simp)) h
      obtain ⟨e3, e4⟩ := ih tl' r r' (by simpa using hl) (fun x hx => hs x (by simp [hx])) (fun x hx => hs' x (by simp [hx])) e2
      exact ⟨by rw [e1, e3], e4⟩

def atomList (l : List Bytes) (r : Sexp) : Sexp := l.foldr (fun b t => .pair (.atom b) t) r

theorem takeAtoms_some {n : Nat} {c : Sexp} {l : List Bytes} {r : Sexp} :
    takeAtoms c n = some (l, r) → c = atomList l r ∧ l.length = n := by
  fun_induction takeAtoms c n generalizing l r with
  | case1 => intro h; cases h; exact ⟨rfl, rfl⟩   -- no atom to take
  | case2 b next n l' r' ht ih =>
    -- an atom in front, and the rest yields `l'`
    intro h; cases h
    obtain ⟨rfl, rfl⟩ := ih ht
    exact ⟨rfl, rfl⟩
  | _ => intro h; cases h

theorem atomsShort_atomList {l : List Bytes} {r : Sexp} (h : AtomsShort (atomList l r)) : ∀ a ∈ l, a.length < 4294967296 := by
  induction l with
  | nil => simp
  | cons b l ih =>
    have h' : AtomsShort (.atom b) ∧ AtomsShort (atomList l r) := h
    exact List.forall_mem_cons.mpr ⟨h'.1, ih h'.2⟩

/-- the number of argument atoms `compute_puzzle_fingerprint` hashes for an opcode (CREATE_COIN: and the hint);
`none` = it refuses the opcode -/
def hashedArgs (op : Nat) : Option Nat :=
  if op = Gen.opCreateCoin then some 2 else if oneArgOps.contains op then some 1
  else if op = Gen.opAssertEphemeral ∨ op = Gen.opRemark then some 0 else none

/-- what the three hashing arms of `condItem` share -/
theorem condItem_taken {c opn : Sexp} {op k : Nat} {l : List Bytes} {r : Sexp} (hf : first c = .ok opn)
    (ho : parseOpcode opn = some op) (hk : hashedArgs op = some k) (ht : takeAtoms c (k + 1) = some (l, r)) :
    ∃ ob as, c = atomList (ob :: as) r ∧ parseOpcode (.atom ob) = some op ∧ hashedArgs op = some as.length ∧ l = ob :: as := by
  obtain ⟨rfl, hl⟩ := takeAtoms_some ht
  cases l with
  | nil => cases hl
  | cons ob as => cases hf; exact ⟨ob, as, rfl, ho, by rw [hk, ← Nat.succ.inj hl], rfl⟩

theorem condItem_some {c : Sexp} {it : Option (List Bytes)} : condItem c = some it →
    match it with
    | none => ∃ opn, first c = .ok opn ∧ parseOpcode opn = none
    | some l => ∃ ob as r op, c = atomList (ob :: as) r ∧ parseOpcode (.atom ob) = some op ∧
        hashedArgs op = some as.length ∧ l = ob :: as ++ (if op = Gen.opCreateCoin then [hintAtom r] else []) := by
  fun_cases condItem c with
  | case2 opn hf ho => intro h; cases h; exact ⟨opn, hf, ho⟩   -- an unknown opcode is skipped
  | case3 opn hf l r ht ho =>
    -- CREATE_COIN
    intro h; cases h
    obtain ⟨ob, as, e, ho', hk, rfl⟩ := condItem_taken hf ho (k := 2) rfl ht
    exact ⟨ob, as, r, _, e, ho', hk, rfl⟩
  | case5 opn hf op ho hcc h1 l r ht =>
    -- one hashed argument
    intro h; cases h
    obtain ⟨ob, as, e, ho', hk, rfl⟩ := condItem_taken hf ho (k := 1) (by rw [hashedArgs, if_neg hcc, if_pos h1]) ht
    exact ⟨ob, as, r, op, e, ho', hk, by simp [hcc]⟩
  | case7 opn hf op ho hcc h1 h0 l r ht =>
    -- ASSERT_EPHEMERAL, REMARK: the opcode alone
    intro h; cases h
    obtain ⟨ob, as, e, ho', hk, rfl⟩ := condItem_taken hf ho (k := 0) (by rw [hashedArgs, if_neg hcc, if_neg h1, if_pos h0]) ht
    exact ⟨ob, as, r, op, e, ho', hk, by simp [hcc]⟩
  | _ => intro h; cases h

theorem condItem_shape {c : Sexp} {l : List Bytes} (h : condItem c = some (some l)) :
    ∃ ob as r op, c = atomList (ob :: as) r ∧ parseOpcode (.atom ob) = some op ∧
      hashedArgs op = some as.length ∧ l = ob :: as ++ (if op = Gen.opCreateCoin then [hintAtom r] else []) :=
  condItem_some h

theorem condItem_skip {c : Sexp} (h : condItem c = some none) : ∃ opn, first c = .ok opn ∧ parseOpcode opn = none :=
  condItem_some h

/-! ## the parsed condition is a function of the hashed atoms -/

theorem argsStricter_zero (f : Nat) : ArgsStricter f 0 :=
  ⟨by simp [strict, hasFlag], by simp [hasFlag]⟩

theorem parseArgs_to_zero {c : Sexp} {op f : Nat} {v : Cond} (h : parseArgs c op f = .ok v) : parseArgs c op 0 = .ok v :=
  (parseArgs_mono (argsStricter_zero f) c op).imp v h

def hintOf (h : Bytes) : Option Bytes := if h.isEmpty then none else some h

section table
open ChiaModel.Grammar

theorem hasFlag_zero (f : Nat) : hasFlag 0 f = false := by simp [hasFlag]

theorem terminatorOk_zero (e : Option Sexp) : terminatorOk 0 e = true := by
  cases e <;> simp [terminatorOk, hasFlag_zero]

theorem interp_one_exact (k : ArgKind) (bld : List Val → Option Cond) (a t t' : Sexp) :
    interp [k] .exact bld (.pair a t) 0 = interp [k] .exact bld (.pair a t') 0 := by
  simp only [interp, walk]
  cases argValue k a <;> simp only [tailRule, terminatorOk_zero, if_true]

theorem oneArgOps_grammar :
    oneArgOps.all (fun op => match grammar op with | some ([_], .exact) => true | _ => false) = true := by
  decide +kernel

theorem parseArgs_tail0 (op : Nat) (hop : oneArgOps.contains op = true) (a : Bytes) (t t' : Sexp) :
    parseArgs (.pair (.atom a) t) op 0 = parseArgs (.pair (.atom a) t') op 0 := by
  have hg := List.all_eq_true.mp oneArgOps_grammar op (List.contains_iff_mem.mp hop)
  rw [parseArgs_eq_spec, parseArgs_eq_spec]
  unfold specParseArgs
  split at hg
  · rename_i k e
    rw [e]
    simp only [hasFlag_zero, Bool.and_false, Bool.false_eq_true, if_false]
    exact interp_one_exact k _ _ t t'
  · cases hg

/-- the hint the table takes from what follows the amount is the hashed hint atom (empty = no hint) -/
theorem memos_hint (vals : List Val) (r : Sexp) :
    ∃ e, tailRule .memos vals r = some ([.hint (hintOf (hintAtom r))], e) := by
  rcases r with x | ⟨x | ⟨h | ⟨_, _⟩, _⟩, rr⟩ <;> try exact ⟨_, rfl⟩
  refine ⟨some rr, ?_⟩
  simp only [tailRule, memoHint, hintAtom, hintOf]
  cases h with
  | nil => rfl
  | cons y t => by_cases hl : t.length ≤ 31 <;> simp [hl]

theorem interp_memos_tail0 (k1 k2 : ArgKind) (bld : List Val → Option Cond) (a b r r' : Sexp)
    (h : hintAtom r = hintAtom r') :
    interp [k1, k2] .memos bld (.pair a (.pair b r)) 0 = interp [k1, k2] .memos bld (.pair a (.pair b r')) 0 := by
  simp only [interp, walk]
  cases argValue k1 a <;> cases argValue k2 b <;> try rfl
  rename_i v1 v2
  obtain ⟨e, he⟩ := memos_hint [v1, v2] r
  obtain ⟨e', he'⟩ := memos_hint [v1, v2] r'
  simp only [he, he', h, terminatorOk_zero]

theorem parseArgs_createCoin_tail0 (a b r r' : Sexp) (h : hintAtom r = hintAtom r') :
    parseArgs (.pair a (.pair b r)) Gen.opCreateCoin 0 = parseArgs (.pair a (.pair b r')) Gen.opCreateCoin 0 := by
  rw [parseArgs_eq_spec, parseArgs_eq_spec]
  exact interp_memos_tail0 _ _ _ a b r r' h

theorem parseArgs_noArg {c : Sexp} {op f : Nat} {cva : Cond} (h0 : op = Gen.opAssertEphemeral ∨ op = Gen.opRemark)
    (h : parseArgs c op f = .ok cva) : cva = (if op = Gen.opAssertEphemeral then Cond.assertEphemeral else Cond.skip) := by
  rw [parseArgs_eq_spec] at h
  obtain ⟨vs, hb⟩ := specParseArgs_ok h
  rcases h0 with e | e <;> subst e <;> exact noArgs_some hb

end table

theorem hintAtom_short (r : Sexp) : (hintAtom r).length ≤ 32 := by
  unfold hintAtom
  split
  · split <;> simp_all
  · simp

/-- the argument list an item stands for: the atoms hashed after the opcode and nothing else; for CREATE_COIN
the hint atom sits where `hintAtom` looks for it -/
def itemArgs : List Bytes → Sexp
  | [ph, amt, hint] => .pair (.atom ph) (.pair (.atom amt) (.pair (.pair (.atom hint) (.atom [])) (.atom [])))
  | [a] => .pair (.atom a) (.atom [])
  | _ => .atom []

theorem hintAtom_itemArgs (r x y : Sexp) : hintAtom (.pair (.pair (.atom (hintAtom r)) x) y) = hintAtom r :=
  if_pos (hintAtom_short r)

/-- the condition an item stands for: the parse, under no flags, of its own argument list -/
def condOfItem : List Bytes → Option Cond
  | ob :: as => (parseOpcode (.atom ob)).bind fun op => (parseArgs (itemArgs as) op 0).toOption
  | [] => none

/-- A condition that parses is the one its hashed item stands for.  `condItem` hashes the opcode and the leading argument
atoms and drops what follows them; by `parseArgs_to_zero` an accepted parse is the parse under no flags, and by the tail
lemmas (`parseArgs_createCoin_tail0`, `parseArgs_tail0`, `parseArgs_noArg`) that does not look at what was dropped. -/
theorem condOfItem_eq {flags : Nat} {ob : Bytes} {as : List Bytes} {r : Sexp} {op : Nat} {v : Cond}
    (hop : parseOpcode (.atom ob) = some op) (hk : hashedArgs op = some as.length)
    (hp : parseArgs (atomList as r) op flags = .ok v) :
    condOfItem (ob :: as ++ if op = Gen.opCreateCoin then [hintAtom r] else []) = some v := by
  suffices h : parseArgs (itemArgs (as ++ if op = Gen.opCreateCoin then [hintAtom r] else [])) op 0 = .ok v by
    show (parseOpcode (.atom ob)).bind _ = _
    rw [hop]; exact congrArg Except.toOption h
  have hp0 := parseArgs_to_zero hp
  revert hk
  fun_cases hashedArgs op with
  | case1 hcc =>
    -- CREATE_COIN: two arguments and the hint
    intro hk; subst hcc
    obtain _ | ⟨ph, _ | ⟨amt, _ | _⟩⟩ := as <;> cases hk
    exact (parseArgs_createCoin_tail0 _ _ _ r (hintAtom_itemArgs r _ _)).trans hp0
  | case2 hcc h1 =>
    -- one argument
    intro hk; rw [if_neg hcc, List.append_nil]
    obtain _ | ⟨a, _ | _⟩ := as <;> cases hk
    exact (parseArgs_tail0 _ h1 a _ r).trans hp0
  | case3 hcc _ h0 =>
    -- ASSERT_EPHEMERAL, REMARK: none
    intro hk; rw [if_neg hcc, List.append_nil]
    obtain _ | _ := as <;> cases hk
    rw [parseArgs_noArg h0 hp]
    rcases h0 with rfl | rfl <;> rfl
  | case4 => intro hk; cases hk

/-! ## the stream as an encoding of the item list -/

def encItems : List (List Bytes) → Bytes
  | [] => []
  | l :: r => encAtoms l ++ encItems r

/-- number of atoms hashed after the opcode atom `o` -/
def itemArity (o : Bytes) : Nat :=
  match parseOpcode (.atom o) with
  | some op => (hashedArgs op).getD 0 + (if op = Gen.opCreateCoin then 1 else 0)
  | none => 0

def ItemWF (l : List Bytes) : Prop :=
  (∃ o args, l = o :: args ∧ args.length = itemArity o) ∧ ∀ a ∈ l, a.length < 4294967296

theorem condItem_wf {c : Sexp} {l : List Bytes} (h : condItem c = some (some l)) (hs : AtomsShort c) : ItemWF l := by
  obtain ⟨ob, as, r, op, rfl, hop, hk, rfl⟩ := condItem_shape h
  refine ⟨⟨ob, _, rfl, by simp only [itemArity, hop, hk]; split <;> simp⟩, fun a ha => ?_⟩
  rcases List.mem_append.mp (show a ∈ (ob :: as) ++ _ from ha) with ha | ha
  · exact atomsShort_atomList hs a ha
  · split at ha
    · rw [List.mem_singleton.mp ha]; have := hintAtom_short r; omega
    · cases ha

theorem lp32_ne_nil (a : Bytes) (r : Bytes) : lp32 a ++ r ≠ [] := by
  intro h
  have := congrArg List.length h
  simp [lp32, be_length] at this

theorem encItems_inj : ∀ (ls ls' : List (List Bytes)), (∀ l ∈ ls, ItemWF l) → (∀ l ∈ ls', ItemWF l) →
    encItems ls = encItems ls' → ls = ls' := by
  intro ls
  induction ls with
  | nil =>
    intro ls' _ hw' h
    cases ls' with
    | nil => rfl
    | cons l' tl' =>
      obtain ⟨⟨o, args, e, _⟩, _⟩ := hw' l' (by simp)
      subst e
      simp only [encItems, encAtoms, List.append_assoc] at h
      exact absurd h.symm (lp32_ne_nil _ _)
  | cons l tl ih =>
    intro ls' hw hw' h
    cases ls' with
    | nil =>
      obtain ⟨⟨o, args, e, _⟩, _⟩ := hw l (by simp)
      subst e
      simp only [encItems, encAtoms, List.append_assoc] at h
      exact absurd h (lp32_ne_nil _ _)
    | cons l' tl' =>
      obtain ⟨⟨o, args, e, ha⟩, hs⟩ := hw l (by simp)
      obtain ⟨⟨o', args', e', ha'⟩, hs'⟩ := hw' l' (by simp)
      subst e; subst e'
      simp only [encItems, encAtoms, List.append_assoc] at h
      obtain ⟨e1, e2⟩ := lp32_inj (hs o (by simp)) (hs' o' (by simp)) h
      subst e1
      obtain ⟨e3, e4⟩ := encAtoms_inj args args' _ _ (by rw [ha, ha'])
        (fun x hx => hs x (by simp [hx])) (fun x hx => hs' x (by simp [hx])) e2
      subst e3
      rw [ih tl' (fun x hx => hw x (by simp [hx])) (fun x hx => hw' x (by simp [hx])) e4]

/-- every condition with a recognised opcode parses (what `parse_conditions` requires of a list it accepts) -/
def ParsesAll (flags : Nat) : Sexp → Prop
  | .pair c nxt =>
    (∀ opn op args, first c = .ok opn → parseOpcode opn = some op → rest c = .ok args →
      ∃ cva, parseArgs args op flags = .ok cva) ∧ ParsesAll flags nxt
  | .atom _ => True

theorem fpStream_items (flags : Nat) : ∀ (t : Sexp) (s : Bytes), fpStream t = some s → ∃ ls, s = encItems ls ∧
    (AtomsShort t → ∀ l ∈ ls, ItemWF l) ∧
    (ParsesAll flags t → TL.parsedConds flags t = ls.filterMap condOfItem) := by
  intro t s
  fun_induction fpStream t generalizing s with
  | case3 c nxt it hc s' hn ih =>
    -- the condition yields `it`, the rest of the list `s'`
    intro h; cases h
    obtain ⟨ls, rfl, hw, hq⟩ := ih s' hn
    cases it with
    | none =>
      obtain ⟨opn, hf, ho⟩ := condItem_skip hc
      exact ⟨ls, rfl, fun hs => hw hs.2, fun hp => by rw [parsedConds_cons_none hf ho]; exact hq hp.2⟩
    | some l =>
      refine ⟨l :: ls, rfl, fun hs => List.forall_mem_cons.mpr ⟨condItem_wf hc hs.1, hw hs.2⟩, fun hp => ?_⟩
      obtain ⟨ob, as, r, op, rfl, ho, hk, rfl⟩ := condItem_shape hc
      obtain ⟨cva, hpa⟩ := hp.1 _ op _ rfl ho rfl
      rw [parsedConds_cons_some rfl ho rfl hpa, List.filterMap_cons_some (condOfItem_eq ho hk hpa), hq hp.2]
  | case4 b => intro h; cases h; exact ⟨[], rfl, fun _ _ hl => (nomatch hl), fun _ => rfl⟩   -- the list ends
  | _ => intro h; cases h

theorem condLoop_parsesAll (env : Env) : ∀ (t : Sexp) (s : CSt) (m : Nat) (r : CSt × Nat),
    condLoop env t s m = .ok r → ParsesAll env.flags t := by
  intro t
  induction t with
  | atom b => intro s m r _; simp [ParsesAll]
  | pair c nxt _ ih =>
    intro s m r h
    simp only [condLoop] at h
    obtain ⟨⟨s1, m1⟩, hs, h⟩ := bind_ok h
    refine ⟨?_, ih s1 m1 r h⟩
    intro opn op args hf ho hr
    obtain ⟨it, hit, -⟩ := (stepCond_iff env s m c s1 m1).mp hs
    simp only [parseItem, hf, ho, hr, ok_bind] at hit
    obtain ⟨cva, hpa, -⟩ := bind_ok hit
    exact ⟨cva, hpa⟩

end ChiaModel.Mp
