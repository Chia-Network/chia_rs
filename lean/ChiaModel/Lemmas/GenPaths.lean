import ChiaModel.Model.Generator
import ChiaModel.Lemmas.CostNative
import ChiaModel.Lemmas.ExecCost
/-
The spend loop of the native path (`nativeLoop` on the generator's spend list) against the spend
loop of `parse_spends` on the list the generator ROM builds from it (`romRecurse`): same verdict,
same parser state, bundles equal up to execution-cost bookkeeping; the native countdown pays the
puzzle costs in addition.
-/
namespace ChiaModel.Gn
open ChiaModel ChiaModel.Cond

def puzCostSum (puz : Nat → RunRes) : Sexp → Nat → Nat
  | .pair _ nxt, i => (match puz i with | some (c, _) => c | none => 0) + puzCostSum puz nxt (i + 1)
  | .atom _, _ => 0

theorem extract5_extract3 {sp a b c d r : Sexp} (h : extract5 sp = some (a, b, c, d, r)) : extract3ok sp = true := by
  rw [extract5_some h]; rfl

theorem romRecurse_pair {puz : Nat → RunRes} {sp nxt : Sexp} {i : Nat} {l : Sexp}
    (h : romRecurse puz (.pair sp nxt) i = some l) :
    ∃ parent puzzle amount sol args c conds tail,
      extract5 sp = some (parent, puzzle, amount, sol, args) ∧ puz i = some (c, conds) ∧
      romRecurse puz nxt (i + 1) = some tail ∧
      l = .pair (.pair parent (.pair (.atom (Sexp.treeHash puzzle)) (.pair amount (.pair conds args)))) tail := by
  generalize ht : Sexp.pair sp nxt = t at h
  revert h
  fun_cases romRecurse puz t i with
  | case4 _ _ _ a b c d r h5 c0 conds hp tail hr =>
    -- the arm that returns a list: the tuple splits, the puzzle runs, the tail is built
    intro h; cases ht; cases h
    exact ⟨a, b, c, d, r, c0, conds, tail, h5, hp, hr, rfl⟩
  | case5 => cases ht   -- the terminator
  | _ => intro h; cases h

/-- the ROM destructures every spend, so a list it accepts passes the native path's `extract_n::<3>` pre-scan -/
theorem romRecurse_allExtract3 (puz : Nat → RunRes) : ∀ (t : Sexp) (i : Nat) (l : Sexp),
    romRecurse puz t i = some l → allExtract3 t = true := by
  intro t
  induction t with
  | atom b => intro i l _; rfl
  | pair sp nxt _ ih =>
    intro i l h
    obtain ⟨_, _, _, _, _, _, _, tail, h5, _, hr, _⟩ := romRecurse_pair h
    simp only [allExtract3, extract5_extract3 h5, ih (i + 1) tail hr, Bool.and_self]

theorem parseSingleSpend_tuple (a b c d r : Sexp) :
    parseSingleSpend (.pair a (.pair b (.pair c (.pair d r)))) = .ok (a, b, c, d) := rfl

theorem execRel_setExec {retL retN : Bundle} (h : ExecRel retL retN) (x : Nat) :
    ExecRel retL { retN with executionCost := x } := by
  obtain ⟨h1, h2⟩ := h
  refine ⟨h1, ?_⟩
  simp only
  exact h2

theorem nativeLoop_of_spendLoop (env : Env) (puz : Nat → RunRes) : ∀ (t : Sexp) (i : Nat) (l : Sexp),
    romRecurse puz t i = some l →
    ∀ (retL retN : Bundle) (st : PState) (n mL : Nat) (retL' : Bundle) (st' : PState) (mL' : Nat),
      spendLoop env 0 l retL st n mL = .ok ((retL', st'), mL') → ExecRel retN retL →
      ∃ retN', nativeLoop env puz t i retN st n (mL + puzCostSum puz t i) = .ok ((retN', st'), mL') ∧
        ExecRel retN' retL' ∧ retN'.executionCost = retN.executionCost + puzCostSum puz t i := by
  intro t
  induction t with
  | atom b =>
    intro i l hr retL retN st n mL retL' st' mL' hs hrel
    cases b with
    | cons x xs => cases hr
    | nil =>
      injection hr with hr; subst hr
      injection hs with hs; injection hs with hs1 hs2; injection hs1 with hs1 hs3
      subst hs1; subst hs2; subst hs3
      exact ⟨retN, rfl, hrel, rfl⟩
  | pair sp nxt _ ih =>
    intro i l hr retL retN st n mL retL' st' mL' hs hrel
    obtain ⟨parent, puzzle, amount, sol, args, c, conds, tail, h5, hp, hrt, rfl⟩ := romRecurse_pair hr
    simp only [spendLoop] at hs
    obtain ⟨hn, hs⟩ := ite_error_ok.mp hs
    rw [parseSingleSpend_tuple] at hs
    obtain ⟨⟨⟨r1, s1⟩, m1⟩, hps, hs⟩ := bind_ok hs
    have hsum : puzCostSum puz (.pair sp nxt) i = c + puzCostSum puz nxt (i + 1) := by
      simp only [puzCostSum, hp]
    obtain ⟨r1N, hpsN, hrel1, hex1⟩ := processSingleSpend_execRel c (execRel_setExec hrel.symm _).symm hps
    have hup := (isCountdown_processSingleSpend ..).shiftUp _ _ _ hpsN (puzCostSum puz nxt (i + 1))
    obtain ⟨retN', hN, hrelN, hexN⟩ := ih (i + 1) tail hrt r1 r1N s1 (n - 1) m1 retL' st' mL' hs hrel1
    refine ⟨retN', ?_, hrelN, by rw [hexN, hex1, hsum]; exact Nat.add_assoc ..⟩
    rw [nativeLoop_pair, if_neg hn, h5, hsum]
    simp only
    rw [spendStep_ok_iff.mpr ⟨rfl, c, conds, hp, by omega, by
      rw [show mL + (c + puzCostSum puz nxt (i + 1)) - c = mL + puzCostSum puz nxt (i + 1) by omega]; exact hup⟩]
    exact hN

theorem spendLoop_of_nativeLoop {env : Env} {puz : Nat → RunRes} {t : Sexp} {i : Nat} {l : Sexp} {retN retL : Bundle}
    {st : PState} {n mN : Nat} {retN' : Bundle} {st' : PState} {mN' : Nat} (hr : romRecurse puz t i = some l)
    (hs : nativeLoop env puz t i retN st n mN = .ok ((retN', st'), mN')) (hrel : ExecRel retL retN) :
    puzCostSum puz t i ≤ mN ∧
    ∃ retL', spendLoop env 0 l retL st n (mN - puzCostSum puz t i) = .ok ((retL', st'), mN') ∧ ExecRel retL' retN' := by
  refine nativeLoop_induct (P := fun t i retN st n mN => ∀ l retL, romRecurse puz t i = some l → ExecRel retL retN →
    puzCostSum puz t i ≤ mN ∧
    ∃ retL', spendLoop env 0 l retL st n (mN - puzCostSum puz t i) = .ok ((retL', st'), mN') ∧ ExecRel retL' retN')
    ?_ ?_ t i retN st n mN hs l retL hr hrel
  · intro i n l retL hr hrel
    injection hr with hr; subst hr
    exact ⟨Nat.zero_le _, retL, rfl, hrel⟩
  · intro sp nxt i retN st n mN parent puzzle amount sol ext r1N s1 m2 hn h5 hs ih l retL hr hrel
    obtain ⟨parent', puzzle', amount', sol', args, c, conds, tail, h5', hp, hrt, rfl⟩ := romRecurse_pair hr
    rw [h5] at h5'
    injection h5' with h5'; injection h5' with e1 h5'; injection h5' with e2 h5'; injection h5' with e3 h5'
    subst e1; subst e2; subst e3
    have hsum : puzCostSum puz (.pair sp nxt) i = c + puzCostSum puz nxt (i + 1) := by
      simp only [puzCostSum, hp]
    obtain ⟨_, c', conds', hp', hc, hps⟩ := spendStep_ok_iff.mp hs
    rw [hp] at hp'
    injection hp' with hp'; injection hp' with e1 e2
    subst e1; subst e2
    obtain ⟨r1L, hpsL, hrel1, _⟩ := processSingleSpend_execRel (ret' := retL) 0 (execRel_setExec hrel _) hps
    obtain ⟨hle, retL', hL, hrelL⟩ := ih tail r1L hrt hrel1
    obtain ⟨hm2, hdown, _⟩ := (isCountdown_processSingleSpend ..).shift _ _ _ hpsL
    refine ⟨by omega, retL', ?_, hrelL⟩
    simp only [spendLoop]
    rw [if_neg hn, parseSingleSpend_tuple,
      show mN - puzCostSum puz (.pair sp nxt) i = mN - c - puzCostSum puz nxt (i + 1) by omega]
    simp only [hdown _ hle]
    exact hL

/-- `validOk` reads of the spends only the four fields `isEphemeral` reads: two bundles whose spends agree under a map
that keeps those fields, and that agree in every other field but `executionCost`, get the same verdict -/
theorem validOk_map (st : PState) (f : Spend → Spend)
    (hf : ∀ sp, (f sp).parentId = sp.parentId ∧ (f sp).puzzleHash = sp.puzzleHash ∧ (f sp).coinAmount = sp.coinAmount ∧
      (f sp).createCoin = sp.createCoin) {a b : Bundle} (hs : a.spends.map f = b.spends.map f)
    (h : a = { b with executionCost := a.executionCost, spends := a.spends }) : validOk a st = validOk b st := by
  have he : ∀ i, isEphemeral st a.spends i = isEphemeral st b.spends i := fun i => by
    rw [← isEphemeral_map st f hf a.spends, ← isEphemeral_map st f hf b.spends, hs]
  rw [h]
  simp only [validOk, he]

theorem validOk_execRel {a b : Bundle} (h : ExecRel a b) (st : PState) : validOk a st = validOk b st :=
  validOk_map st eraseExec (fun _ => ⟨rfl, rfl, rfl, rfl⟩) h.1 h.2

/-- the block paths use the empty visitor: `postProcess` is the identity -/
theorem postProcess_block (env : Env) (hm : env.mempool = false) (ret : Bundle) (st : PState) :
    postProcess env ret st = ret := by
  unfold postProcess; simp [hm]

theorem finishBundle_block {env : Env} (hm : env.mempool = false) (sigOk : List (Bytes × Bytes) → Bool) (ret : Bundle)
    (st : PState) :
    finishBundle env sigOk ret st =
      if validOk ret st = true ∧ (hasFlag env.flags Gen.flagDontValidateSignature = true ∨ sigOk st.pkmPairs = true)
      then .ok { ret with validatedSignature := !hasFlag env.flags Gen.flagDontValidateSignature } else .error .reject := by
  unfold finishBundle
  simp only [postProcess_block env hm, validateConditions]
  by_cases hv : validOk ret st = true
  · simp only [hv, if_true, true_and]
    cases hasFlag env.flags Gen.flagDontValidateSignature <;> cases sigOk st.pkmPairs <;> simp
  · simp only [hv, Bool.false_eq_true, if_false, false_and]

theorem finishBundle_block_ok {env : Env} (hm : env.mempool = false) {sigOk : List (Bytes × Bytes) → Bool}
    {ret : Bundle} {st : PState} {b : Bundle} (h : finishBundle env sigOk ret st = .ok b) :
    validOk ret st = true ∧ (hasFlag env.flags Gen.flagDontValidateSignature = true ∨ sigOk st.pkmPairs = true) ∧
    b = { ret with validatedSignature := !hasFlag env.flags Gen.flagDontValidateSignature } := by
  rw [finishBundle_block hm] at h
  split at h
  · rename_i hc
    injection h with h
    exact ⟨hc.1, hc.2, h.symm⟩
  · cases h

theorem finishBundle_execRel {env : Env} (hm : env.mempool = false) (sigOk : List (Bytes × Bytes) → Bool)
    {a b : Bundle} (h : ExecRel a b) (st : PState) {b' : Bundle} (hb : finishBundle env sigOk b st = .ok b') :
    ∃ a', finishBundle env sigOk a st = .ok a' ∧ ExecRel a' b' ∧ a'.executionCost = a.executionCost := by
  obtain ⟨hv, hs, rfl⟩ := finishBundle_block_ok hm hb
  rw [finishBundle_block hm, if_pos ⟨by rw [validOk_execRel h st]; exact hv, hs⟩]
  obtain ⟨h1, h2⟩ := h
  refine ⟨_, rfl, ⟨h1, ?_⟩, rfl⟩
  simp only
  rw [h2]

theorem romModel_ok {genRun : RunRes} {puz : Nat → RunRes} {out : Sexp} (h : romModel genRun puz = some out) :
    ∃ gc coinSpends args l, genRun = some (gc, .pair coinSpends args) ∧ romRecurse puz coinSpends 0 = some l ∧
      out = .pair l args := by
  revert h
  fun_cases romModel genRun puz with
  | case2 gc cs args =>
    -- the generator returned a pair: the ROM recurses over its first component
    intro h
    cases hr : romRecurse puz cs 0 with
    | none => rw [hr] at h; cases h
    | some l => rw [hr] at h; cases h; exact ⟨gc, cs, args, l, rfl, hr, rfl⟩
  | _ => intro h; cases h

end ChiaModel.Gn
