import ChiaModel.Lemmas.CondNF
import ChiaModel.Spec.BundleRules
/-
The mempool visitor's four hooks (`new_spend`, `condition`, `post_spend`, `post_process`) only write a spend's flags, and
after `new_spend` they only clear the two eligibility bits: each is `clr` of a pair of Booleans (`newSpendVisit_eq`,
`visitCondition_eq`, `postSpend_eq`, `postProcess_eq`).  `clr` commutes with itself and with the HAS_RELATIVE_CONDITION bit
that the condition loop sets (`clr_clr`, `markFlags_clr`), so what a run clears is the disjunction of what its steps clear.
What the `condition` hook clears over a list of items is `allBits`: its DEDUP component does not depend on positions, its FF
component only through ASSERT_MY_PARENT_ID (`allBits_fst`, `allBits_snd`), and each is cleared by the conditions that
Appendix A.3 lists (`bitsOf_fst_iff`, `allBits_snd_iff`).
-/
namespace ChiaModel.Cond

theorem clr_and_two (b : Bool × Bool) (f : Nat) : clr b f &&& HAS_RELATIVE_CONDITION = f &&& HAS_RELATIVE_CONDITION := by
  obtain ⟨b1, b2⟩ := b
  cases b1 <;> cases b2 <;> simp only [clr, if_true, if_false, Bool.false_eq_true, clearFlag_dedup_and2, clearFlag_ff_and2]

theorem clr_add_two (b : Bool × Bool) (f : Nat) (h : f &&& HAS_RELATIVE_CONDITION = 0) :
    clr b (f + HAS_RELATIVE_CONDITION) = clr b f + HAS_RELATIVE_CONDITION := by
  obtain ⟨b1, b2⟩ := b
  have h' : clearFlag f ELIGIBLE_FOR_DEDUP &&& HAS_RELATIVE_CONDITION = 0 := by rw [clearFlag_dedup_and2]; exact h
  cases b1 <;> cases b2 <;>
    simp only [clr, if_true, if_false, Bool.false_eq_true, clearDedup_add2, clearFF_add2 _ h, clearFF_add2 _ h']

theorem clr_clr (b c : Bool × Bool) (f : Nat) : clr c (clr b f) = clr (b.1 || c.1, b.2 || c.2) f := by
  obtain ⟨b1, b2⟩ := b
  obtain ⟨c1, c2⟩ := c
  cases b1 <;> cases b2 <;> cases c1 <;> cases c2 <;>
    simp only [clr, if_true, if_false, Bool.false_eq_true, Bool.or_self, Bool.or_true, Bool.or_false,
      clearFlag_comm, clearDedup_idem, clearFF_idem]

theorem markFlags_clr (b : Bool × Bool) (f : Nat) : markFlags (clr b f) = clr b (markFlags f) := by
  unfold markFlags
  rw [clr_and_two]
  split
  · rfl
  · rename_i h
    exact (clr_add_two b f (Decidable.not_not.mp h)).symm

theorem clr_ff (f : Nat) : clr (false, false) f = f := rfl

theorem clr_ft (f : Nat) : clr (false, true) f = clearFlag f ELIGIBLE_FOR_FF := rfl

theorem clr_tf (f : Nat) : clr (true, false) f = clearFlag f ELIGIBLE_FOR_DEDUP := rfl

theorem clr_tt (f : Nat) : clr (true, true) f = clearFlag (clearFlag f ELIGIBLE_FOR_DEDUP) ELIGIBLE_FOR_FF := rfl

theorem clr_tt' (f : Nat) : clr (true, true) f = clearFlag (clearFlag f ELIGIBLE_FOR_FF) ELIGIBLE_FOR_DEDUP := by
  have := clr_clr (false, true) (true, false) f
  simpa [clr_ft, clr_tf] using this.symm

theorem visitCondition_eq (env : Env) (n f : Nat) (c : Cond) :
    visitCondition env n f c = clr (visitBits env.mempool n c) f := by
  unfold visitCondition visitBits
  cases env.mempool with
  | false => rfl
  | true =>
    simp only [Bool.not_true, Bool.false_eq_true, if_false]
    cases c <;> simp only [clr_ff, clr_ft]
    case assertMyParentId id =>
      by_cases h : n ≠ 1 <;> simp [h, clr_ff, clr_ft]
    case aggSig op pk msg =>
      by_cases h : (op = Gen.opAggSigMe ∨ op = Gen.opAggSigParent ∨ op = Gen.opAggSigParentAmount ∨ op = Gen.opAggSigParentPuzzle)
      · rw [if_pos h]; simp only [h, decide_true, clr_tt]
      · rw [if_neg h]; simp only [h, decide_false, clr_tf]
    case sendMessage m d g =>
      by_cases h : m / 4 % 2 = 1
      · rw [if_pos h]; simp only [h, decide_true, clr_tt']
      · rw [if_neg h]; simp only [h, decide_false, clr_tf]
    case receiveMessage d m g =>
      by_cases h : m / 4 % 2 = 1
      · rw [if_pos h]; simp only [h, decide_true, clr_tt']
      · rw [if_neg h]; simp only [h, decide_false, clr_tf]

theorem visitBits_fst_counter (mp : Bool) (n n' : Nat) (c : Cond) : (visitBits mp n c).1 = (visitBits mp n' c).1 := by
  unfold visitBits; cases mp <;> cases c <;> rfl

/-- the flags cleared over a list of items when every item is taken at position 0.  The DEDUP component is what `allBits`
clears at any positions (`allBits_fst`); the FF component is only when no item is an ASSERT_MY_PARENT_ID, the one condition
the visitor treats by its position, or under the empty visitor (`allBits_snd`) -/
def bitsOf (mp : Bool) (l : List Item) : Bool × Bool :=
  (l.any (fun it => (itemBits mp 0 it).1), l.any (fun it => (itemBits mp 0 it).2))

theorem itemBits_fst_counter (mp : Bool) (n n' : Nat) (it : Item) : (itemBits mp n it).1 = (itemBits mp n' it).1 := by
  cases it with
  | unknown => rfl
  | known op cva => exact visitBits_fst_counter mp n n' cva

theorem allBits_fst (mp : Bool) : ∀ (l : List Item) (n : Nat), (allBits mp n l).1 = (bitsOf mp l).1 := by
  intro l
  induction l with
  | nil => intro n; rfl
  | cons it l ih =>
    intro n
    simp only [allBits, bitsOf, List.any_cons]
    rw [ih, itemBits_fst_counter mp n 0]; rfl

/-- no item of the list is an ASSERT_MY_PARENT_ID (the one condition the mempool visitor treats
positionally) -/
def NoParentId (l : List Item) : Prop := ∀ it ∈ l, ∀ op id, it ≠ Item.known op (Cond.assertMyParentId id)

theorem visitBits_counter (mp : Bool) (n n' : Nat) (c : Cond) (h : mp = false ∨ ∀ id, c ≠ Cond.assertMyParentId id) :
    visitBits mp n c = visitBits mp n' c := by
  cases mp with
  | false => rfl
  | true =>
    rcases h with h | h
    · cases h
    · unfold visitBits; cases c <;> first | rfl | exact absurd rfl (h _)

theorem allBits_snd (mp : Bool) : ∀ (l : List Item) (n : Nat), (mp = false ∨ NoParentId l) →
    (allBits mp n l).2 = (bitsOf mp l).2 := by
  intro l
  induction l with
  | nil => intro n _; rfl
  | cons it l ih =>
    intro n h
    simp only [allBits, bitsOf, List.any_cons]
    have h' : mp = false ∨ NoParentId l := by
      rcases h with h | h
      · exact Or.inl h
      · exact Or.inr (fun x hx => h x (List.mem_cons_of_mem _ hx))
    rw [ih _ h']
    have : itemBits mp n it = itemBits mp 0 it := by
      cases it with
      | unknown => rfl
      | known op cva =>
        refine visitBits_counter mp n 0 cva ?_
        rcases h with h | h
        · exact Or.inl h
        · exact Or.inr (fun id hc => h _ (List.mem_cons_self) op id (by rw [hc]))
    rw [this]; rfl

end ChiaModel.Cond

namespace ChiaModel.Rules
open ChiaModel ChiaModel.Cond

/-! which conditions make `allBits` clear a bit: the DEDUP bit (`bitsOf_fst_iff`), the FF bit (`allBits_snd_iff`, by `blocksFF`
of Spec/BundleRules.lean at the condition's position) -/

theorem visitBits_fst_iff (n : Nat) (c : Cond) : (visitBits true n c).1 = false ↔
    (∀ op pk msg, c ≠ .aggSig op pk msg) ∧ (∀ m d g, c ≠ .sendMessage m d g) ∧ (∀ src m g, c ≠ .receiveMessage src m g) := by
  constructor
  · intro h
    refine ⟨?_, ?_, ?_⟩ <;> (rintro _ _ _ rfl; cases h)
  · intro h
    cases c <;> first | rfl | exact absurd rfl (h.1 _ _ _) | exact absurd rfl (h.2.1 _ _ _) | exact absurd rfl (h.2.2 _ _ _)

theorem bitsOf_fst_iff (items : List Item) :
    (bitsOf true items).1 = false ↔
      ∀ c ∈ itemConds items, (∀ op pk msg, c ≠ .aggSig op pk msg) ∧ (∀ m d g, c ≠ .sendMessage m d g) ∧
        (∀ src m g, c ≠ .receiveMessage src m g) := by
  induction items with
  | nil => simp [bitsOf, itemConds]
  | cons it items ih =>
    have hcons : (bitsOf true (it :: items)).1 = ((itemBits true 0 it).1 || (bitsOf true items).1) := rfl
    rw [hcons, Bool.or_eq_false_iff, ih]
    cases it with
    | unknown => exact ⟨fun h => h.2, fun h => ⟨rfl, h⟩⟩
    | known op c =>
      rw [show itemConds (.known op c :: items) = c :: itemConds items from rfl, List.forall_mem_cons]
      exact and_congr (visitBits_fst_iff 0 c) Iff.rfl

theorem blocksFF_eq (i : Nat) (c : Cond) : (visitBits true i c).2 = blocksFF i c := by
  cases c <;> rfl

theorem allBits_snd_iff : ∀ (items : List Item) (n : Nat),
    (allBits true n items).2 = false ↔ ∀ i c, (itemConds items)[i]? = some c → blocksFF (n + i) c = false := by
  intro items
  induction items with
  | nil => intro n; simp [allBits, itemConds]
  | cons it items ih =>
    intro n
    cases it with
    | unknown =>
      simp only [allBits, itemBits, itemCount, Bool.false_or, Nat.add_zero, itemConds]
      exact ih n
    | known op c =>
      simp only [allBits, itemBits, itemCount, itemConds, Bool.or_eq_false_iff, blocksFF_eq]
      rw [ih (n + 1)]
      constructor
      · rintro ⟨h0, h1⟩ i c' hi
        cases i with
        | zero => simp at hi; subst hi; simpa using h0
        | succ j =>
          simp at hi
          have := h1 j c' hi
          rw [show n + (j + 1) = n + 1 + j by omega]; exact this
      · intro h
        refine ⟨by simpa using h 0 c (by simp), fun j c' hj => ?_⟩
        have := h (j + 1) c' (by simpa using hj)
        rw [show n + (j + 1) = n + 1 + j by omega] at this; exact this

theorem allBits_nomempool : ∀ (items : List Item) (n : Nat), allBits false n items = (false, false) := by
  intro items
  induction items with
  | nil => intro n; rfl
  | cons it items ih =>
    intro n
    simp only [allBits, ih]
    cases it <;> rfl

theorem newSpendVisit_eq (env : Env) (s : CSt) : newSpendVisit env s =
    { s with spend := { s.spend with flags := if env.mempool then
        s.spend.flags + ELIGIBLE_FOR_DEDUP + (if s.spend.coinAmount % 2 = 1 then ELIGIBLE_FOR_FF else 0) else s.spend.flags } } := by
  unfold newSpendVisit
  cases env.mempool <;> rfl

/-- the eligibility flags a spend of amount `v` starts with (none under the empty visitor) -/
def startFlags (mempool : Bool) (v : Nat) : Nat :=
  if mempool then ELIGIBLE_FOR_DEDUP + (if v % 2 = 1 then ELIGIBLE_FOR_FF else 0) else 0

theorem startFlags_and_two (m : Bool) (v : Nat) : startFlags m v &&& HAS_RELATIVE_CONDITION = 0 := by
  rw [and_two]
  unfold startFlags ELIGIBLE_FOR_DEDUP ELIGIBLE_FOR_FF
  split
  · split <;> omega
  · omega

theorem startFlags_true (v : Nat) : startFlags true v = 1 + 4 * (v % 2) := by
  unfold startFlags ELIGIBLE_FOR_DEDUP ELIGIBLE_FOR_FF
  rw [if_pos rfl]
  rcases Nat.mod_two_eq_zero_or_one v with h | h <;> rw [h] <;> rfl

theorem clearFlag_guard (f b : Nat) (P : Prop) [Decidable P] :
    (if f &&& b ≠ 0 ∧ P then clearFlag f b else f) = if P then clearFlag f b else f := by
  by_cases hP : P
  · by_cases hf : f &&& b ≠ 0
    · rw [if_pos ⟨hf, hP⟩, if_pos hP]
    · rw [if_neg (fun h => hf h.1), if_pos hP, clearFlag, if_neg hf]
  · rw [if_neg (fun h => hP h.2), if_neg hP]

/-- `post_spend` clears ELIGIBLE_FOR_FF first and ELIGIBLE_FOR_DEDUP second, `clr` the other way round -/
theorem clr_swap (f : Nat) (P : Prop) [Decidable P] (q : Bool) :
    (if P then clearFlag (if q = true then clearFlag f ELIGIBLE_FOR_FF else f) ELIGIBLE_FOR_DEDUP
      else if q = true then clearFlag f ELIGIBLE_FOR_FF else f) = clr (decide P, q) f := by
  by_cases hP : P <;> cases q <;>
    simp only [clr, hP, decide_true, decide_false, if_true, if_false, Bool.false_eq_true, clearFlag_comm]

/-- which of the two eligibility flags `MempoolVisitor::post_spend` clears (DEDUP, FF) -/
def postBits (env : Env) (sp : Spend) : Bool × Bool :=
  (env.mempool && decide (sp.coinAmount > (sp.createCoin.map (·.amount)).sum),
   env.mempool && !sp.createCoin.any (fun c => c.ph == sp.puzzleHash && c.amount == sp.coinAmount))

theorem postSpend_eq (env : Env) (sp : Spend) : postSpend env sp = { sp with flags := clr (postBits env sp) sp.flags } := by
  unfold postSpend postBits
  cases env.mempool with
  | false => rfl
  | true =>
    simp only [Bool.not_true, Bool.false_eq_true, if_false, clearFlag_guard, Bool.true_and]
    exact congrArg (fun f => ({ sp with flags := f } : Spend)) (clr_swap _ _ _)

theorem ite_flags (c : Prop) [Decidable c] (s : Spend) (f : Nat) :
    (if c then { s with flags := f } else s) = { s with flags := if c then f else s.flags } := by
  split <;> rfl

theorem ite_flags' (c : Prop) [Decidable c] (s : Spend) (f : Nat) :
    (if c then s else { s with flags := f }) = { s with flags := if c then s.flags else f } := by
  split <;> rfl

/-- the two passes of `post_process` over one flags word: `c`, `a` say whether the coin is asserted to be spent
concurrently, resp. creates a coin that is spent in the bundle -/
theorem ppFlags_eq (f : Nat) (c a : Bool) :
    (if (if c = true then clearFlag f ELIGIBLE_FOR_FF else f) &&& ELIGIBLE_FOR_FF = 0
      then (if c = true then clearFlag f ELIGIBLE_FOR_FF else f)
      else if a = true then clearFlag (if c = true then clearFlag f ELIGIBLE_FOR_FF else f) ELIGIBLE_FOR_FF
        else (if c = true then clearFlag f ELIGIBLE_FOR_FF else f)) = clr (false, c || a) f := by
  have guard (g : Nat) : (if g &&& ELIGIBLE_FOR_FF = 0 then g else if a = true then clearFlag g ELIGIBLE_FOR_FF else g)
      = if a = true then clearFlag g ELIGIBLE_FOR_FF else g := by
    by_cases h : g &&& ELIGIBLE_FOR_FF = 0
    · have hg : clearFlag g ELIGIBLE_FOR_FF = g := by rw [clearFlag, if_neg (fun h' => h' h)]
      rw [if_pos h, hg, ite_self]
    · rw [if_neg h]
  rw [guard]
  cases c <;> cases a <;>
    simp only [clr, if_true, if_false, Bool.false_eq_true, Bool.or_self, Bool.or_true, Bool.or_false, clearFF_idem]

/-- what `MempoolVisitor::post_process` does to one spend record (it reads two collections of the parse
state, by membership only) -/
def ppSpend (env : Env) (st : PState) (s : Spend) : Spend :=
  { s with flags := clr (false, env.mempool && (st.assertConcurrentSpend.contains s.coinId ||
      s.createCoin.any (fun cc => st.spentCoins.contains (newCoinId s.coinId cc.ph cc.amount)))) s.flags }

theorem postProcess_eq (env : Env) (ret : Bundle) (st : PState) :
    postProcess env ret st = { ret with spends := ret.spends.map (ppSpend env st) } := by
  unfold postProcess
  cases hm : env.mempool with
  | false =>
    have : ppSpend env st = id := by funext s; simp only [ppSpend, hm, Bool.false_and]; rfl
    simp [this]
  | true =>
    simp only [Bool.not_true, Bool.false_eq_true, if_false, List.map_map]
    congr 1
    apply List.map_congr_left
    intro s _
    simp only [Function.comp, ppSpend, hm, Bool.true_and, ite_flags, ite_flags', ppFlags_eq]

theorem ppSpend_congr (env : Env) {st st' : PState}
    (h1 : List.Perm st.assertConcurrentSpend st'.assertConcurrentSpend) (h2 : List.Perm st.spentCoins st'.spentCoins)
    (s : Spend) : ppSpend env st s = ppSpend env st' s := by
  unfold ppSpend
  simp only [h1.contains_eq, h2.contains_eq]

end ChiaModel.Rules
