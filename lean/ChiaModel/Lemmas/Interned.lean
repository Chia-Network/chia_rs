import ChiaModel.Model.Builders
/-
Finite-set facts about `internedVbytes` (the weight of the set of distinct subtrees), proved directly
over the duplicate-free list `dedup` (no Mathlib): monotone in the set, sub-additive over unions,
and the bound of the whole generator by the per-spend weights that the interned builder sums up.
-/
namespace ChiaModel.Gn
open ChiaModel

def wt : Sexp → Nat
  | .atom b => b.length + 2
  | .pair _ _ => 3

/-- weight of the SET of the members of `l` -/
def vb (l : List Sexp) : Nat := ((dedup l).map wt).sum

theorem internedVbytes_eq (t : Sexp) : internedVbytes t = vb (subtrees t) := by
  unfold internedVbytes vb
  congr 2 <;> (funext n; cases n <;> rfl)

def dstep (acc : List Sexp) (x : Sexp) : List Sexp := if acc.contains x then acc else acc ++ [x]

theorem dedup_eq (l : List Sexp) : dedup l = l.foldl dstep [] := rfl

theorem mem_dstep {acc : List Sexp} {a x : Sexp} : x ∈ dstep acc a ↔ x ∈ acc ∨ x = a := by
  unfold dstep
  split
  · rename_i h
    exact ⟨Or.inl, fun hx => hx.elim id (fun e => e ▸ List.contains_iff_mem.mp h)⟩
  · simp only [List.mem_append, List.mem_singleton]

theorem mem_foldl_dstep (l : List Sexp) : ∀ (acc : List Sexp) (x : Sexp), x ∈ l.foldl dstep acc ↔ x ∈ acc ∨ x ∈ l := by
  induction l with
  | nil => intro acc x; simp
  | cons a l ih => intro acc x; rw [List.foldl_cons, ih, mem_dstep, List.mem_cons, or_assoc]

theorem nodup_foldl_dstep (l : List Sexp) : ∀ (acc : List Sexp), acc.Nodup → (l.foldl dstep acc).Nodup := by
  induction l with
  | nil => intro acc h; exact h
  | cons a l ih =>
    intro acc h
    rw [List.foldl_cons]
    apply ih
    unfold dstep
    by_cases hc : acc.contains a = true
    · rw [if_pos hc]; exact h
    · rw [if_neg hc]
      have ha : a ∉ acc := fun hm => hc (List.contains_iff_mem.mpr hm)
      rw [List.nodup_append]
      refine ⟨h, by simp, ?_⟩
      intro x hx y hy
      simp only [List.mem_singleton] at hy
      subst hy
      intro hxy; subst hxy; exact ha hx

theorem mem_dedup {l : List Sexp} {x : Sexp} : x ∈ dedup l ↔ x ∈ l := by
  rw [dedup_eq, mem_foldl_dstep]; simp

theorem nodup_dedup (l : List Sexp) : (dedup l).Nodup := by
  rw [dedup_eq]; exact nodup_foldl_dstep l [] (by simp)

theorem sum_map_erase (w : Sexp → Nat) (a : Sexp) : ∀ (B : List Sexp), a ∈ B → (B.map w).sum = w a + ((B.erase a).map w).sum := by
  intro B
  induction B with
  | nil => intro h; cases h
  | cons b B ih =>
    intro h
    by_cases hb : b = a
    · subst hb; simp
    · have : a ∈ B := by
        rcases List.mem_cons.mp h with h1 | h1
        · exact absurd h1.symm hb
        · exact h1
      rw [List.erase_cons_tail (by simpa using hb)]
      simp only [List.map_cons, List.sum_cons]
      rw [ih this]; omega

theorem sum_le_of_nodup_subset (w : Sexp → Nat) : ∀ (A B : List Sexp), A.Nodup → (∀ x ∈ A, x ∈ B) → (A.map w).sum ≤ (B.map w).sum := by
  intro A
  induction A with
  | nil => intro B _ _; simp
  | cons a A ih =>
    intro B hn hs
    rw [List.nodup_cons] at hn
    have haB : a ∈ B := hs a (List.mem_cons_self)
    rw [sum_map_erase w a B haB]
    simp only [List.map_cons, List.sum_cons]
    have : (A.map w).sum ≤ ((B.erase a).map w).sum := by
      apply ih _ hn.2
      intro x hx
      have hne : x ≠ a := fun h => hn.1 (h ▸ hx)
      exact (List.mem_erase_of_ne hne).mpr (hs x (List.mem_cons_of_mem _ hx))
    omega

theorem vb_mono {A B : List Sexp} (h : ∀ x ∈ A, x ∈ B) : vb A ≤ vb B := by
  unfold vb
  apply sum_le_of_nodup_subset wt _ _ (nodup_dedup A)
  intro x hx
  exact mem_dedup.mpr (h x (mem_dedup.mp hx))

theorem vb_append_le (A B : List Sexp) : vb (A ++ B) ≤ vb A + vb B := by
  unfold vb
  have := sum_le_of_nodup_subset wt (dedup (A ++ B)) (dedup A ++ dedup B) (nodup_dedup _) (by
    intro x hx
    have := mem_dedup.mp hx
    rcases List.mem_append.mp this with h | h
    · exact List.mem_append.mpr (Or.inl (mem_dedup.mpr h))
    · exact List.mem_append.mpr (Or.inr (mem_dedup.mpr h)))
  simpa [List.map_append, List.sum_append] using this

theorem vb_singleton (x : Sexp) : vb [x] = wt x := by
  unfold vb dedup; simp

theorem vb_cons_le (x : Sexp) (l : List Sexp) : vb (x :: l) ≤ wt x + vb l := by
  have := vb_append_le [x] l
  rw [vb_singleton] at this
  simpa using this

theorem internedVbytes_pair_le (t u : Sexp) : internedVbytes (.pair t u) ≤ 3 + internedVbytes t + internedVbytes u := by
  rw [internedVbytes_eq, internedVbytes_eq t, internedVbytes_eq u]
  simp only [subtrees]
  have h1 := vb_cons_le (.pair t u) (subtrees t ++ subtrees u)
  have h2 := vb_append_le (subtrees t) (subtrees u)
  simp only [wt] at h1
  omega

theorem nil_mem_subtrees_ofList (items : List Sexp) : Sexp.nil ∈ subtrees (Sexp.ofList items) := by
  induction items with
  | nil => simp [Sexp.ofList, Sexp.nil, subtrees]
  | cons a l ih =>
    have : Sexp.ofList (a :: l) = .pair a (Sexp.ofList l) := rfl
    rw [this]
    simp only [subtrees, List.mem_cons, List.mem_append]
    exact Or.inr (Or.inr ih)

/-- the spend list weighs at most nil plus, per spend, the spend on its own and one linking pair -/
theorem vb_spendList_le (items : List Sexp) :
    vb (subtrees (Sexp.ofList items)) ≤ 2 + (items.map (fun it => internedVbytes it + 3)).sum := by
  induction items with
  | nil =>
    have : Sexp.ofList [] = Sexp.atom [] := rfl
    rw [this]; simp [subtrees, vb_singleton, wt]
  | cons a l ih =>
    rw [← internedVbytes_eq] at ih ⊢
    have := internedVbytes_pair_le a (Sexp.ofList l)
    simp only [List.map_cons, List.sum_cons]
    exact Nat.le_trans this (by omega)

/-- 11: the two pairs and the atom `q` of the wrapper `(q . (spend_list . nil))` at 3 each, and nil at 2 -/
theorem generator_bound (items : List Sexp) :
    internedVbytes (Bld.generator items) ≤ 11 + (items.map (fun it => internedVbytes it + 3)).sum := by
  rw [internedVbytes_eq]
  unfold Bld.generator
  simp only [subtrees]
  have h1 := vb_cons_le (.pair (.atom [1]) (.pair (Sexp.ofList items) Sexp.nil))
    ([Sexp.atom [1]] ++ (.pair (Sexp.ofList items) Sexp.nil :: (subtrees (Sexp.ofList items) ++ subtrees Sexp.nil)))
  have h2 := vb_cons_le (Sexp.atom [1]) (.pair (Sexp.ofList items) Sexp.nil :: (subtrees (Sexp.ofList items) ++ subtrees Sexp.nil))
  have h3 := vb_cons_le (.pair (Sexp.ofList items) Sexp.nil) (subtrees (Sexp.ofList items) ++ subtrees Sexp.nil)
  have h4 : vb (subtrees (Sexp.ofList items) ++ subtrees Sexp.nil) ≤ vb (subtrees (Sexp.ofList items)) := by
    apply vb_mono
    intro x hx
    rcases List.mem_append.mp hx with h | h
    · exact h
    · have : x = Sexp.nil := by simpa [Sexp.nil, subtrees] using h
      rw [this]; exact nil_mem_subtrees_ofList items
  have h5 := vb_spendList_le items
  simp only [wt, List.singleton_append, List.length_cons, List.length_nil] at h1 h2 h3 ⊢
  omega

end ChiaModel.Gn
