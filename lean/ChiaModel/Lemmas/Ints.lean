import ChiaModel.Model.Ints
/-
Big-endian byte strings and canonical integers.  `be n` and `beVal` are inverse to each other on strings of `n` bytes
(`beVal_be`, `be_beVal`).  The minimal two's-complement length `byteLen` is known through its level sets
(`byteLen_le_iff`): the arms of the threshold ladders (`byteLen_eq_add_two`) and the uniqueness of minimal encodings
(`canonNat_beVal`) are read off them.  Also here, because every family needs them: `isBytes` of `::` and `++`, and
length and `isBytes` of a SHA-256 digest.
-/
namespace ChiaModel

/-- Peels one arm off an `if` ladder; `split` would re-simplify the whole remaining ladder at every arm. -/
theorem ite_eq_of {α : Sort _} {c : Prop} [Decidable c] {a b x : α} (h1 : c → a = x) (h2 : ¬c → b = x) :
    ite c a b = x := by
  by_cases h : c
  · rw [if_pos h]; exact h1 h
  · rw [if_neg h]; exact h2 h

theorem isBytes_cons {x : Nat} {b : Bytes} : isBytes (x :: b) ↔ x < 256 ∧ isBytes b := by
  unfold isBytes; simp

theorem isBytes_append {a b : Bytes} : isBytes (a ++ b) ↔ isBytes a ∧ isBytes b := by
  unfold isBytes; simp only [List.mem_append]
  constructor
  · intro h; exact ⟨fun x hx => h x (Or.inl hx), fun x hx => h x (Or.inr hx)⟩
  · rintro ⟨h1, h2⟩ x (hx | hx)
    · exact h1 x hx
    · exact h2 x hx

@[simp] theorem be_zero (v : Nat) : be 0 v = [] := rfl

theorem be_succ (n v : Nat) : be (n+1) v = (v / 256 ^ n % 256) :: be n v := by
  simp [be, List.range_succ]

theorem be_length (n v : Nat) : (be n v).length = n := by simp [be]

theorem be_drop (n k v : Nat) (h : k ≤ n) : (be n v).drop k = be (n - k) v := by
  induction k generalizing n with
  | zero => simp
  | succ k ih =>
    obtain ⟨m, rfl⟩ : ∃ m, n = m + 1 := ⟨n - 1, by omega⟩
    rw [be_succ, List.drop_succ_cons, ih m (by omega)]
    congr 1; omega

theorem be_isBytes (n v : Nat) : isBytes (be n v) := by
  intro x hx
  simp [be] at hx
  obtain ⟨a, _, rfl⟩ := hx
  exact Nat.mod_lt _ (by decide)

theorem be_add_mul_pow (n a w : Nat) : be n (a * 256 ^ n + w) = be n w := by
  induction n generalizing a with
  | zero => rfl
  | succ n ih =>
    have h : a * 256 ^ (n + 1) = a * 256 * 256 ^ n := by
      rw [Nat.pow_succ, Nat.mul_assoc, Nat.mul_comm (256 ^ n)]
    rw [be_succ, be_succ, h, ih, Nat.add_comm, Nat.add_mul_div_right _ _ (Nat.pow_pos (by decide)),
      Nat.add_mul_mod_self_right]

theorem sha256_length (m : Bytes) : (sha256 m).length = 32 := by
  simp [sha256, Sha256.sha256, Sha256.digest, be_length]

theorem sha256_isBytes (m : Bytes) : isBytes (sha256 m) := by
  simp only [sha256, Sha256.sha256, Sha256.digest, isBytes_append, be_isBytes, and_self]

theorem beVal_append_one (b : Bytes) (x : Nat) : beVal (b ++ [x]) = beVal b * 256 + x := by
  simp [beVal, List.foldl_append]

theorem beVal_cons (x : Nat) (b : Bytes) : beVal (x :: b) = x * 256 ^ b.length + beVal b := by
  unfold beVal
  suffices h : ∀ (acc : Nat), List.foldl (fun acc x => acc * 256 + x) acc b
      = acc * 256 ^ b.length + List.foldl (fun acc x => acc * 256 + x) 0 b by
    simp only [List.foldl_cons]; rw [h]; simp
  induction b with
  | nil => simp
  | cons y t ih =>
    intro acc
    simp only [List.foldl_cons, List.length_cons]
    rw [ih (acc * 256 + y), ih (0 * 256 + y)]
    simp [Nat.pow_succ, Nat.add_mul, Nat.mul_assoc, Nat.add_assoc]
    rw [Nat.mul_comm (256 ^ t.length) 256]

theorem beVal_ge_head (x : Nat) (t : Bytes) : x * 256 ^ t.length ≤ beVal (x :: t) := by
  rw [beVal_cons]; omega

theorem beVal_zero_cons (t : Bytes) : beVal (0 :: t) = beVal t := by
  rw [beVal_cons, Nat.zero_mul, Nat.zero_add]

theorem beVal_replicate_zero (k : Nat) (b : Bytes) : beVal (List.replicate k 0 ++ b) = beVal b := by
  induction k with
  | zero => simp
  | succ k ih => rw [List.replicate_succ, List.cons_append, beVal_zero_cons, ih]

theorem pow_le_beVal (x n : Nat) (t : Bytes) (hx : x ≠ 0) (hn : n ≤ t.length) : 256 ^ n ≤ beVal (x :: t) :=
  Nat.le_trans (Nat.pow_le_pow_right (by decide) hn)
    (Nat.le_trans (Nat.le_mul_of_pos_left _ (Nat.pos_of_ne_zero hx)) (beVal_ge_head x t))

theorem beVal_cons_lt {x m : Nat} {t : Bytes} (hx : x < m) (ht : beVal t < 256 ^ t.length) :
    beVal (x :: t) < m * 256 ^ t.length := by
  have := Nat.mul_le_mul_right (256 ^ t.length) hx
  rw [Nat.succ_mul] at this
  rw [beVal_cons]
  omega

theorem beVal_lt (b : Bytes) (hb : isBytes b) : beVal b < 256 ^ b.length := by
  induction b with
  | nil => exact Nat.one_pos
  | cons x t ih =>
    rw [List.length_cons, Nat.pow_succ, Nat.mul_comm]
    exact beVal_cons_lt (hb x List.mem_cons_self) (ih fun y hy => hb y (List.mem_cons_of_mem _ hy))

theorem beVal_lt_pow (b : Bytes) (n : Nat) (hb : isBytes b) (hn : b.length ≤ n) : beVal b < 256 ^ n :=
  Nat.lt_of_lt_of_le (beVal_lt b hb) (Nat.pow_le_pow_right (by decide) hn)

theorem beVal_be (n v : Nat) (h : v < 256 ^ n) : beVal (be n v) = v := by
  induction n generalizing v with
  | zero =>
    rw [Nat.pow_zero] at h
    rw [be_zero, Nat.lt_one_iff.mp h]
    rfl
  | succ n ih =>
    have hp : 0 < 256 ^ n := Nat.pow_pos (by decide)
    have h1 : v / 256 ^ n < 256 := Nat.div_lt_of_lt_mul (by rwa [Nat.pow_succ] at h)
    have h2 : be n v = be n (v % 256 ^ n) := by
      conv => lhs; rw [← Nat.div_add_mod v (256 ^ n), Nat.mul_comm, be_add_mul_pow]
    rw [be_succ, beVal_cons, be_length, Nat.mod_eq_of_lt h1, h2, ih _ (Nat.mod_lt _ hp), Nat.mul_comm]
    exact Nat.div_add_mod v _

theorem be_beVal (b : Bytes) (hb : isBytes b) {n : Nat} (hl : b.length = n) : be n (beVal b) = b := by
  subst hl
  induction b with
  | nil => rfl
  | cons x t ih =>
    have hx : x < 256 := hb x List.mem_cons_self
    have ht : isBytes t := fun y hy => hb y (List.mem_cons_of_mem _ hy)
    rw [List.length_cons, be_succ, beVal_cons, be_add_mul_pow, ih ht, Nat.mul_comm,
      Nat.mul_add_div (Nat.pow_pos (by decide)), Nat.div_eq_of_lt (beVal_lt t ht), Nat.add_zero,
      Nat.mod_eq_of_lt hx]

theorem intOfBytes_of_head (b : Bytes) (h : headGe128 b = false) : intOfBytes b = (beVal b : Int) := by
  cases b with
  | nil => simp [intOfBytes, beVal]
  | cons x t => simp [headGe128] at h; simp [intOfBytes]; omega

/-! ### `byteLen`: the first byte holds 7 bits, every further byte 8 -/

theorem byteLenAux_pos (f v : Nat) : 1 ≤ byteLenAux f v := by
  cases f with
  | zero => exact Nat.le_refl 1
  | succ f =>
    rw [byteLenAux]
    split
    · exact Nat.le_refl 1
    · exact Nat.le_add_right 1 _

theorem byteLenAux_le_iff (f k v : Nat) (hv : v < 128 * 256 ^ f) :
    byteLenAux f v ≤ k + 1 ↔ v < 128 * 256 ^ k := by
  have hk : ∀ k, 128 ≤ 128 * 256 ^ k := fun k => Nat.le_mul_of_pos_right _ (Nat.pow_pos (by decide))
  induction f generalizing k v with
  | zero =>
    have := hk k
    rw [byteLenAux]
    omega
  | succ f ih =>
    have := hk k
    rw [byteLenAux]
    split
    · omega
    · cases k with
      | zero =>
        have := byteLenAux_pos f (v / 256)
        omega
      | succ k =>
        rw [Nat.pow_succ] at hv ⊢
        have := ih k (v / 256) (by omega)
        omega

theorem byteLen_eq_zero_iff (v : Nat) : byteLen v = 0 ↔ v = 0 := by
  have := byteLenAux_pos 17 v
  unfold byteLen
  split <;> omega

/-- With `byteLen_eq_zero_iff`, all that is used of the definition of `byteLen`; the bound is the fuel of `byteLenAux`. -/
theorem byteLen_le_iff (k v : Nat) (hv : v < 128 * 256 ^ 17) :
    byteLen v ≤ k + 1 ↔ v < 128 * 256 ^ k := by
  unfold byteLen
  split
  · have := Nat.pow_pos (n := k) (show 0 < 256 by decide)
    omega
  · exact byteLenAux_le_iff 17 k v hv

theorem byteLen_eq_one (v : Nat) (h0 : v ≠ 0) (h : v < 128) : byteLen v = 1 := by
  have := byteLen_le_iff 0 v (by omega)
  have := byteLen_eq_zero_iff v
  omega

theorem byteLen_eq_add_two (k v : Nat) (hv : v < 128 * 256 ^ 17) (hlo : 128 * 256 ^ k ≤ v)
    (hhi : v < 128 * 256 ^ (k + 1)) : byteLen v = k + 2 := by
  have := byteLen_le_iff k v hv
  have := byteLen_le_iff (k + 1) v hv
  omega

theorem byteLen_cases (v : Nat) (hv : v < 128 * 256 ^ 17) :
    (v = 0 ∧ byteLen v = 0) ∨ (v ≠ 0 ∧ v < 128 ∧ byteLen v = 1) ∨
      ∃ k, 128 * 256 ^ k ≤ v ∧ v < 128 * 256 ^ (k + 1) ∧ byteLen v = k + 2 := by
  have h0 := byteLen_eq_zero_iff v
  match h : byteLen v with
  | 0 => exact Or.inl ⟨h0.mp h, rfl⟩
  | 1 =>
    have := byteLen_le_iff 0 v hv
    exact Or.inr (Or.inl ⟨by omega, by omega, rfl⟩)
  | k + 2 =>
    have := byteLen_le_iff k v hv
    have := byteLen_le_iff (k + 1) v hv
    exact Or.inr (Or.inr ⟨k, by omega, by omega, rfl⟩)

theorem canonNat_length (v : Nat) : (canonNat v).length = byteLen v := be_length _ _

theorem lt_pow_byteLen (v : Nat) (hv : v < 128 * 256 ^ 17) : v < 256 ^ byteLen v := by
  match h : byteLen v with
  | 0 =>
    have := (byteLen_eq_zero_iff v).mp h
    omega
  | n + 1 =>
    have := (byteLen_le_iff n v hv).mp (Nat.le_of_eq h)
    rw [Nat.pow_succ, Nat.mul_comm]
    exact Nat.lt_of_lt_of_le this (Nat.mul_le_mul_right _ (by decide))

theorem headGe128_be_succ (n v : Nat) (h : v < 128 * 256 ^ n) : headGe128 (be (n + 1) v) = false := by
  have : v / 256 ^ n < 128 := Nat.div_lt_of_lt_mul (by rwa [Nat.mul_comm])
  rw [be_succ, headGe128, Nat.mod_eq_of_lt (Nat.lt_trans this (by decide))]
  exact decide_eq_false (Nat.not_le_of_lt this)

theorem minimal_be_one (v : Nat) (h0 : v ≠ 0) (h : v < 128) : Minimal (be 1 v) := by
  rw [be_succ, be_zero, Nat.pow_zero, Nat.div_one, Minimal]
  omega

theorem minimal_be_add_two (k v : Nat) (hlo : 128 * 256 ^ k ≤ v) (hhi : v < 128 * 256 ^ (k + 1)) :
    Minimal (be (k + 2) v) := by
  have h1 : 128 ≤ v / 256 ^ k := (Nat.le_div_iff_mul_le (Nat.pow_pos (by decide))).mpr hlo
  have h2 : v / 256 ^ k < 128 * 256 := Nat.div_lt_of_lt_mul (by rw [Nat.pow_succ] at hhi; omega)
  rw [be_succ, be_succ, Nat.pow_succ, ← Nat.div_div_eq_div_mul, Minimal]
  omega

theorem canonNat_nonneg_minimal (v : Nat) (hv : v < 128 * 256 ^ 17) :
    headGe128 (canonNat v) = false ∧ Minimal (canonNat v) := by
  unfold canonNat
  rcases byteLen_cases v hv with ⟨_, h⟩ | ⟨h0, h1, h⟩ | ⟨k, hlo, hhi, h⟩ <;> rw [h]
  · exact ⟨rfl, trivial⟩
  · exact ⟨headGe128_be_succ 0 v h1, minimal_be_one v h0 h1⟩
  · exact ⟨headGe128_be_succ (k + 1) v hhi, minimal_be_add_two k v hlo hhi⟩

theorem beVal_canonNat (v : Nat) (hv : v < 128 * 256 ^ 17) : beVal (canonNat v) = v :=
  beVal_be _ v (lt_pow_byteLen v hv)

theorem byteLen_beVal (b : Bytes) (hb : isBytes b) (hneg : headGe128 b = false) (hmin : Minimal b)
    (hv : beVal b < 128 * 256 ^ 17) : byteLen (beVal b) = b.length := by
  match b, hb, hneg, hmin, hv with
  | [], _, _, _, _ => rfl
  | [x], _, hneg, hmin, _ =>
    have e : beVal [x] = x := Nat.zero_add x
    rw [e]
    exact byteLen_eq_one x hmin (by simpa [headGe128] using hneg)
  | x :: y :: t, hb, hneg, hmin, hv =>
    have hx : x < 128 := by simpa [headGe128] using hneg
    have ht : isBytes (y :: t) := fun z hz => hb z (List.mem_cons_of_mem _ hz)
    refine byteLen_eq_add_two t.length _ hv ?_ (beVal_cons_lt hx (beVal_lt _ ht))
    -- the two leading bytes alone make `128 ≤ x·256 + y`
    have h := Nat.mul_le_mul_right (256 ^ t.length) (show 128 ≤ x * 256 + y by rw [Minimal] at hmin; omega)
    rw [Nat.add_mul, Nat.mul_right_comm] at h
    rw [beVal_cons, beVal_cons, List.length_cons, Nat.pow_succ, ← Nat.mul_assoc]
    omega

theorem canonNat_beVal (b : Bytes) (hb : isBytes b) (hneg : headGe128 b = false) (hmin : Minimal b)
    (hv : beVal b < 128 * 256 ^ 17) : canonNat (beVal b) = b := by
  rw [canonNat, byteLen_beVal b hb hneg hmin hv, be_beVal b hb rfl]

end ChiaModel
