import ChiaModel.Model.JsonDict
import ChiaModel.Lemmas.StreamableMain
/-
C20: hex strings (`unhexB_hexB`, and what an accepted `unhexB` says of its input) and the round trip `RT f g w` of
every leaf conversion and combinator.  `Option` asks more of its element than a round trip: its JSON is never `null`
(`NonNull`), which is what `WFjson` asks of an `Option`.
-/
namespace ChiaModel.JsonDict
open ChiaModel ChiaModel.Streamable

theorem hexValB_hexDigitB : ∀ d, d < 16 → hexValB (hexDigitB d) = some d := by decide

theorem unhexB_hexB (c : Bytes) (h : c.all (· < 256) = true) : unhexB (hexB c) = some c := by
  induction c with
  | nil => rfl
  | cons x r ih =>
    simp only [List.all_cons, Bool.and_eq_true, decide_eq_true_eq] at h
    simp only [hexB, unhexB, hexValB_hexDigitB (x / 16 % 16) (Nat.mod_lt _ (by decide)),
      hexValB_hexDigitB (x % 16) (Nat.mod_lt _ (by decide)), ih h.2]
    congr 2
    omega

theorem unhexB_cons_cons {a b : Nat} {rest c : Bytes} (h : unhexB (a :: b :: rest) = some c) :
    ∃ x y r, hexValB a = some x ∧ hexValB b = some y ∧ unhexB rest = some r ∧ c = (x * 16 + y) :: r := by
  simp only [unhexB] at h
  split at h
  · rename_i x y r hx hy hr
    exact ⟨x, y, r, hx, hy, hr, (Option.some.inj h).symm⟩
  · cases h

theorem unhexB_length : ∀ (h c : Bytes), unhexB h = some c → h.length = 2 * c.length
  | [], _, hh => by cases hh; rfl
  | [_], _, hh => by cases hh
  | _ :: _ :: rest, _, hh => by
    obtain ⟨_, _, r, _, _, hr, rfl⟩ := unhexB_cons_cons hh
    simp only [List.length_cons, unhexB_length rest r hr]
    omega

theorem unhexB_digits : ∀ (h c : Bytes), unhexB h = some c → ∀ x ∈ h, hexValB x ≠ none
  | [], _, _, _, hx => nomatch hx
  | [_], _, hh, _, _ => by cases hh
  | a :: b :: rest, _, hh, z, hz => by
    obtain ⟨_, _, r, hx, hy, hr, _⟩ := unhexB_cons_cons hh
    rcases List.mem_cons.mp hz with rfl | hz
    · rw [hx]; exact Option.some_ne_none _
    rcases List.mem_cons.mp hz with rfl | hz
    · rw [hy]; exact Option.some_ne_none _
    · exact unhexB_digits rest r hr z hz

theorem strip0x_pfx (h : Bytes) : strip0x (pfx0x ++ h) = some h := rfl

theorem strip0x_some {s h : Bytes} : strip0x s = some h ↔ s = pfx0x ++ h := by
  constructor
  · intro hs
    unfold strip0x at hs
    split at hs
    · injection hs with hs; subst hs; rfl
    · simp at hs
  · rintro rfl; rfl

def RT (f : ToJ) (g : FromJ) (w : Wf) : Prop :=
  ∀ v, w v = true → bytesOK v = true → ∃ j, f v = some j ∧ g j = .ok v

def NonNull (f : ToJ) : Prop := ∀ v j, f v = some j → j ≠ .null

theorem fromUint_int {n x : Nat} (hx : x < 256 ^ n) : fromUint n (.int x) = .ok (.n x) := by
  have : (0 : Int) ≤ (x : Int) ∧ (x : Int) < ((256 ^ n : Nat) : Int) := ⟨Int.natCast_nonneg x, Int.ofNat_lt.mpr hx⟩
  simp only [fromUint, pyIndex, this, and_self, if_true, Int.toNat_natCast]

theorem rt_uint (n : Nat) : RT toUint (fromUint n) (wfUint n) := by
  intro v hv _
  obtain ⟨x, rfl, hx⟩ := wfUint_iff.mp hv
  exact ⟨.int x, rfl, fromUint_int hx⟩

theorem rt_sint (n : Nat) : RT toSint (fromSint n) (wfSint n) := by
  intro v hv _
  obtain ⟨x, rfl, hx⟩ := wfSint_iff.mp hv
  exact ⟨.int x, rfl, by simp [fromSint, pyIndex, hx]⟩

theorem rt_bool : RT toBool fromBool wfBool := by
  intro v hv _
  cases v <;> simp [wfBool] at hv
  exact ⟨_, rfl, rfl⟩

theorem rt_str : RT toStr fromStr wfStr := by
  intro v hv _
  cases v <;> simp [wfStr] at hv
  exact ⟨_, rfl, rfl⟩

theorem hexOfBytesJ_toBytesJ (c : Bytes) (hc : c.all (· < 256) = true) :
    hexOfBytesJ (.str (if c.isEmpty then [] else pfx0x ++ hexB c)) = .ok c := by
  cases c with
  | nil => rfl
  | cons x r =>
    have h1 : (pfx0x ++ hexB (x :: r)).isEmpty = false := rfl
    simp only [List.isEmpty_cons, Bool.false_eq_true, if_false, hexOfBytesJ, h1, strip0x_pfx, unhexB_hexB _ hc]

theorem rt_bytes : RT toBytesJ fromBytesJ wfBytes := by
  intro v hv hb
  cases v <;> simp [wfBytes] at hv
  rename_i c
  simp only [bytesOK] at hb
  exact ⟨_, rfl, by simp only [fromBytesJ, hexOfBytesJ_toBytesJ c hb]⟩

theorem rt_program (O : Oracles) : RT toBytesJ (fromProgram O) (wfProgram O false) := by
  intro v hv hb
  cases v <;> simp only [wfProgram, Bool.false_eq_true] at hv
  rename_i c
  simp only [bytesOK] at hb
  exact ⟨_, rfl, by simp only [fromProgram, hexOfBytesJ_toBytesJ c hb, hv, if_true]⟩

theorem rt_bytesN (n : Nat) : RT toHexJ (fromBytesN n) (wfBytesN n) := by
  intro v hv hb
  obtain ⟨c, rfl, hc⟩ := wfBytesN_enc hv
  simp only [bytesOK] at hb
  exact ⟨_, rfl, by simp only [fromBytesN, strip0x_pfx, unhexB_hexB c hb, hc, if_true]⟩

theorem rt_bls (n : Nat) (valid : Bytes → Bool) : RT toHexJ (fromBls n valid) (wfOpaque n valid) := by
  intro v hv hb
  obtain ⟨c, rfl, hc, hval⟩ := wfOpaque_iff.mp hv
  simp only [bytesOK] at hb
  exact ⟨_, rfl, by simp only [fromBls, parseHexString, strip0x_pfx, unhexB_hexB c hb, hc, if_true, hval]⟩

theorem rt_enum (vals : List Nat) (h : vals.all (· < 256) = true) : RT toEnum (fromEnum vals) (wfEnum vals) := by
  intro v hv hb
  cases v <;> simp only [wfEnum, Bool.false_eq_true] at hv
  rename_i x
  have hx : x < 256 ^ 1 := by
    have := List.all_eq_true.mp h x (by simpa using hv)
    simpa using this
  exact ⟨.int x, rfl, by simp only [fromEnum, fromUint_int hx, hv, if_true]⟩

theorem nonNull_toUint : NonNull toUint := by intro v j h; cases v <;> simp [toUint] at h; subst h; simp
theorem nonNull_toSint : NonNull toSint := by intro v j h; cases v <;> simp [toSint] at h; subst h; simp
theorem nonNull_toBool : NonNull toBool := by intro v j h; cases v <;> simp [toBool] at h; subst h; simp
theorem nonNull_toStr : NonNull toStr := by intro v j h; cases v <;> simp [toStr] at h; subst h; simp
theorem nonNull_toBytesJ : NonNull toBytesJ := by intro v j h; cases v <;> simp [toBytesJ] at h; subst h; simp
theorem nonNull_toHexJ : NonNull toHexJ := by intro v j h; cases v <;> simp [toHexJ] at h; subst h; simp
theorem nonNull_toEnum : NonNull toEnum := by intro v j h; cases v <;> simp [toEnum] at h; subst h; simp
theorem nonNull_toU8Vec : NonNull toU8Vec := by intro v j h; cases v <;> simp [toU8Vec] at h; subst h; simp
theorem nonNull_toVec (f : ToJ) : NonNull (toVec f) := by
  intro v j h
  cases v <;> simp [toVec] at h
  obtain ⟨a, _, rfl⟩ := h
  simp
theorem nonNull_toPos : NonNull toPos := by
  intro v j h
  cases v <;> simp [toPos] at h
  obtain ⟨a, _, rfl⟩ := h
  simp

theorem rt_option {f : ToJ} {g : FromJ} {w : Wf} (h : RT f g w) (hn : NonNull f) :
    RT (toOption f) (fromOption g) (wfOption w) := by
  intro v hv hb
  rcases wfOption_iff.mp hv with rfl | ⟨x, rfl, hx⟩
  · exact ⟨.null, rfl, rfl⟩
  · simp only [bytesOK] at hb
    obtain ⟨j, hj, hg⟩ := h x hx hb
    refine ⟨j, hj, ?_⟩
    have := hn x j hj
    cases j <;> first | exact absurd rfl this | simp only [fromOption, hg]

theorem bytesOKL_all {l : List V} : bytesOKL l = true ↔ ∀ v ∈ l, bytesOK v = true := by
  induction l with
  | nil => simp [bytesOKL]
  | cons x r ih => simp [bytesOKL, ih]

theorem all_rt {f : ToJ} {g : FromJ} {w : Wf} (h : RT f g w) :
    ∀ l : List V, l.all w = true → bytesOKL l = true → ∃ js, allToJ f l = some js ∧ js.length = l.length ∧ allFromJ g js = .ok l
  | [], _, _ => ⟨[], rfl, rfl, rfl⟩
  | v :: vs, hw, hb => by
    simp only [List.all_cons, Bool.and_eq_true] at hw
    simp only [bytesOKL, Bool.and_eq_true] at hb
    obtain ⟨j, hj, hg⟩ := h v hw.1 hb.1
    obtain ⟨js, hjs, hlen, hgs⟩ := all_rt h vs hw.2 hb.2
    exact ⟨j :: js, by simp only [allToJ, hj, hjs], by simp [hlen], by simp only [allFromJ, hg, hgs]⟩

theorem rt_vec {f : ToJ} {g : FromJ} {w : Wf} (h : RT f g w) : RT (toVec f) (fromVec g) (wfVec w) := by
  intro v hv hb
  obtain ⟨l, rfl, _, hall⟩ := wfVec_iff.mp hv
  simp only [bytesOK] at hb
  obtain ⟨js, hjs, _, hgs⟩ := all_rt h l hall hb
  exact ⟨.list js, by simp only [toVec, hjs, Option.map_some], by simp only [fromVec, iterJ, hgs]⟩

theorem rt_array (n : Nat) {f : ToJ} {g : FromJ} {w : Wf} (h : RT f g w) : RT (toVec f) (fromArray n g) (wfArray n w) := by
  intro v hv hb
  obtain ⟨l, rfl, hn, hall⟩ := wfArray_iff.mp hv
  simp only [bytesOK] at hb
  obtain ⟨js, hjs, hlen, hgs⟩ := all_rt h l hall hb
  exact ⟨.list js, by simp only [toVec, hjs, Option.map_some],
    by simp only [fromArray, fixedSeq, hlen, hn, if_true, hgs]⟩

theorem map_nOf (c : List Nat) : (c.map V.n).map nOf = c := by
  induction c with
  | nil => rfl
  | cons x r ih => simp only [List.map_cons, nOf, ih]

theorem allFromJ_u8 : ∀ c : Bytes, c.all (· < 256) = true →
    allFromJ (fromUint 1) (c.map fun x => J.int (Int.ofNat x)) = .ok (c.map V.n)
  | [], _ => rfl
  | x :: r, h => by
    simp only [List.all_cons, Bool.and_eq_true, decide_eq_true_eq] at h
    have h1 : fromUint 1 (.int (Int.ofNat x)) = .ok (.n x) := fromUint_int (by simpa using h.1)
    simp only [List.map_cons, allFromJ, h1, allFromJ_u8 r h.2]

theorem rt_u8vec : RT toU8Vec fromU8Vec wfBytes := by
  intro v hv hb
  cases v <;> simp [wfBytes] at hv
  rename_i c
  simp only [bytesOK] at hb
  exact ⟨_, rfl, by simp only [fromU8Vec, iterJ, allFromJ_u8 c hb, map_nOf]⟩

theorem lookup_of_nodup : ∀ (kvs : List (String × J)), (kvs.map Prod.fst).Nodup →
    ∀ kj ∈ kvs, kvs.lookup kj.1 = some kj.2
  | [], _, kj, h => by simp at h
  | (k, j) :: r, hn, kj, h => by
    simp only [List.map_cons, List.nodup_cons] at hn
    simp only [List.mem_cons] at h
    rcases h with rfl | h
    · simp [List.lookup]
    · have hne : kj.1 ≠ k := by
        intro he
        exact hn.1 (he ▸ List.mem_map_of_mem (f := Prod.fst) h)
      have : (kj.1 == k) = false := by simpa using hne
      simp only [List.lookup, this]
      exact lookup_of_nodup r hn.2 kj h

end ChiaModel.JsonDict
