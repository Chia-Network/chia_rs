import ChiaModel.Lemmas.JsonDictMain
/-!
C20: a well-formed value whose encoding consists of bytes contains only bytes (`bytesOK`) — hence every value the
decoder returns for a real byte string does (`C20.decoded_bytesOK`).
-/
namespace ChiaModel.JsonDict
open ChiaModel ChiaModel.Streamable

def BOK (e : Enc) (w : Wf) : Prop := ∀ v p, w v = true → e v = some p → isBytes p → bytesOK v = true

theorem all_of_isBytes {c : Bytes} (h : isBytes c) : c.all (· < 256) = true := by
  simp only [List.all_eq_true, decide_eq_true_eq]
  exact h

theorem optAppend_eq_some {a b : Option Bytes} {p : Bytes} (h : optAppend a b = some p) :
    ∃ x y, a = some x ∧ b = some y ∧ p = x ++ y := by
  cases a <;> cases b <;> simp [optAppend] at h
  exact ⟨_, _, rfl, rfl, h.symm⟩

theorem bok_uint (n : Nat) : BOK (encUint n) (wfUint n) := by
  intro v p hv _ _
  obtain ⟨x, rfl, _⟩ := wfUint_iff.mp hv
  rfl
theorem bok_sint (n : Nat) : BOK (encSint n) (wfSint n) := by
  intro v p hv _ _
  obtain ⟨x, rfl, _⟩ := wfSint_iff.mp hv
  rfl
theorem bok_bool : BOK encBool wfBool := by
  intro v p hv _ _
  cases v <;> simp [wfBool] at hv
  rfl
theorem bok_unit : BOK encUnit wfUnit := by
  intro v p hv _ _
  cases v <;> simp [wfUnit] at hv
  rfl
theorem bok_enum (vals : List Nat) : BOK (encEnum vals) (wfEnum vals) := by
  intro v p hv _ _
  cases v <;> simp [wfEnum] at hv
  rfl
theorem bok_bytes : BOK encBytes wfBytes := by
  intro v p hv he hp
  cases v <;> simp [wfBytes] at hv
  rename_i c
  simp only [encBytes, hv, if_true, Option.some.injEq] at he
  subst he
  exact all_of_isBytes (isBytes_append.mp hp).2
theorem bok_str : BOK encStr wfStr := by
  intro v p hv he hp
  cases v <;> simp [wfStr] at hv
  rename_i c
  simp only [encStr, hv.1, hv.2, decide_true, Bool.and_self, if_true, Option.some.injEq] at he
  subst he
  exact all_of_isBytes (isBytes_append.mp hp).2
theorem bok_opaque (n : Nat) (valid : Bytes → Bool) : BOK (encBytesN n) (wfOpaque n valid) := by
  intro v p hv he hp
  obtain ⟨c, rfl, hc, _⟩ := wfOpaque_iff.mp hv
  simp only [encBytesN, hc, if_true, Option.some.injEq] at he
  subst he
  exact all_of_isBytes hp
theorem bok_bytesN (n : Nat) : BOK (encBytesN n) (wfBytesN n) := by
  rw [wfBytesN_eq]; exact bok_opaque n _
theorem bok_program (O : Oracles) (tr : Bool) : BOK encProgram (wfProgram O tr) := by
  intro v p hv he hp
  cases v <;> simp only [wfProgram, Bool.false_eq_true] at hv
  simp only [encProgram, Option.some.injEq] at he
  subst he
  exact all_of_isBytes hp

theorem bok_option {e : Enc} {w : Wf} (h : BOK e w) : BOK (encOption e) (wfOption w) := by
  intro v p hv he hp
  rcases wfOption_iff.mp hv with rfl | ⟨x, rfl, hx⟩
  · rfl
  · simp only [encOption, Option.map_eq_some_iff] at he
    obtain ⟨q, hq, rfl⟩ := he
    simp only [bytesOK]
    exact h x q hx hq (isBytes_cons.mp hp).2

theorem bok_all {e : Enc} {w : Wf} (h : BOK e w) : ∀ (l : List V) (p : Bytes), l.all w = true → encAll e l = some p →
    isBytes p → bytesOKL l = true
  | [], _, _, _, _ => rfl
  | v :: vs, p, hw, he, hp => by
    simp only [List.all_cons, Bool.and_eq_true] at hw
    simp only [encAll] at he
    obtain ⟨x, y, hx, hy, rfl⟩ := optAppend_eq_some he
    have hxy := isBytes_append.mp hp
    simp only [bytesOKL, Bool.and_eq_true]
    exact ⟨h v x hw.1 hx hxy.1, bok_all h vs y hw.2 hy hxy.2⟩

theorem bok_vec {e : Enc} {w : Wf} (h : BOK e w) : BOK (encVec e) (wfVec w) := by
  intro v p hv he hp
  obtain ⟨l, rfl, hlen, hall⟩ := wfVec_iff.mp hv
  simp only [encVec, hlen, if_true, Option.map_eq_some_iff] at he
  obtain ⟨q, hq, rfl⟩ := he
  simp only [bytesOK]
  exact bok_all h l q hall hq (isBytes_append.mp hp).2

theorem bok_array (n : Nat) {e : Enc} {w : Wf} (h : BOK e w) : BOK (encArray n e) (wfArray n w) := by
  intro v p hv he hp
  obtain ⟨l, rfl, hlen, hall⟩ := wfArray_iff.mp hv
  simp only [encArray, hlen, if_true] at he
  simp only [bytesOK]
  exact bok_all h l p hall he hp

theorem bok_optpair {e g : Enc} {w x : Wf} (h1 : BOK e w) (h2 : BOK g x) : BOK (encOptPair e g) (wfOptPair w x) := by
  intro v p hv he hp
  obtain ⟨a, b, rfl, ha, hb⟩ := wfOptPair_iff.mp hv
  have key : bytesOK a = true ∧ bytesOK b = true → bytesOK (.tup [a, b]) = true := by
    intro h; simp only [bytesOK, bytesOKL, h.1, h.2, Bool.and_self]
  apply key
  rcases wfOption_iff.mp ha with rfl | ⟨xa, rfl, hxa⟩ <;> rcases wfOption_iff.mp hb with rfl | ⟨xb, rfl, hxb⟩
  · exact ⟨rfl, rfl⟩
  · simp only [encOptPair, Option.map_eq_some_iff] at he
    obtain ⟨q, hq, rfl⟩ := he
    exact ⟨rfl, h2 xb q hxb hq (isBytes_cons.mp hp).2⟩
  · simp only [encOptPair, Option.map_eq_some_iff] at he
    obtain ⟨q, hq, rfl⟩ := he
    exact ⟨h1 xa q hxa hq (isBytes_cons.mp hp).2, rfl⟩
  · simp only [encOptPair, Option.map_eq_some_iff] at he
    obtain ⟨q, hq, rfl⟩ := he
    obtain ⟨y1, y2, hy1, hy2, rfl⟩ := optAppend_eq_some hq
    have := isBytes_append.mp (isBytes_cons.mp hp).2
    exact ⟨h1 xa y1 hxa hy1 this.1, h2 xb y2 hxb hy2 this.2⟩

theorem bok_gentail (O : Oracles) (tr : Bool) : BOK encGenTail (wfGenTail O tr) := by
  intro v p hv he hp
  obtain ⟨gen, refs, buf, version, rfl, h⟩ := wfGenTail_iff.mp hv
  have key : bytesOK gen = true ∧ bytesOK refs = true ∧ bytesOK buf = true →
      bytesOK (.tup [gen, refs, buf, .n version]) = true := by
    intro h; simp only [bytesOK, bytesOKL, h.1, h.2.1, h.2.2, Bool.and_self]
  apply key
  rcases h with ⟨rfl, hg, hr, rfl⟩ | ⟨rfl, rfl, rfl, hbuf⟩
  · simp only [encGenTail, if_true] at he
    obtain ⟨y1, y2, hy1, hy2, rfl⟩ := optAppend_eq_some he
    have := isBytes_append.mp hp
    exact ⟨bok_option (bok_program O tr) gen y1 hg hy1 this.1, bok_vec (bok_uint 4) refs y2 hr hy2 this.2, rfl⟩
  · refine ⟨rfl, rfl, ?_⟩
    rcases wfOption_iff.mp hbuf with rfl | ⟨x, rfl, hx⟩
    · rfl
    · cases x <;> simp [wfBytes] at hx
      rename_i c
      simp only [encGenTail, if_neg (by decide : ¬ (1 : Nat) = 0), if_true, Option.some.injEq] at he
      subst he
      simp only [bytesOK]
      exact all_of_isBytes (isBytes_append.mp (isBytes_cons.mp hp).2).2

theorem bok_tup {e : List V → Option Bytes} {w : List V → Bool}
    (h : ∀ l p, w l = true → e l = some p → isBytes p → bytesOKL l = true) : BOK (encTup e) (wfTup w) := by
  intro v p hv he hp
  cases v <;> simp only [wfTup, Bool.false_eq_true] at hv
  rename_i l
  simp only [bytesOK]
  exact h l p hv he hp

theorem bok_contract2 : BOK encContract2 (wfOption (wfBytesN 32)) := by
  intro v p hv he hp
  rcases wfOption_iff.mp hv with rfl | ⟨x, rfl, hx⟩
  · rfl
  · simp only [encContract2, Option.map_eq_some_iff] at he
    obtain ⟨q, hq, rfl⟩ := he
    simp only [bytesOK]
    exact bok_bytesN 32 x q hx hq (isBytes_cons.mp hp).2

theorem bok_pos (O : Oracles) (tr : Bool) : BOK (encPos O false) (wfPos O tr) := by
  intro v p hv he hp
  obtain ⟨ch, pp, ct, pk, version, pi, mg, st, sz, pf, rfl, h1, h2, h3, h4, h5, h6⟩ := wfPos_iff.mp hv
  simp only [encPos] at he
  split at he
  · rename_i chb ppb pkb pfb e1 e2 e3 e4
    -- the byte-carrying fields, each judged by its own part of `p` (`ctb`: the contract hash, encoded per version)
    have fields : ∀ {ctb}, (isBytes ctb → bytesOK ct = true) → isBytes chb → isBytes ppb → isBytes ctb → isBytes pkb →
        isBytes pfb → bytesOK (.tup [ch, pp, ct, pk, .n version, .n pi, .n mg, .n st, .n sz, pf]) = true := by
      intro ctb hct c1 c2 c3 c4 c5
      simp only [bytesOK, bytesOKL, bok_bytesN 32 ch chb h1 e1 c1, bok_option (bok_opaque 48 _) pp ppb h2 e2 c2, hct c3,
        bok_opaque 48 _ pk pkb h4 e3 c4, bok_bytes pf pfb h5 e4 c5, Bool.and_self]
    rcases h6 with ⟨rfl, rfl, rfl, rfl, _⟩ | ⟨rfl, _, _, _, rfl, _⟩
    · rw [if_pos rfl] at he
      split at he
      · rename_i ctb szb e5 e6
        cases he
        simp only [isBytes_append] at hp
        exact fields (bok_option (bok_bytesN 32) ct ctb h3 e5) hp.1.1.1.1.1 hp.1.1.1.1.2 hp.1.1.1.2 hp.1.1.2 hp.2
      · cases he
    · rw [if_neg (by decide), if_pos rfl] at he
      split at he
      · rename_i ctb pib mgb stb e5 e6 e7 e8
        cases he
        simp only [isBytes_append] at hp
        exact fields (bok_contract2 ct ctb h3 e5) hp.1.1.1.1.1.1.1 hp.1.1.1.1.1.1.2 hp.1.1.1.1.1.2 hp.1.1.1.1.2 hp.2
      · cases he
  · cases he

mutual
theorem bok_encode (O : Oracles) (tr : Bool) : ∀ t : Ty, BOK (encodeH O false t) (WF O tr t)
  | .uint n => bok_uint n
  | .sint n => bok_sint n
  | .bool => bok_bool
  | .unit => bok_unit
  | .bytes => bok_bytes
  | .bytesN n => bok_bytesN n
  | .str => bok_str
  | .option t => bok_option (bok_encode O tr t)
  | .vec t => bok_vec (bok_encode O tr t)
  | .tuple ts => bok_tup (bok_encodeL O tr ts)
  | .array n t => bok_array n (bok_encode O tr t)
  | .struct _ _ ts => bok_tup (bok_encodeL O tr ts)
  | .enum8 _ vals => bok_enum vals
  | .program => bok_program O tr
  | .g1 => bok_opaque 48 _
  | .g2 => bok_opaque 96 _
  | .gt => bok_opaque 576 _
  | .secretKey => bok_opaque 32 _
  | .optpair t u => bok_optpair (bok_encode O tr t) (bok_encode O tr u)
  | .genTail _ => bok_gentail O tr
  | .proofOfSpace => bok_pos O tr
theorem bok_encodeL (O : Oracles) (tr : Bool) : ∀ (ts : List Ty) (l : List V) (p : Bytes), WFL O tr ts l = true →
    encodeLH O false ts l = some p → isBytes p → bytesOKL l = true
  | [], [], _, _, _, _ => rfl
  | [], _ :: _, _, hw, _, _ | _ :: _, [], _, hw, _, _ => by cases hw
  | t :: ts, v :: vs, p, hw, he, hp => by
    simp only [WFL, Bool.and_eq_true] at hw
    simp only [encodeLH] at he
    obtain ⟨x, y, hx, hy, rfl⟩ := optAppend_eq_some he
    have hxy := isBytes_append.mp hp
    simp only [bytesOKL, Bool.and_eq_true]
    exact ⟨bok_encode O tr t v x hw.1 hx hxy.1, bok_encodeL O tr ts vs y hw.2 hy hxy.2⟩
end

end ChiaModel.JsonDict
