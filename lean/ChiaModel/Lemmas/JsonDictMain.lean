import ChiaModel.Lemmas.JsonDict
/-!
C20: the round trip `fromJson t (toJson t v) = ok v` by induction on the descriptor (mutually with the element lists,
the single field of a transparent struct and the field lists of a named struct); and that a field list that is
accepted found an item under each of its keys.
-/
namespace ChiaModel.JsonDict
open ChiaModel ChiaModel.Streamable

structure FieldSpec where
  key : String
  toJ : ToJ
  fromJ : FromJ
  wf : Wf

def AllOK : List FieldSpec → List V → Prop
  | [], [] => True
  | s :: ss, v :: vs => (s.wf v = true ∧ bytesOK v = true) ∧ AllOK ss vs
  | _, _ => False

/-- explicit field lists (`ProofOfSpace`, the generator tail): if every field round-trips, the fields are written
under their keys and read back from any dict in which those keys hold those values -/
theorem fields_rt : ∀ (specs : List FieldSpec) (vs : List V),
    (∀ s ∈ specs, RT s.toJ s.fromJ s.wf) → AllOK specs vs →
    ∃ kvs, fieldsToJ (specs.map fun s => (s.key, s.toJ)) vs = some kvs ∧ kvs.map Prod.fst = specs.map (·.key) ∧
      ∀ d, (∀ kj ∈ kvs, d.lookup kj.1 = some kj.2) →
        fieldsFromJ (specs.map fun s => (s.key, s.fromJ)) (.dict d) = .ok vs
  | [], [], _, _ => ⟨[], rfl, rfl, fun _ _ => rfl⟩
  | [], _ :: _, _, hw | _ :: _, [], _, hw => nomatch hw
  | s :: specs, v :: vs, hs, hw => by
    obtain ⟨h1, hrest⟩ := hw
    obtain ⟨j, hj, hg⟩ := hs s (List.mem_cons_self) v h1.1 h1.2
    obtain ⟨kvs, hk, hkeys, hfrom⟩ := fields_rt specs vs (fun s' hs' => hs s' (List.mem_cons_of_mem _ hs')) hrest
    refine ⟨(s.key, j) :: kvs, by simp only [List.map_cons, fieldsToJ, hj, hk], by simp [hkeys], ?_⟩
    intro d hd
    have h0 := hd (s.key, j) (List.mem_cons_self)
    have hr := hfrom d (fun kj hkj => hd kj (List.mem_cons_of_mem _ hkj))
    simp only [List.map_cons, fieldsFromJ, getItem, h0, hg, hr]

theorem wfG1_eq (O : Oracles) : wfG1 O false = wfOpaque 48 (g1Valid O) := rfl
theorem wfG2_eq (O : Oracles) : wfG2 O false = wfOpaque 96 (g2Valid O) := rfl

def posSpecs (O : Oracles) : List FieldSpec := [
  ⟨"challenge", toHexJ, fromBytesN 32, wfBytesN 32⟩,
  ⟨"pool_public_key", toOption toHexJ, fromOption (fromBls 48 (g1Valid O)), wfOption (wfOpaque 48 (g1Valid O))⟩,
  ⟨"pool_contract_puzzle_hash", toOption toHexJ, fromOption (fromBytesN 32), wfOption (wfBytesN 32)⟩,
  ⟨"plot_public_key", toHexJ, fromBls 48 (g1Valid O), wfOpaque 48 (g1Valid O)⟩,
  ⟨"version", toUint, fromUint 1, wfUint 1⟩, ⟨"plot_index", toUint, fromUint 2, wfUint 2⟩,
  ⟨"meta_group", toUint, fromUint 1, wfUint 1⟩, ⟨"strength", toUint, fromUint 1, wfUint 1⟩,
  ⟨"size", toUint, fromUint 1, wfUint 1⟩, ⟨"proof", toBytesJ, fromBytesJ, wfBytes⟩]

theorem posSpecs_rt (O : Oracles) : ∀ s ∈ posSpecs O, RT s.toJ s.fromJ s.wf := by
  intro s hs
  simp only [posSpecs, List.mem_cons, List.not_mem_nil, or_false] at hs
  rcases hs with rfl | rfl | rfl | rfl | rfl | rfl | rfl | rfl | rfl | rfl
  · exact rt_bytesN 32
  · exact rt_option (rt_bls 48 _) nonNull_toHexJ
  · exact rt_option (rt_bytesN 32) nonNull_toHexJ
  · exact rt_bls 48 _
  · exact rt_uint 1
  · exact rt_uint 2
  · exact rt_uint 1
  · exact rt_uint 1
  · exact rt_uint 1
  · exact rt_bytes

theorem rt_pos (O : Oracles) : RT toPos (fromPos O) (wfPos O false) := by
  intro v hv hb
  obtain ⟨ch, pp, ct, pk, version, pi, mg, st, sz, pf, rfl, h1, h2, h3, h4, h5, h6⟩ := wfPos_iff.mp hv
  simp only [bytesOK, bytesOKL, Bool.and_eq_true] at hb
  rw [wfG1_eq] at h2 h4
  have hu : wfUint 1 (.n version) = true ∧ wfUint 2 (.n pi) = true ∧ wfUint 1 (.n mg) = true ∧
      wfUint 1 (.n st) = true ∧ wfUint 1 (.n sz) = true := by
    rcases h6 with ⟨rfl, rfl, rfl, rfl, hsz⟩ | ⟨rfl, hpi, hmg, hst, rfl, _⟩
    · simp [wfUint, hsz]
    · simp [wfUint, hpi, hmg, hst]
  have hall : AllOK (posSpecs O) [ch, pp, ct, pk, .n version, .n pi, .n mg, .n st, .n sz, pf] := by
    simp only [AllOK, posSpecs, bytesOK, and_true]
    exact ⟨⟨h1, hb.1⟩, ⟨h2, hb.2.1⟩, ⟨h3, hb.2.2.1⟩, ⟨h4, hb.2.2.2.1⟩, hu.1, hu.2.1, hu.2.2.1, hu.2.2.2.1, hu.2.2.2.2, h5, hb.2.2.2.2.2.2.2.2.2.1⟩
  obtain ⟨kvs, hto, hkeys, hfrom⟩ := fields_rt (posSpecs O) _ (posSpecs_rt O) hall
  have hk2 : (posSpecs O).map (·.key) = posKeys := rfl
  have hnd : (kvs.map Prod.fst).Nodup := by rw [hkeys, hk2]; decide +kernel
  refine ⟨.dict kvs, ?_, ?_⟩
  · show (fieldsToJ posToFields _).map J.dict = _
    have : posToFields = (posSpecs O).map fun s => (s.key, s.toJ) := rfl
    rw [this, hto]; rfl
  · have : posFromFields O = (posSpecs O).map fun s => (s.key, s.fromJ) := rfl
    simp only [fromPos, this, hfrom kvs (lookup_of_nodup kvs hnd)]

def genTailSpecs (O : Oracles) (k1 k2 k3 k4 : String) : List FieldSpec := [
  ⟨k1, toOption toBytesJ, fromOption (fromProgram O), wfOption (wfProgram O false)⟩,
  ⟨k2, toVec toUint, fromVec (fromUint 4), wfVec (wfUint 4)⟩,
  ⟨k3, toOption toU8Vec, fromOption fromU8Vec, wfOption wfBytes⟩,
  ⟨k4, toUint, fromUint 1, wfUint 1⟩]

theorem genTailSpecs_rt (O : Oracles) (k1 k2 k3 k4 : String) : ∀ s ∈ genTailSpecs O k1 k2 k3 k4, RT s.toJ s.fromJ s.wf := by
  intro s hs
  simp only [genTailSpecs, List.mem_cons, List.not_mem_nil, or_false] at hs
  rcases hs with rfl | rfl | rfl | rfl
  · exact rt_option (rt_program O) nonNull_toBytesJ
  · exact rt_vec (rt_uint 4)
  · exact rt_option rt_u8vec nonNull_toU8Vec
  · exact rt_uint 1

theorem genTail_rt (O : Oracles) (k1 k2 k3 k4 : String) (v : V) (hv : wfGenTail O false v = true)
    (hb : bytesOK v = true) :
    ∃ gs kvs, v = .tup gs ∧ fieldsToJ (genTailToFields k1 k2 k3 k4) gs = some kvs ∧ kvs.map Prod.fst = [k1, k2, k3, k4] ∧
      ∀ d, (∀ kj ∈ kvs, d.lookup kj.1 = some kj.2) → fieldsFromJ (genTailFromFields O k1 k2 k3 k4) (.dict d) = .ok gs := by
  obtain ⟨gen, refs, buf, version, rfl, h⟩ := wfGenTail_iff.mp hv
  simp only [bytesOK, bytesOKL, Bool.and_eq_true] at hb
  have hall : AllOK (genTailSpecs O k1 k2 k3 k4) [gen, refs, buf, .n version] := by
    simp only [AllOK, genTailSpecs, bytesOK, and_true]
    rcases h with ⟨rfl, hg, hr, rfl⟩ | ⟨rfl, rfl, rfl, hbuf⟩
    · exact ⟨⟨hg, hb.1⟩, ⟨hr, hb.2.1⟩, ⟨rfl, rfl⟩, by simp [wfUint]⟩
    · exact ⟨⟨rfl, rfl⟩, ⟨by simp [wfVec, u32Max], rfl⟩, ⟨hbuf, hb.2.2.1⟩, by simp [wfUint]⟩
  obtain ⟨kvs, hto, hkeys, hfrom⟩ := fields_rt (genTailSpecs O k1 k2 k3 k4) _ (genTailSpecs_rt O k1 k2 k3 k4) hall
  exact ⟨_, kvs, rfl, hto, hkeys, hfrom⟩

/-! ## unfolding of the field-list functions on an ordinary field

In each of `toJsonF`, `fromJsonF`, `WFjsonF` the ordinary field is the fourth clause, behind `[]`, `optpair` and `genTail`.
Lean's own equation for it (`eq_4`) asks that the field type is neither group; `isGroup t = false` says so. -/

def isGroup : Ty → Bool
  | .optpair _ _ => true
  | .genTail _ => true
  | _ => false

theorem toJsonF_plain (k : String) (keys : List String) (t : Ty) (ts : List Ty) (v : V) (vs : List V)
    (h : isGroup t = false) :
    toJsonF (k :: keys) (t :: ts) (v :: vs) =
      match toJsonF keys ts vs with
      | none => none
      | some rest => match toJson t v with
        | some j => some ((k, j) :: rest)
        | none => none :=
  toJsonF.eq_4 k keys t ts v vs (by rintro _ _ a b _ rfl; cases h) (by rintro _ _ _ _ p _ rfl; cases h)

theorem fromJsonF_plain (O : Oracles) (k : String) (keys : List String) (t : Ty) (ts : List Ty) (o : J)
    (h : isGroup t = false) :
    fromJsonF O (k :: keys) (t :: ts) o =
      match getItem o k with
      | .error e => .error e
      | .ok j => match fromJson O t j with
        | .error e => .error e
        | .ok v => match fromJsonF O keys ts o with
          | .error e => .error e
          | .ok vs => .ok (v :: vs) :=
  fromJsonF.eq_4 O o k keys t ts (by rintro _ _ a b _ rfl; cases h) (by rintro _ _ _ _ p _ rfl; cases h)

theorem WFjsonF_plain (k : String) (keys : List String) (t : Ty) (ts : List Ty) (h : isGroup t = false) :
    WFjsonF (k :: keys) (t :: ts) = (WFjson t && WFjsonF keys ts) :=
  WFjsonF.eq_4 k keys t ts (by rintro _ _ a b _ rfl; cases h) (by rintro _ _ _ _ p _ rfl; cases h)

theorem WFjsonF_nil_cons (t : Ty) (ts : List Ty) : WFjsonF [] (t :: ts) = false := by
  cases t <;> simp only [WFjsonF]

theorem fromJsonF_nil_cons (O : Oracles) (t : Ty) (ts : List Ty) (o : J) : fromJsonF O [] (t :: ts) o = .error "descriptor" := by
  cases t <;> simp only [fromJsonF]

mutual
theorem nonNull_json : ∀ t : Ty, nullable t = false → NonNull (toJson t)
  | .uint _, _ => nonNull_toUint
  | .sint _, _ => nonNull_toSint
  | .bool, _ => nonNull_toBool
  | .bytes, _ => nonNull_toBytesJ
  | .bytesN _, _ => nonNull_toHexJ
  | .str, _ => nonNull_toStr
  | .option _, h => nomatch h
  | .vec _, _ => nonNull_toVec _
  | .tuple ts, _ => by
    intro v j h
    simp only [toJson] at h
    cases v <;> simp only [reduceCtorEq] at h
    split at h
    · obtain ⟨a, _, rfl⟩ := Option.map_eq_some_iff.mp h
      nofun
    · cases h
  | .array _ _, _ => nonNull_toVec _
  | .struct _ keys ts, h => by
    intro v j hj
    simp only [toJson] at hj
    cases v <;> simp only [reduceCtorEq] at hj
    rename_i vs
    split at hj
    · rename_i hk
      simp only [nullable, (Bool.and_eq_true_iff.mp hk).1, Bool.true_and] at h
      exact nonNull_jsonNT ts h vs j hj
    · obtain ⟨a, _, rfl⟩ := Option.map_eq_some_iff.mp hj
      nofun
  | .enum8 _ _, _ => nonNull_toEnum
  | .program, _ => nonNull_toBytesJ
  | .g1, _ => nonNull_toHexJ
  | .g2, _ => nonNull_toHexJ
  | .gt, _ => nonNull_toHexJ
  | .secretKey, _ => nonNull_toHexJ
  | .unit, _ | .optpair _ _, _ | .genTail _, _ => fun _ _ h => nomatch h
  | .proofOfSpace, _ => nonNull_toPos
theorem nonNull_jsonNT : ∀ ts : List Ty, nullableNT ts = false → ∀ vs j, toJsonNT ts vs = some j → j ≠ .null
  | [t], h, [v], j, hj => nonNull_json t h v j hj
  | [_], _, [], _, hj | [_], _, _ :: _ :: _, _, hj | [], _, _, _, hj | _ :: _ :: _, _, _, _, hj => nomatch hj
end

mutual
theorem rt_json (O : Oracles) : ∀ t : Ty, WFjson t = true → RT (toJson t) (fromJson O t) (WF O false t)
  | .uint n, _ => rt_uint n
  | .sint n, _ => rt_sint n
  | .bool, _ => rt_bool
  | .bytes, _ => rt_bytes
  | .bytesN n, _ => rt_bytesN n
  | .str, _ => rt_str
  | .option t, h => by
    simp only [WFjson, Bool.and_eq_true, Bool.not_eq_true'] at h
    exact rt_option (rt_json O t h.2) (nonNull_json t h.1)
  | .vec t, h => rt_vec (rt_json O t h)
  | .tuple ts, h => by
    intro v hv hb
    simp only [WFjson, Bool.and_eq_true, Bool.or_eq_true, beq_iff_eq] at h
    cases v with
    | tup vs =>
      obtain ⟨js, hjs, hlen, hgs⟩ := rt_jsonL O ts h.2 vs hv hb
      exact ⟨.list js, by simp only [toJson, h.1, if_true, hjs, Option.map_some],
        by simp only [fromJson, h.1, if_true, fixedSeq, hlen, hgs]⟩
    | _ => cases hv
  | .array n t, h => rt_array n (rt_json O t h)
  | .struct _ keys ts, h => by
    intro v hv hb
    cases v with
    | tup vs =>
      by_cases hk : (keys.isEmpty && !ts.isEmpty) = true
      · simp only [WFjson, toJson, fromJson, if_pos hk] at h ⊢
        obtain ⟨j, v1, rfl, hj, hg⟩ := rt_jsonNT O ts h vs hv hb
        exact ⟨j, hj, by rw [hg]⟩
      · simp only [WFjson, toJson, fromJson, if_neg hk] at h ⊢
        simp only [Bool.and_eq_true, decide_eq_true_eq] at h
        obtain ⟨kvs, hto, hkeys, hfrom⟩ := rt_jsonF O ts keys h.2 vs hv hb
        exact ⟨.dict kvs, by rw [hto]; rfl, by rw [hfrom kvs (lookup_of_nodup kvs (hkeys ▸ h.1))]⟩
    | _ => cases hv
  | .enum8 _ vals, h => rt_enum vals h
  | .program, _ => rt_program O
  | .g1, _ => rt_bls 48 _
  | .g2, _ => rt_bls 96 _
  | .gt, _ => rt_bls 576 _
  | .secretKey, _ => rt_bls 32 _
  | .unit, h | .optpair _ _, h | .genTail _, h => nomatch h
  | .proofOfSpace, _ => rt_pos O
theorem rt_jsonL (O : Oracles) : ∀ ts : List Ty, WFjsonL ts = true → ∀ vs, WFL O false ts vs = true → bytesOKL vs = true →
    ∃ js, toJsonL ts vs = some js ∧ js.length = ts.length ∧ fromJsonL O ts js = .ok vs
  | [], _, [], _, _ => ⟨[], rfl, rfl, rfl⟩
  | [], _, _ :: _, hv, _ | _ :: _, _, [], hv, _ => by cases hv
  | t :: ts, h, v :: vs, hv, hb => by
    have h := Bool.and_eq_true_iff.mp h
    have hv := Bool.and_eq_true_iff.mp hv
    have hb := Bool.and_eq_true_iff.mp hb
    obtain ⟨j, hj, hg⟩ := rt_json O t h.1 v hv.1 hb.1
    obtain ⟨js, hjs, hlen, hgs⟩ := rt_jsonL O ts h.2 vs hv.2 hb.2
    exact ⟨j :: js, by simp only [toJsonL, hj, hjs], by simp [hlen], by simp only [fromJsonL, hg, hgs]⟩
theorem rt_jsonNT (O : Oracles) : ∀ ts : List Ty, WFjsonNT ts = true → ∀ vs, WFL O false ts vs = true → bytesOKL vs = true →
    ∃ j v, vs = [v] ∧ toJsonNT ts vs = some j ∧ fromJsonNT O ts j = .ok v
  | [t], h, [v], hv, hb => by
    obtain ⟨j, hj, hg⟩ := rt_json O t h v (Bool.and_eq_true_iff.mp hv).1 (Bool.and_eq_true_iff.mp hb).1
    exact ⟨j, v, rfl, hj, hg⟩
  | [_], _, [], hv, _ => nomatch hv
  | [_], _, _ :: _ :: _, hv, _ => by simp [WFL] at hv
  | [], h, _, _, _ | _ :: _ :: _, h, _, _, _ => nomatch h
theorem rt_jsonF (O : Oracles) : ∀ (ts : List Ty) (keys : List String), WFjsonF keys ts = true →
    ∀ vs, WFL O false ts vs = true → bytesOKL vs = true →
    ∃ kvs, toJsonF keys ts vs = some kvs ∧ kvs.map Prod.fst = keys ∧
      ∀ d, (∀ kj ∈ kvs, d.lookup kj.1 = some kj.2) → fromJsonF O keys ts (.dict d) = .ok vs
  | [], [], _, [], _, _ => ⟨[], rfl, rfl, fun _ _ => rfl⟩
  | [], [], _, _ :: _, hv, _ | _ :: _, _, _, [], hv, _ => by cases hv
  | [], _ :: _, h, _, _, _ => by simp [WFjsonF] at h
  | t :: ts, keys, h, v :: vs, hv, hb => by
    simp only [WFL, Bool.and_eq_true] at hv
    simp only [bytesOKL, Bool.and_eq_true] at hb
    cases hg : isGroup t
    · -- an ordinary field
      cases keys with
      | nil => rw [WFjsonF_nil_cons] at h; exact absurd h Bool.false_ne_true
      | cons k keys =>
        rw [WFjsonF_plain _ _ _ _ hg] at h
        simp only [Bool.and_eq_true] at h
        obtain ⟨j, hj, hgj⟩ := rt_json O t h.1 v hv.1 hb.1
        obtain ⟨kvs, hto, hkeys, hfrom⟩ := rt_jsonF O ts keys h.2 vs hv.2 hb.2
        refine ⟨(k, j) :: kvs, by rw [toJsonF_plain _ _ _ _ _ _ hg]; simp only [hto, hj], by simp [hkeys], ?_⟩
        intro d hd
        rw [fromJsonF_plain O _ _ _ _ _ hg]
        simp only [getItem, hd (k, j) (List.mem_cons_self), hgj, hfrom d (fun kj hkj => hd kj (List.mem_cons_of_mem _ hkj))]
    · cases t <;> simp only [isGroup, Bool.false_eq_true] at hg
      case optpair a b =>
        match keys, h with
        | [], h | [_], h => cases h
        | k1 :: k2 :: keys, h =>
          simp only [WFjsonF, Bool.and_eq_true, Bool.not_eq_true'] at h
          obtain ⟨⟨⟨⟨ha0, ha⟩, hb0⟩, hb'⟩, hrest⟩ := h
          simp only [WF] at hv
          obtain ⟨x, y, rfl, hx, hy⟩ := wfOptPair_iff.mp hv.1
          simp only [bytesOK, bytesOKL, Bool.and_eq_true, Bool.and_true] at hb
          obtain ⟨jx, hjx, hgx⟩ := rt_option (rt_json O a ha) (nonNull_json a ha0) x hx hb.1.1
          obtain ⟨jy, hjy, hgy⟩ := rt_option (rt_json O b hb') (nonNull_json b hb0) y hy hb.1.2
          obtain ⟨kvs, hto, hkeys, hfrom⟩ := rt_jsonF O ts keys hrest vs hv.2 hb.2
          refine ⟨(k1, jx) :: (k2, jy) :: kvs, by simp only [toJsonF, hto, hjx, hjy], by simp [hkeys], ?_⟩
          intro d hd
          have h1 := hd (k1, jx) (List.mem_cons_self)
          have h2 := hd (k2, jy) (List.mem_cons_of_mem _ List.mem_cons_self)
          have h3 := hfrom d (fun kj hkj => hd kj (List.mem_cons_of_mem _ (List.mem_cons_of_mem _ hkj)))
          simp only [fromJsonF, getItem, h1, h2, hgx, hgy, h3]
      case genTail p =>
        match keys, h with
        | [], h | [_], h | [_, _], h | [_, _, _], h => cases h
        | k1 :: k2 :: k3 :: k4 :: keys, h =>
          simp only [WFjsonF] at h
          simp only [WF] at hv
          obtain ⟨gs, kvg, rfl, htog, hkeysg, hfromg⟩ := genTail_rt O k1 k2 k3 k4 v hv.1 hb.1
          obtain ⟨kvs, hto, hkeys, hfrom⟩ := rt_jsonF O ts keys h vs hv.2 hb.2
          refine ⟨kvg ++ kvs, by simp only [toJsonF, hto, htog], by simp [hkeysg, hkeys], ?_⟩
          intro d hd
          have h1 := hfromg d (fun kj hkj => hd kj (List.mem_append_left _ hkj))
          have h3 := hfrom d (fun kj hkj => hd kj (List.mem_append_right _ hkj))
          simp only [fromJsonF, h1, h3]
end

theorem fieldsFromJ_keys (fs : List (String × FromJ)) (o : J) : ∀ vs : List V,
    fieldsFromJ fs o = .ok vs → ∀ k ∈ fs.map Prod.fst, ∃ j, getItem o k = .ok j := by
  fun_induction fieldsFromJ fs o with
  | case1 => exact fun _ _ _ hk => nomatch hk
  | case5 k f fs o j hj _ _ vs' hr ih =>   -- the field is accepted, and so is the rest
    intro _ _ k' hk'
    rcases List.mem_cons.mp hk' with rfl | hk'
    · exact ⟨j, hj⟩
    · exact ih vs' hr k' hk'
  | _ => intro _ h; cases h

theorem fromJsonF_keys (O : Oracles) (ts : List Ty) (keys : List String) (o : J) : ∀ vs : List V,
    fromJsonF O keys ts o = .ok vs → ∀ k ∈ keys, ∃ j, getItem o k = .ok j := by
  -- A field type takes one key, or two (`optpair`) or four (`genTail`) when it is a group.  An accepting run has looked
  -- up every key it took before going on to `ts`; every other arm of `fromJsonF` is an error.
  fun_cases fromJsonF O keys ts o with
  | case1 => exact fun _ _ _ hk => nomatch hk
  | case7 k1 k2 keys a b ts o j1 hj1 _ _ j2 hj2 _ _ vs' hr =>   -- `optpair`, accepted
    intro _ _ k' hk'
    rcases List.mem_cons.mp hk' with rfl | hk'
    · exact ⟨j1, hj1⟩
    rcases List.mem_cons.mp hk' with rfl | hk'
    · exact ⟨j2, hj2⟩
    · exact fromJsonF_keys O ts keys o vs' hr k' hk'
  | case10 k1 k2 k3 k4 keys _ ts o gs hgs vs' hr =>   -- `genTail`, accepted
    intro _ _ k' hk'
    rcases List.mem_append.mp (show k' ∈ [k1, k2, k3, k4] ++ keys from hk') with hk' | hk'
    · exact fieldsFromJ_keys _ o gs hgs k' hk'
    · exact fromJsonF_keys O ts keys o vs' hr k' hk'
  | case14 k keys t ts o _ _ j hj _ _ vs' hr =>   -- an ordinary field, accepted
    intro _ _ k' hk'
    rcases List.mem_cons.mp hk' with rfl | hk'
    · exact ⟨j, hj⟩
    · exact fromJsonF_keys O ts keys o vs' hr k' hk'
  | _ => intro _ h; cases h
-- by the length: structural recursion through the case principle of the mutual `fromJsonF` is slow to compile
termination_by ts.length
decreasing_by all_goals (subst_vars; exact Nat.lt_succ_self _)

end ChiaModel.JsonDict
