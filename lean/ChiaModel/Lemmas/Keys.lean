import ChiaModel.Model.Keys
import ChiaModel.Lemmas.Ints
/-
C16, the byte level: a 32-byte big-endian string is its minimal form behind zero bytes (`pad_dropWhile`), a string is
all-zero exactly when its value is 0, so `from_bytes` accepts exactly the values below `r` (`skFromBytes_eq`); and Rust's
`((v % r) + r) % r` with truncating `%` is the Euclidean remainder (`tmod_add_tmod`).
-/
namespace ChiaModel.Keys
open ChiaModel

theorem isBytes_reverse {b : Bytes} (hb : isBytes b) : isBytes b.reverse :=
  fun x hx => hb x (List.mem_reverse.mp hx)

theorem isAllZero_eq_replicate {b : Bytes} (h : isAllZero b = true) : b = List.replicate b.length 0 :=
  List.eq_replicate_iff.mpr ⟨rfl, fun x hx => beq_iff_eq.mp (List.all_eq_true.mp h x hx)⟩

theorem isAllZero_iff {b : Bytes} : isAllZero b = true ↔ beVal b = 0 := by
  induction b with
  | nil => exact ⟨fun _ => rfl, fun _ => rfl⟩
  | cons x t ih =>
    by_cases hx : x = 0
    · subst hx
      rw [beVal_zero_cons, ← ih]
      simp [isAllZero]
    · have := pow_le_beVal x 0 t hx (Nat.zero_le _)
      simp [isAllZero, hx]
      omega

theorem pad_dropWhile (l : Bytes) :
    List.replicate (l.length - (l.dropWhile (fun x => x == 0)).length) 0 ++ l.dropWhile (fun x => x == 0) = l := by
  have h := List.takeWhile_append_dropWhile (p := fun x => x == 0) (l := l)
  have hlen := congrArg List.length h
  rw [List.length_append] at hlen
  have : l.takeWhile (fun x => x == 0) = List.replicate (l.length - (l.dropWhile (fun x => x == 0)).length) 0 :=
    List.eq_replicate_iff.mpr ⟨by omega, fun b hb => beq_iff_eq.mp (List.all_eq_true.mp List.all_takeWhile b hb)⟩
  rw [← this, h]

theorem r_lt : r < 256 ^ 32 := by decide

/-- `SecretKey::from_bytes` accepts exactly the strings whose value is below `r`: the all-zero test lets the value 0,
and nothing else, past `blst_sk_check` -/
theorem skFromBytes_eq (b : Bytes) : skFromBytes b = if beVal b < r then some (beVal b) else none := by
  unfold skFromBytes skCheck
  by_cases hz : isAllZero b = true
  · rw [if_pos hz, isAllZero_iff.mp hz, if_pos (by decide)]
  · have h0 : 0 < beVal b := Nat.pos_of_ne_zero (mt isAllZero_iff.mpr hz)
    simp [hz, h0]

theorem skFromBytes_skToBytes (s : Nat) (hs : s < r) : skFromBytes (skToBytes s) = some s := by
  rw [skFromBytes_eq, skToBytes, beVal_be _ _ (Nat.lt_trans hs r_lt), if_pos hs]

/-! ## truncating remainder, as `((v % r) + r) % r` uses it, is the Euclidean remainder -/

theorem tmod_add_tmod (v R : Int) (hR : 0 < R) : ((v.tmod R) + R).tmod R = v % R := by
  have h1 : -R < v.tmod R := Int.lt_tmod_of_pos v hR
  have hnn : 0 ≤ v.tmod R + R := by omega
  rw [Int.tmod_eq_emod_of_nonneg hnn, Int.add_emod_right]
  rw [Int.tmod_eq_emod]
  split
  · simp
  · have : ((R.natAbs : Nat) : Int) = R := Int.natAbs_of_nonneg (Int.le_of_lt hR)
    rw [this, Int.sub_emod_right, Int.emod_emod]

theorem mod_add_hom (a b m : Nat) : ((a + b) % m) % m = (a % m + b % m) % m := by
  rw [Nat.mod_mod, Nat.add_mod]

end ChiaModel.Keys
