import ChiaModel.Lemmas.EnterSpend
/-
C03: the lock fields of the model are summaries (`SpendSum`, `BundleSum` of Lemmas/TimeLocks.lean) of the locks its
conditions carry.  One derivation: the aggregates of the per-spend summary meet the specifications (`maxOpt_spec` …
`commonValue_spec`, Lemmas/Rules.lean), and a field combined with such an aggregate summarises the longer list (`*_append`).
So for the record an accepted spend pushes (`spendRec_locks`) and the bundle's absolute locks after it (`enterSpend_locks`),
hence along the spend loop (`spendLoop_locks`); and from any state for `stateAfter` (`stateAfter_locks`), hence for a list
of conditions by `applyAll_ok_iff`, for one condition, and for the condition loop (`applyAll_locks`, `applyCond_locks`,
`condLoop_locks`).
-/
namespace ChiaModel.TL
open ChiaModel ChiaModel.Cond ChiaModel.Rules

/-- `ha`: the birth rule of `SpendAccepts` makes the first birth assertion the common value -/
theorem spendRec_locks {env : Env} {p : PSpend} (cc : Nat) (ha : SpendAccepts env p.attrs 0 1024 (itemConds p.items)) :
    SpendSum (spendRec env cc p) ((itemConds p.items).filterMap lockOf) := by
  rw [spendRec_eq]
  constructor
  · rw [filterMap_lockOf lockOf_hr]; exact maxOpt_spec _
  · rw [filterMap_lockOf lockOf_sr]; exact maxOpt_spec _
  · rw [filterMap_lockOf lockOf_bhr]; exact minOpt_spec _
  · rw [filterMap_lockOf lockOf_bsr]; exact minOpt_spec _
  · rw [filterMap_lockOf lockOf_bh]; exact commonValue_spec _ ha.birthHeights_eq
  · rw [filterMap_lockOf lockOf_bs]; exact commonValue_spec _ ha.birthSeconds_eq

/-- the bundle's "before" locks are combined by `minOpt2`, which is `optApp optMin` -/
theorem MinSpec_minOpt2 {a b : Option Nat} {vs ws : List Nat} (h1 : MinSpec a vs) (h2 : MinSpec b ws) :
    MinSpec (minOpt2 a b) (vs ++ ws) := by
  rw [show minOpt2 a b = optApp optMin a b by cases a <;> cases b <;> rfl]
  exact MinSpec_append h1 h2

theorem enterSpend_locks (env : Env) (cc : Nat) {acc : Bundle × PState} {ls : List Lock} (p : PSpend) (h : BundleSum acc.1 ls) :
    BundleSum (enterSpend env cc acc p).1 (ls ++ (itemConds p.items).filterMap lockOf) := by
  rw [enterSpend_eq]
  constructor <;> rw [List.filterMap_append]
  · rw [filterMap_lockOf lockOf_ha]; exact AbsMaxSpec_append h.ha (maxList_spec _)
  · rw [filterMap_lockOf lockOf_sa]; exact AbsMaxSpec_append h.sa (maxList_spec _)
  · rw [filterMap_lockOf lockOf_bha]; exact MinSpec_minOpt2 h.bha (minOpt_spec _)
  · rw [filterMap_lockOf lockOf_bsa]; exact MinSpec_minOpt2 h.bsa (minOpt_spec _)

/-! ## from any state: the conditions of a list, one condition, the condition loop -/

/-- the lock fields of `stateAfter` are those of `s` combined with the aggregates of `cs`.  `hbh`, `hbs`: the birth rule of
`SpendAccepts`; `hc` makes the common birth value of `cs` the one `s` carries -/
theorem stateAfter_locks (env : Env) {s : CSt} {cs : List Cond} {ls bl : List Lock}
    (hbh : ∀ v ∈ birthHeights cs, ∀ w ∈ birthHeights cs, v = w) (hbs : ∀ v ∈ Rules.birthSeconds cs, ∀ w ∈ Rules.birthSeconds cs, v = w)
    (hc : Compatible s cs) (hs : SpendSum s.spend ls) (hb : BundleSum s.ret bl) :
    SpendSum (stateAfter env s cs).spend (ls ++ cs.filterMap lockOf) ∧
    BundleSum (stateAfter env s cs).ret (bl ++ cs.filterMap lockOf) := by
  refine ⟨?_, ?_⟩ <;> constructor <;> rw [List.filterMap_append]
  · rw [filterMap_lockOf lockOf_hr]; exact MaxSpec_append hs.hr (maxOpt_spec _)
  · rw [filterMap_lockOf lockOf_sr]; exact MaxSpec_append hs.sr (maxOpt_spec _)
  · rw [filterMap_lockOf lockOf_bhr]; exact MinSpec_append hs.bhr (minOpt_spec _)
  · rw [filterMap_lockOf lockOf_bsr]; exact MinSpec_append hs.bsr (minOpt_spec _)
  · rw [filterMap_lockOf lockOf_bh]
    exact SameSpec_append hs.bh (commonValue_spec _ hbh) fun v hv => hc.birthHeights v (List.mem_of_mem_head? hv)
  · rw [filterMap_lockOf lockOf_bs]
    exact SameSpec_append hs.bs (commonValue_spec _ hbs) fun v hv => hc.birthSeconds v (List.mem_of_mem_head? hv)
  · rw [filterMap_lockOf lockOf_ha]; exact AbsMaxSpec_append hb.ha (maxList_spec _)
  · rw [filterMap_lockOf lockOf_sa]; exact AbsMaxSpec_append hb.sa (maxList_spec _)
  · rw [filterMap_lockOf lockOf_bha]; exact MinSpec_minOpt2 hb.bha (minOpt_spec _)
  · rw [filterMap_lockOf lockOf_bsa]; exact MinSpec_minOpt2 hb.bsa (minOpt_spec _)

theorem applyAll_locks {env : Env} (l : List Cond) {s u : CSt} {ls bl : List Lock} (h : applyAll env s l = .ok u)
    (hs : SpendSum s.spend ls) (hb : BundleSum s.ret bl) :
    SpendSum u.spend (ls ++ l.filterMap lockOf) ∧ BundleSum u.ret (bl ++ l.filterMap lockOf) := by
  obtain ⟨⟨ha, hc⟩, rfl⟩ := (applyAll_ok_iff env s l u).mp h
  exact stateAfter_locks env ha.birthHeights_eq ha.birthSeconds_eq hc hs hb

theorem applyCond_locks (env : Env) (s s' : CSt) (c : Cond) (ls bl : List Lock)
    (h : applyCond env s c = .ok s') (hs : SpendSum s.spend ls) (hb : BundleSum s.ret bl) :
    SpendSum s'.spend (ls ++ (lockOf c).toList) ∧ BundleSum s'.ret (bl ++ (lockOf c).toList) := by
  have h1 : applyAll env s [c] = .ok s' := by rw [applyAll_cons, h]; rfl
  have hl : [c].filterMap lockOf = (lockOf c).toList := by cases hc : lockOf c <;> simp [hc]
  exact hl ▸ applyAll_locks [c] h1 hs hb

theorem condLoop_locks (env : Env) (t : Sexp) (s : CSt) (m : Nat) (s' : CSt) (m' : Nat) (ls bl : List Lock)
    (h : condLoop env t s m = .ok (s', m')) (hs : SpendSum s.spend ls) (hb : BundleSum s.ret bl) :
    SpendSum s'.spend (ls ++ (parsedConds env.flags t).filterMap lockOf) ∧
    BundleSum s'.ret (bl ++ (parsedConds env.flags t).filterMap lockOf) := by
  obtain ⟨cs, hcs⟩ := condLoop_proper env t s m _ h
  obtain ⟨items, hp, -, -, u, hu, rfl⟩ := (condLoop_iff env cs t hcs s m s' m').mp h
  rw [parsedConds_eq_itemConds _ _ _ _ hcs hp]
  obtain ⟨r1, r2⟩ := applyAll_locks _ hu hs hb
  -- the state after the loop carries the lock fields of `u`
  exact ⟨⟨r1.hr, r1.sr, r1.bhr, r1.bsr, r1.bh, r1.bs⟩, ⟨r2.ha, r2.sa, r2.bha, r2.bsa⟩⟩

/-! ## the spend loop -/

theorem spendLocks_eq {flags : Nat} {sp : Sexp} {p : PSpend} (h : parseSpend flags sp = some p) :
    spendLocks flags sp = (itemConds p.items).filterMap lockOf := by
  obtain ⟨amt, conds, t⟩ := parseSpend_tree h
  simp only [spendLocks, t.tuple, t.conds_eq]

theorem spendLoop_locks (env : Env) (cc : Nat) (t : Sexp) ret st n m ret' st' m' (bl : List Lock) (ts0 : List Sexp)
    (h : spendLoop env cc t ret st n m = .ok ((ret', st'), m'))
    (hb : BundleSum ret (bl ++ ts0.flatMap (spendLocks env.flags))) (ha : All2 (SpendOk env.flags) ret.spends ts0) :
    BundleSum ret' (bl ++ (ts0 ++ listElems t).flatMap (spendLocks env.flags)) ∧
    All2 (SpendOk env.flags) ret'.spends (ts0 ++ listElems t) := by
  refine spendLoop_enter env cc
    (fun acc _ ts => BundleSum acc.1 (bl ++ ts.flatMap (spendLocks env.flags)) ∧ All2 (SpendOk env.flags) acc.1.spends ts)
    t ?_ ret st n m ret' st' m' ts0 h ⟨hb, ha⟩
  intro acc m done tree p _ ⟨hb, ha⟩ hp _ _ hacc
  refine ⟨?_, ?_⟩
  · simpa [List.flatMap_append, List.append_assoc, spendLocks_eq hp] using enterSpend_locks env cc p hb
  · rw [enterSpend_spends]
    exact ha.snoc (by rw [SpendOk, spendLocks_eq hp]; exact spendRec_locks cc hacc)

end ChiaModel.TL
