import ChiaModel.Model.Mempool
import ChiaModel.Lemmas.Cost
import ChiaModel.Lemmas.Ints
import ChiaModel.Props.C11
import ChiaModel.Props.C17
/-
Helper lemmas for the fast-forward part of C19: what the decoders accept, what an accepted
`fast_forward_singleton` call satisfies (`Accepts`, `Call.run_iff`), the single-field corruptions of a call
(`Corrupt`) and injectivity up to a SHA-256 collision, and `SingletonSpec`, the hypothesis of the run-time clause.
-/
namespace ChiaModel.Mp
open ChiaModel ChiaModel.Cond ChiaModel.TreeHash

theorem decodeSingleton_some {p : Sexp} {s : Singleton} : decodeSingleton p = some s →
    p = s.puzzle ∧ s.modHash.length = 32 ∧ s.launcherId.length = 32 ∧ s.launcherPh.length = 32 := by
  fun_cases decodeSingleton p with
  | case1 => rename_i hc; intro h; rw [if_pos hc] at h; exact Option.some.inj h ▸ hc   -- the shape, and the re-encoding agrees
  | case2 => rename_i hc; intro h; rw [if_neg hc] at h; cases h
  | case3 => intro h; cases h

theorem decodeSingleton_puzzle (s : Singleton) (h1 : s.modHash.length = 32) (h2 : s.launcherId.length = 32)
    (h3 : s.launcherPh.length = 32) : decodeSingleton s.puzzle = some s := by
  obtain ⟨m, mh, lid, lph, inner⟩ := s
  simp only [decodeSingleton, Singleton.puzzle, curry, curryArgs, structOf] at *
  simp [h1, h2, h3]

theorem puzzle_inj {s s' : Singleton} (h : s.puzzle = s'.puzzle) : s = s' := by
  obtain ⟨m, mh, lid, lph, inner⟩ := s
  obtain ⟨m', mh', lid', lph', inner'⟩ := s'
  simp only [Singleton.puzzle, curry, curryArgs, structOf, Sexp.pair.injEq, Sexp.atom.injEq, and_true, true_and] at h
  obtain ⟨a, ⟨b, c, d⟩, e⟩ := h
  subst a; subst b; subst c; subst d; subst e; rfl

theorem decodeProof_lineage {n : Sexp} {pp pih pa : Bytes} {t : Sexp} : decodeProof n = some (.lineage pp pih pa t) →
    n = .pair (.atom pp) (.pair (.atom pih) (.pair (.atom pa) t)) ∧ pp.length = 32 ∧ pih.length = 32 ∧
      (decodeU64 pa).isSome = true := by
  fun_cases decodeProof n with
  | case1 n lin p hp =>
    -- the lineage form was accepted
    intro h; cases h
    dsimp only [lin] at hp
    split at hp
    · split at hp
      · rename_i hc; cases hp; exact ⟨rfl, hc⟩
      · cases hp
    · cases hp
  | _ => intro h; cases h   -- the eve form, or neither

theorem decodeSolution_some {n : Sexp} {sol : Solution} : decodeSolution n = some sol →
    ∃ lp, n = .pair lp (.pair (.atom sol.amountAtom) (.pair sol.innerSolution sol.tail)) ∧
      decodeProof lp = some sol.proof ∧ (decodeU64 sol.amountAtom).isSome = true := by
  fun_cases decodeSolution n with
  | case1 lp amt isol t p hp hc => intro h; cases h; exact ⟨lp, rfl, hp, hc⟩   -- proof and amount decode
  | _ => intro h; cases h

/-- the guards of `fast_forward_singleton`, on the decoded parts -/
structure Accepts (sg : Singleton) (pp pih pa amt : Bytes) (coin nc np : CoinM) : Prop where
  oddCoin : coin.amount % 2 = 1
  oddParent : np.amount % 2 = 1
  oddNew : nc.amount % 2 = 1
  phParent : coin.puzzleHash = np.puzzleHash
  phNew : coin.puzzleHash = nc.puzzleHash
  lenModHash : sg.modHash.length = 32
  lenLauncherId : sg.launcherId.length = 32
  lenLauncherPh : sg.launcherPh.length = 32
  lenPp : pp.length = 32
  lenPih : pih.length = 32
  modHash : sg.modHash = singletonModHash
  modTree : Sexp.treeHash sg.mod = singletonModHash
  amount : decodeU64 amt = some coin.amount
  lineage : ∃ v, decodeU64 pa = some v ∧
    coinIdOf pp (curryAndTreehash pih sg.modHash sg.launcherId sg.launcherPh) v = coin.parent
  innerHash : Sexp.treeHash sg.inner = pih
  puzzleHash : Sexp.treeHash sg.puzzle = coin.puzzleHash
  newParent : nc.parent = np.coinId

theorem ff_decoded {puzzle solution : Sexp} {sg : Singleton} {pp pih pa amt : Bytes} {t1 isol t2 : Sexp}
    {coin nc np : CoinM} {s' : Sexp} (hsg : decodeSingleton puzzle = some sg)
    (hsol : decodeSolution solution = some ⟨.lineage pp pih pa t1, amt, isol, t2⟩) :
    fastForward puzzle solution coin nc np = .ok s' ↔ Accepts sg pp pih pa amt coin nc np ∧
      s' = mkSolution np.parent pih (canonNat np.amount) Sexp.nil (canonNat nc.amount) isol Sexp.nil := by
  obtain ⟨e1, l1, l2, l3⟩ := decodeSingleton_some hsg
  obtain ⟨lp, -, hp, -⟩ := decodeSolution_some hsol
  obtain ⟨-, l4, l5, hv⟩ := decodeProof_lineage hp
  obtain ⟨v, hv⟩ := Option.isSome_iff_exists.mp hv
  subst e1
  unfold fastForward
  rw [hsg, hsol]
  simp only [ite_error_ok, not_or, Nat.mod_two_not_eq_zero, ne_eq, Decidable.not_not, hv, Option.getD_some,
    Except.ok.injEq]
  constructor
  · rintro ⟨h1, h2, g1, g2, g3, g4, g5, g6, g7, e⟩
    exact ⟨⟨h1.1, h1.2.1, h1.2.2, h2.1, h2.2, l1, l2, l3, l4, l5, g1, g2, g3.symm, ⟨v, hv, g4⟩, g5, g6.2, g7⟩, e.symm⟩
  · rintro ⟨a, e⟩
    obtain ⟨w, hw, hid⟩ := a.lineage
    rw [hv] at hw; injection hw with hw; subst hw
    exact ⟨⟨a.oddCoin, a.oddParent, a.oddNew⟩, ⟨a.phParent, a.phNew⟩, a.modHash, a.modTree, a.amount.symm, hid, a.innerHash,
      ⟨a.phParent ▸ a.puzzleHash, a.puzzleHash⟩, a.newParent, e.symm⟩

theorem ff_ok {puzzle solution : Sexp} {coin nc np : CoinM} {s' : Sexp}
    (h : fastForward puzzle solution coin nc np = .ok s') :
    ∃ sg pp pih pa t1 amt isol t2, puzzle = sg.puzzle ∧ solution = mkSolution pp pih pa t1 amt isol t2 ∧
      Accepts sg pp pih pa amt coin nc np ∧
      s' = mkSolution np.parent pih (canonNat np.amount) Sexp.nil (canonNat nc.amount) isol Sexp.nil := by
  have h' := h
  revert h'
  fun_cases fastForward puzzle solution coin nc np with
  | case13 _ _ sg hsg sol hsol pp pih pa t1 hpr =>
    -- the accepting arm: both decoders succeeded, with a lineage proof
    intro _
    obtain ⟨proof, amt, isol, t2⟩ := sol
    cases hpr
    obtain ⟨a, e⟩ := (ff_decoded hsg hsol).mp h
    obtain ⟨lp, e2, hp, -⟩ := decodeSolution_some hsol
    refine ⟨sg, pp, pih, pa, t1, amt, isol, t2, (decodeSingleton_some hsg).1, ?_, a, e⟩
    rw [e2, (decodeProof_lineage hp).1]; rfl
  | _ => intro h'; cases h'

theorem ff_accepts {sg : Singleton} {pp pih pa amt : Bytes} {coin nc np : CoinM} (t1 isol t2 : Sexp)
    (h : Accepts sg pp pih pa amt coin nc np) :
    fastForward sg.puzzle (mkSolution pp pih pa t1 amt isol t2) coin nc np =
      .ok (mkSolution np.parent pih (canonNat np.amount) Sexp.nil (canonNat nc.amount) isol Sexp.nil) := by
  obtain ⟨v, hv, -⟩ := h.lineage
  have hsol : decodeSolution (mkSolution pp pih pa t1 amt isol t2) = some ⟨.lineage pp pih pa t1, amt, isol, t2⟩ := by
    simp [decodeSolution, mkSolution, decodeProof, h.lenPp, h.lenPih, hv, h.amount]
  exact (ff_decoded (decodeSingleton_puzzle sg h.lenModHash h.lenLauncherId h.lenLauncherPh) hsol).mpr ⟨h, rfl⟩

/-! ## hashes: injective up to an explicit collision -/

def Collision : Prop := ∃ x y : Bytes, x ≠ y ∧ sha256 x = sha256 y

theorem sha_inj {x y : Bytes} (h : sha256 x = sha256 y) : x = y ∨ Collision := by
  by_cases e : x = y
  · exact Or.inl e
  · exact Or.inr ⟨x, y, e, h⟩

theorem treeHash_length (t : Sexp) : (Sexp.treeHash t).length = 32 := by
  cases t <;> simp [Sexp.treeHash, sha256_length]

theorem treeHash_inj : ∀ (a b : Sexp), Sexp.treeHash a = Sexp.treeHash b → a = b ∨ Collision := by
  intro a
  induction a with
  | atom x =>
    intro b h
    cases b <;> simp only [Sexp.treeHash] at h
    · exact (sha_inj h).imp_left (fun e => by injection e with _ e; rw [e])
    · exact (sha_inj h).imp_left (fun e => by injection e with e _; cases e)
  | pair l r ihl ihr =>
    intro b h
    cases b with
    | atom y =>
      simp only [Sexp.treeHash] at h
      exact (sha_inj h).imp_left (fun e => by injection e with e _; cases e)
    | pair l' r' =>
      simp only [Sexp.treeHash] at h
      rcases sha_inj h with e | c
      · injection e with _ e
        obtain ⟨e1, e2⟩ := List.append_inj e (by rw [treeHash_length, treeHash_length])
        rcases ihl l' e1 with a1 | c
        · exact (ihr r' e2).imp_left (fun a2 => by rw [a1, a2])
        · exact Or.inr c
      · exact Or.inr c

theorem decodeU64_some {b : Bytes} {v : Nat} (h : decodeU64 b = some v) :
    ∃ k s, b = List.replicate k 0 ++ s ∧ s.length ≤ 8 ∧ beVal s = v := by
  obtain ⟨r, hd, rfl⟩ := Option.map_eq_some_iff.mp h
  cases b with
  | nil =>
    cases hd
    exact ⟨0, [], rfl, by decide, by decide⟩
  | cons x0 tl =>
    simp only [decodeNumber, Bool.false_and, Bool.false_eq_true, if_false] at hd
    split at hd
    · cases hd
    split at hd
    · cases hd
    rename_i s hs
    split at hd
    · cases hd
    rename_i hc
    cases hd
    obtain ⟨k, -, hk, -⟩ := C11.stripPadding_spec _ _ _ _ _ hs
    exact ⟨k, s, hk, by have := not_or.mp hc; omega, (beVal_replicate_zero _ _).symm⟩

theorem decodeU64_beVal {b : Bytes} {v : Nat} (h : decodeU64 b = some v) : beVal b = v := by
  obtain ⟨k, s, hb, _, hv⟩ := decodeU64_some h
  rw [hb, beVal_replicate_zero, hv]

theorem decodeU64_lt {b : Bytes} {v : Nat} (hb : isBytes b) (h : decodeU64 b = some v) : v < 2^64 := by
  obtain ⟨k, s, e, hl, hv⟩ := decodeU64_some h
  have hs : isBytes s := fun x hx => hb x (by rw [e]; exact List.mem_append_right _ hx)
  have h1 := beVal_lt s hs
  have h2 : 256 ^ s.length ≤ 256 ^ 8 := Nat.pow_le_pow_right (by decide) hl
  omega

theorem canonNat_inj {a b : Nat} (ha : a < 2^64) (hb : b < 2^64) (h : canonNat a = canonNat b) : a = b := by
  have h1 := (C11.canonNat_spec a ha).1
  have h2 := (C11.canonNat_spec b hb).1
  rw [h] at h1; rw [h1] at h2; exact h2

theorem coinIdOf_inj {p p' h : Bytes} {a a' : Nat} (hl : p.length = p'.length) (ha : a < 2^64) (ha' : a' < 2^64)
    (e : coinIdOf p h a = coinIdOf p' h a') : (p = p' ∧ a = a') ∨ Collision := by
  unfold coinIdOf at e
  rcases sha_inj e with e | c
  · simp only [List.append_assoc] at e
    obtain ⟨e1, e2⟩ := List.append_inj e hl
    exact Or.inl ⟨e1, canonNat_inj ha ha' (List.append_cancel_left e2)⟩
  · exact Or.inr c

/-- a fast-forward call given by the decoded parts of puzzle and solution -/
structure Call where
  sg : Singleton
  pp : Bytes
  pih : Bytes
  pa : Bytes
  t1 : Sexp
  amt : Bytes
  isol : Sexp
  t2 : Sexp
  coin : CoinM
  nc : CoinM
  np : CoinM

def Call.solution (c : Call) : Sexp := mkSolution c.pp c.pih c.pa c.t1 c.amt c.isol c.t2

def Call.run (c : Call) : Except FFErr Sexp := fastForward c.sg.puzzle c.solution c.coin c.nc c.np

def Call.result (c : Call) : Sexp :=
  mkSolution c.np.parent c.pih (canonNat c.np.amount) Sexp.nil (canonNat c.nc.amount) c.isol Sexp.nil

theorem mkSolution_inj {lp lih la : Bytes} {t1 : Sexp} {amt : Bytes} {isol t2 : Sexp}
    {lp' lih' la' : Bytes} {t1' : Sexp} {amt' : Bytes} {isol' t2' : Sexp}
    (h : mkSolution lp lih la t1 amt isol t2 = mkSolution lp' lih' la' t1' amt' isol' t2') :
    lp = lp' ∧ lih = lih' ∧ la = la' ∧ t1 = t1' ∧ amt = amt' ∧ isol = isol' ∧ t2 = t2' := by
  simp only [mkSolution, Sexp.pair.injEq, Sexp.atom.injEq] at h
  obtain ⟨⟨a, b, c, d⟩, e, f, g⟩ := h
  exact ⟨a, b, c, d, e, f, g⟩

theorem Call.run_ok {c : Call} {s' : Sexp} (h : c.run = .ok s') :
    Accepts c.sg c.pp c.pih c.pa c.amt c.coin c.nc c.np ∧ s' = c.result := by
  obtain ⟨sg, pp, pih, pa, t1, amt, isol, t2, e1, e2, acc, e3⟩ := ff_ok h
  have := puzzle_inj e1
  subst this
  obtain ⟨a, b, d, _, f, g, _⟩ := mkSolution_inj e2
  subst a; subst b; subst d; subst f; subst g
  exact ⟨acc, e3⟩

theorem Call.run_iff (c : Call) (s' : Sexp) :
    c.run = .ok s' ↔ Accepts c.sg c.pp c.pih c.pa c.amt c.coin c.nc c.np ∧ s' = c.result := by
  constructor
  · exact Call.run_ok
  · rintro ⟨acc, e⟩
    rw [e]; exact ff_accepts c.t1 c.isol c.t2 acc

/-- the well-formedness of the Rust types: atoms are byte strings, hashes have 32 bytes, amounts are u64 -/
structure Call.WF (c : Call) : Prop where
  paBytes : isBytes c.pa
  npParent : c.np.parent.length = 32
  npAmount : c.np.amount < 2^64

/-- every single-field corruption of a call (values that decode to the same integer, the tails and the
inner solution are not bound by any guard and are not listed; neither is an odd new-coin amount) -/
inductive Corrupt (c : Call) : Call → Prop where
  | mod (x : Sexp) (h : x ≠ c.sg.mod) : Corrupt c { c with sg := { c.sg with mod := x } }
  | modHash (x : Bytes) (h : x ≠ c.sg.modHash) : Corrupt c { c with sg := { c.sg with modHash := x } }
  | launcherId (x : Bytes) (h : x ≠ c.sg.launcherId) : Corrupt c { c with sg := { c.sg with launcherId := x } }
  | launcherPh (x : Bytes) (h : x ≠ c.sg.launcherPh) : Corrupt c { c with sg := { c.sg with launcherPh := x } }
  | inner (x : Sexp) (h : x ≠ c.sg.inner) : Corrupt c { c with sg := { c.sg with inner := x } }
  | lineageParent (x : Bytes) (h : x ≠ c.pp) : Corrupt c { c with pp := x }
  | lineageInnerPh (x : Bytes) (h : x ≠ c.pih) : Corrupt c { c with pih := x }
  | lineageAmount (x : Bytes) (hb : isBytes x) (h : decodeU64 x ≠ decodeU64 c.pa) : Corrupt c { c with pa := x }
  | solutionAmount (x : Bytes) (h : decodeU64 x ≠ decodeU64 c.amt) : Corrupt c { c with amt := x }
  | coinParent (x : Bytes) (h : x ≠ c.coin.parent) : Corrupt c { c with coin := { c.coin with parent := x } }
  | coinPh (x : Bytes) (h : x ≠ c.coin.puzzleHash) : Corrupt c { c with coin := { c.coin with puzzleHash := x } }
  | coinAmount (x : Nat) (h : x ≠ c.coin.amount) : Corrupt c { c with coin := { c.coin with amount := x } }
  | newCoinParent (x : Bytes) (h : x ≠ c.nc.parent) : Corrupt c { c with nc := { c.nc with parent := x } }
  | newCoinPh (x : Bytes) (h : x ≠ c.nc.puzzleHash) : Corrupt c { c with nc := { c.nc with puzzleHash := x } }
  | newCoinAmountEven (x : Nat) (h : x % 2 = 0) : Corrupt c { c with nc := { c.nc with amount := x } }
  | newParentParent (x : Bytes) (hl : x.length = 32) (h : x ≠ c.np.parent) : Corrupt c { c with np := { c.np with parent := x } }
  | newParentPh (x : Bytes) (h : x ≠ c.np.puzzleHash) : Corrupt c { c with np := { c.np with puzzleHash := x } }
  | newParentAmount (x : Nat) (hx : x < 2^64) (h : x ≠ c.np.amount) : Corrupt c { c with np := { c.np with amount := x } }

def condAssertMyAmount (amt : Bytes) : Sexp := .pair (.atom [73]) (.pair (.atom amt) Sexp.nil)
def condAssertMyParentId (id : Bytes) : Sexp := .pair (.atom [71]) (.pair (.atom id) Sexp.nil)

/-- **`SingletonSpec`**: the documented behaviour of `singleton_top_layer_v1_1.clsp` (chia-puzzles, CLVM:
external to /repo) for a lineage (non-eve) proof.  `run p s` is the interpreter (`none` = raises).
With an odd `my_amount` the puzzle returns
`(ASSERT_MY_AMOUNT my_amount) (ASSERT_MY_PARENT_ID (sha256 parent_parent (full puzzle hash of the lineage's
inner puzzle hash) parent_amount))` followed by `morph`, the inner puzzle's conditions with the one odd
CREATE_COIN re-wrapped - a function of the singleton struct and the inner conditions only; otherwise it raises. -/
structure SingletonSpec (run : Sexp → Sexp → Option Sexp) where
  morph : Sexp → Sexp → Option Sexp
  eval : ∀ (sg : Singleton) (pp pih pa : Bytes) (t1 : Sexp) (amt : Bytes) (isol t2 : Sexp),
    Sexp.treeHash sg.mod = singletonModHash →
    run sg.puzzle (mkSolution pp pih pa t1 amt isol t2) =
      (match run sg.inner isol with
       | none => none
       | some conds =>
         if beVal amt % 2 = 1 then
           (morph (structOf sg.modHash sg.launcherId sg.launcherPh) conds).map (fun m =>
             Sexp.pair (condAssertMyAmount amt)
               (Sexp.pair (condAssertMyParentId
                 (sha256 (pp ++ curryAndTreehash pih sg.modHash sg.launcherId sg.launcherPh ++ pa))) m))
         else none)

/-- the full puzzle hash the lineage check computes is the hash of the revealed puzzle -/
theorem Accepts.curried {sg : Singleton} {pp pih pa amt : Bytes} {coin nc np : CoinM}
    (a : Accepts sg pp pih pa amt coin nc np) :
    curryAndTreehash pih sg.modHash sg.launcherId sg.launcherPh = coin.puzzleHash := by
  rw [← a.puzzleHash, ← a.innerHash]
  have := C17.curry_and_treehash_eq sg.mod sg.inner sg.modHash sg.launcherId sg.launcherPh (by rw [a.modTree, a.modHash])
  rw [this]; rfl

end ChiaModel.Mp
