import ChiaModel.Lemmas.MerkleWalk
/-
C12: the proof parser.  `parseNode` reads a prefix code, the serialisation `PT.ser` of a wire tree, and
evaluates the tree it has read: `PT.build` on the node vector, `PT.eval` on the trees the vector
denotes.  `parseNode_iff` is the one characterisation of `parseNode` (left to right by the function's own induction
principle, the one-step lemmas before it serve the converse); `parse_append` and `parse_deep_none` after it are its
corollaries.  What the parser accepts, consumes and rejects is then said of `PT`, what it builds of `PT.eval`
(`build_pushed`, `eval_inv`), and `validate_merkle_proof` is root and walk of the value of the tree read
(`validate_iff`): the property file speaks of trees only.
-/
namespace ChiaModel.Merkle
open ChiaModel Spec

theorem parse_empty (H : Bytes → Bytes) (f d : Nat) (p : List Bool) (rest : Bytes) (nv : NodeVec) :
    parseNode H (f + 1) d p (EMPTY :: rest) nv = some (rest, nv ++ [(.empty, BLANK)], nv.length, .empty) := by
  simp [parseNode, EMPTY]

theorem parse_term (H : Bytes → Bytes) (f d : Nat) (p : List Bool) (x rest : Bytes) (nv : NodeVec)
    (hx : x.length = 32) (ha : auditOk x p = true) :
    parseNode H (f + 1) d p (TERMINAL :: (x ++ rest)) nv = some (rest, nv ++ [(.leaf, x)], nv.length, .term) := by
  simp [parseNode, EMPTY, TERMINAL, List.take_left' hx, List.drop_left' hx, ha, hx]

theorem parse_trunc (H : Bytes → Bytes) (f d : Nat) (p : List Bool) (x rest : Bytes) (nv : NodeVec)
    (hx : x.length = 32) :
    parseNode H (f + 1) d p (TRUNCATED :: (x ++ rest)) nv = some (rest, nv ++ [(.truncated, x)], nv.length, .mid) := by
  simp [parseNode, EMPTY, TERMINAL, TRUNCATED, List.take_left' hx, List.drop_left' hx, hx]

theorem parse_mid {H : Bytes → Bytes} {f d : Nat} {p : List Bool} {inp rest1 rest2 : Bytes} {nv nv1 nv2 : NodeVec}
    {li ri : Nat} {lt rt : NodeType} (hd : d ≤ 256)
    (h1 : parseNode H f (d + 1) (p ++ [false]) inp nv = some (rest1, nv1, li, lt))
    (h2 : parseNode H f (d + 1) (p ++ [true]) rest1 nv1 = some (rest2, nv2, ri, rt)) :
    parseNode H (f + 1) d p (MIDDLE :: inp) nv = some (rest2, parseMiddle H nv2 li lt ri rt) := by
  have : ¬ d > 256 := by omega
  simp [parseNode, EMPTY, TERMINAL, TRUNCATED, MIDDLE, this, h1, h2]

/-- proof trees as they are written on the wire -/
inductive PT where
  | empty
  | term (x : Bytes)
  | trunc (h : Bytes)
  | mid (l r : PT)

def PT.ser : PT → Bytes
  | .empty => [EMPTY]
  | .term x => TERMINAL :: x
  | .trunc h => TRUNCATED :: h
  | .mid l r => MIDDLE :: (l.ser ++ r.ser)

def PT.WF : PT → Prop
  | .empty => True
  | .term x => x.length = 32
  | .trunc h => h.length = 32
  | .mid l r => l.WF ∧ r.WF

def PT.height : PT → Nat
  | .mid l r => 1 + max l.height r.height
  | _ => 0

theorem PT.ser_inj {t : PT} : ∀ {t' : PT} {rest rest' : Bytes}, t.WF → t'.WF →
    t.ser ++ rest = t'.ser ++ rest' → t = t' ∧ rest = rest' := by
  induction t with
  | empty => intro t' rest rest' _ _ h; cases t' <;> simp_all [PT.ser, EMPTY, TERMINAL, TRUNCATED, MIDDLE]
  | term x =>
    intro t' rest rest' hw hw' h
    cases t' <;> simp [PT.ser, EMPTY, TERMINAL, TRUNCATED, MIDDLE] at h
    obtain ⟨e1, e2⟩ := List.append_inj h (hw.trans hw'.symm)
    exact ⟨by rw [e1], e2⟩
  | trunc x =>
    intro t' rest rest' hw hw' h
    cases t' <;> simp [PT.ser, EMPTY, TERMINAL, TRUNCATED, MIDDLE] at h
    obtain ⟨e1, e2⟩ := List.append_inj h (hw.trans hw'.symm)
    exact ⟨by rw [e1], e2⟩
  | mid l r ihl ihr =>
    intro t' rest rest' hw hw' h
    cases t' <;> simp [PT.ser, EMPTY, TERMINAL, TRUNCATED, MIDDLE] at h
    obtain ⟨e1, h⟩ := ihl hw.1 hw'.1 h
    obtain ⟨e2, h⟩ := ihr hw.2 hw'.2 h
    exact ⟨by rw [e1, e2], h⟩

/-- accepted at depth `d` on route `p`: payload lengths, the audit of every leaf, the depth guard -/
def PT.Acc : PT → Nat → List Bool → Prop
  | .empty, _, _ => True
  | .term x, _, p => x.length = 32 ∧ auditOk x p = true
  | .trunc h, _, _ => h.length = 32
  | .mid l r, d, p => d ≤ 256 ∧ l.Acc (d + 1) (p ++ [false]) ∧ r.Acc (d + 1) (p ++ [true])

/-- the nodes the parser appends for a proof tree, and the value `(index, type)` it leaves -/
def PT.build (H : Bytes → Bytes) : PT → NodeVec → NodeVec × Nat × NodeType
  | .empty, nv => (nv ++ [(.empty, BLANK)], nv.length, .empty)
  | .term x, nv => (nv ++ [(.leaf, x)], nv.length, .term)
  | .trunc h, nv => (nv ++ [(.truncated, h)], nv.length, .mid)
  | .mid l r, nv =>
    parseMiddle H (r.build H (l.build H nv).1).1 (l.build H nv).2.1 (l.build H nv).2.2
      (r.build H (l.build H nv).1).2.1 (r.build H (l.build H nv).1).2.2

/-- The parser, started within its fuel (`fuel + depth = 258`), accepts exactly the serialisations of
the trees that `Acc` describes, hands back what follows them, and returns `build`. -/
theorem parseNode_iff {H : Bytes → Bytes} {f d : Nat} {p : List Bool} {inp rest : Bytes} {nv : NodeVec}
    {v : NodeVec × Nat × NodeType} (hf : f + d = 258) (hd : d ≤ 257) :
    parseNode H f d p inp nv = some (rest, v) ↔ ∃ t : PT, t.Acc d p ∧ inp = t.ser ++ rest ∧ v = t.build H nv := by
  constructor
  · intro h
    fun_induction parseNode H f d p inp nv generalizing rest v with
    | case3 =>
      -- `EMPTY`
      cases h; exact ⟨.empty, trivial, rfl, rfl⟩
    | case5 _ _ _ _ rest0 hl ha =>
      -- `TERMINAL`, 32 bytes there, the audit passed
      cases h
      exact ⟨.term (rest0.take 32), ⟨by rw [List.length_take]; omega, ha⟩, by simp [PT.ser], rfl⟩
    | case8 _ _ _ _ rest0 hl =>
      -- `TRUNCATED`, 32 bytes there
      cases h
      exact ⟨.trunc (rest0.take 32), show _ = 32 by rw [List.length_take]; omega, by simp [PT.ser], rfl⟩
    | case12 _ _ _ _ _ hd' _ _ _ _ h1 _ _ _ _ h2 =>
      -- `MIDDLE` within the guard, both children parsed; the last two hypotheses are those of the induction
      rename_i ihl ihr
      cases h
      obtain ⟨l, al, rfl, el⟩ := ihl (by omega) (by omega) h1
      obtain ⟨r, ar, rfl, er⟩ := ihr (by omega) (by omega) h2
      exact ⟨.mid l r, ⟨by omega, al, ar⟩, by simp [PT.ser], by simp only [PT.build, ← el, ← er]; rfl⟩
    | _ => cases h
  · rintro ⟨t, ha, rfl, rfl⟩
    induction t generalizing f d p nv rest with
    | empty =>
      obtain ⟨f, rfl⟩ : ∃ g, f = g + 1 := ⟨f - 1, by omega⟩
      exact parse_empty H f d p rest nv
    | term x =>
      obtain ⟨f, rfl⟩ : ∃ g, f = g + 1 := ⟨f - 1, by omega⟩
      exact parse_term H f d p x rest nv ha.1 ha.2
    | trunc x =>
      obtain ⟨f, rfl⟩ : ∃ g, f = g + 1 := ⟨f - 1, by omega⟩
      exact parse_trunc H f d p x rest nv ha
    | mid l r ihl ihr =>
      obtain ⟨hd', al, ar⟩ := ha
      obtain ⟨f, rfl⟩ : ∃ g, f = g + 1 := ⟨f - 1, by omega⟩
      have := parse_mid hd' (ihl (f := f) (rest := r.ser ++ rest) (nv := nv) (by omega) (by omega) al)
        (ihr (f := f) (rest := rest) (nv := (l.build H nv).1) (by omega) (by omega) ar)
      simpa only [PT.ser, PT.build, List.cons_append, List.append_assoc] using this

theorem PT.Acc.wf {t : PT} {d : Nat} {p : List Bool} (h : t.Acc d p) : t.WF := by
  induction t generalizing d p with
  | empty => trivial
  | term x => exact h.1
  | trunc x => exact h
  | mid l r ihl ihr => exact ⟨ihl h.2.1, ihr h.2.2⟩

/-- a `MIDDLE` is only accepted with at most 256 others open -/
theorem PT.Acc.height {t : PT} {d : Nat} {p : List Bool} (h : t.Acc d p) (hd : d ≤ 257) : d + t.height ≤ 257 := by
  induction t generalizing d p with
  | mid l r ihl ihr =>
    obtain ⟨hd', al, ar⟩ := h
    have hl := ihl al (by omega)
    have hr := ihr ar (by omega)
    show d + (1 + max l.height r.height) ≤ 257
    omega
  | _ => exact hd

theorem parse_append (H : Bytes → Bytes) (extra : Bytes) {f d : Nat} {p : List Bool} {inp : Bytes} {nv : NodeVec}
    {rest : Bytes} {v : NodeVec × Nat × NodeType} (hf : f + d = 258) (hd : d ≤ 257)
    (h : parseNode H f d p inp nv = some (rest, v)) :
    parseNode H f d p (inp ++ extra) nv = some (rest ++ extra, v) := by
  obtain ⟨t, ha, rfl, rfl⟩ := (parseNode_iff hf hd).mp h
  exact (parseNode_iff hf hd).mpr ⟨t, ha, List.append_assoc .., rfl⟩

/-- a serialised proof tree with a `MIDDLE` nested below more than 256 others is rejected
(`height` counts nested `MIDDLE`s) -/
theorem parse_deep_none (H : Bytes → Bytes) (t : PT) (ht : t.WF) (hdeep : 257 < t.height) (p : List Bool)
    (rest : Bytes) (nv : NodeVec) : parseNode H 258 0 p (t.ser ++ rest) nv = none := by
  cases h : parseNode H 258 0 p (t.ser ++ rest) nv with
  | none => rfl
  | some r =>
    obtain ⟨t', acc, e, _⟩ := (parseNode_iff (rest := r.1) (v := r.2) rfl (by decide)).mp h
    obtain ⟨rfl, _⟩ := PT.ser_inj ht acc.wf e
    have := acc.height (by decide)
    omega

/-! ## what the parser leaves in the node vector -/

theorem hashAt_append {nv : NodeVec} {i : Nat} (e : NodeVec) (h : i < nv.length) :
    hashAt (nv ++ e) i = hashAt nv i := by
  unfold hashAt; rw [List.getElem?_append_left h]

theorem hashAt_push (nv : NodeVec) (x : ArrayType × Bytes) : hashAt (nv ++ [x]) nv.length = x.2 := by
  simp [hashAt]

/-- the vector has grown, the value index denotes `vt` and carries its hash, the last node denotes `nt` -/
structure Pushed (nv nv' : NodeVec) (vi : Nat) (vt nt : Tree) : Prop where
  pre : nv <+: nv'
  den : Den nv' vi vt
  hash : hashAt nv' vi = vt.hash
  last : Den nv' (nv'.length - 1) nt

theorem pushed_one {nv : NodeVec} {x : ArrayType × Bytes} {t : Tree} (h : Den (nv ++ [x]) nv.length t)
    (hh : x.2 = t.hash) : Pushed nv (nv ++ [x]) nv.length t t :=
  ⟨List.prefix_append _ _, h, by rw [hashAt_push]; exact hh, h.last⟩

/-- what the parser has made of a proof tree, in trees: the value left on the value stack with its
type, and the last node pushed (the two differ above a collapsed level) -/
structure Parsed where
  last : Tree
  val : Tree
  ty : NodeType

/-- tree-level twin of `parseMiddle`.  A level over `(empty, midDbl)` or `(midDbl, empty)` is collapsed:
the double-leaf node stays the value. -/
def midT (H : Bytes → Bytes) (vl : Tree) (lt : NodeType) (vr : Tree) (rt : NodeType) : Parsed :=
  if lt = .empty ∧ rt = .midDbl then ⟨.mid vl vr vr.hash, vr, .midDbl⟩
  else if lt = .midDbl ∧ rt = .empty then ⟨.mid vl vr vl.hash, vl, .midDbl⟩
  else ⟨.mid vl vr (hashNode H vl.ntype vr.ntype vl.hash vr.hash), .mid vl vr (hashNode H vl.ntype vr.ntype vl.hash vr.hash),
    if lt = .term ∧ rt = .term then .midDbl else .mid⟩

theorem midT_of_not (H : Bytes → Bytes) (vl vr : Tree) {lt rt : NodeType} (h1 : ¬(lt = .empty ∧ rt = .midDbl))
    (h2 : ¬(lt = .midDbl ∧ rt = .empty)) :
    midT H vl lt vr rt = ⟨.mid vl vr (hashNode H vl.ntype vr.ntype vl.hash vr.hash),
      .mid vl vr (hashNode H vl.ntype vr.ntype vl.hash vr.hash), if lt = .term ∧ rt = .term then .midDbl else .mid⟩ := by
  unfold midT; rw [if_neg h1, if_neg h2]

theorem Pushed.mid (H : Bytes → Bytes) {nv nv1 nv2 : NodeVec} {li ri : Nat} {vl vr ntl ntr : Tree} (lt rt : NodeType)
    (hl : Pushed nv nv1 li vl ntl) (hr : Pushed nv1 nv2 ri vr ntr) :
    Pushed nv (parseMiddle H nv2 li lt ri rt).1 (parseMiddle H nv2 li lt ri rt).2.1
      (midT H vl lt vr rt).val (midT H vl lt vr rt).last ∧
    (parseMiddle H nv2 li lt ri rt).2.2 = (midT H vl lt vr rt).ty := by
  obtain ⟨e2, rfl⟩ := hr.pre
  have hdl := hl.den.append e2
  have hhl : hashAt (nv1 ++ e2) li = vl.hash := by rw [hashAt_append e2 hl.den.lt]; exact hl.hash
  have hpre : ∀ x, nv <+: nv1 ++ e2 ++ [x] := fun x =>
    hl.pre.trans ((List.prefix_append _ _).trans (List.prefix_append _ _))
  unfold parseMiddle midT
  by_cases hA : lt = .empty ∧ rt = .midDbl
  · rw [if_pos hA, if_pos hA, hr.hash]
    exact ⟨⟨hpre _, hr.den.append _, by rw [hashAt_append _ hr.den.lt]; exact hr.hash,
      (Den.push_mid _ hdl hr.den).last⟩, rfl⟩
  · rw [if_neg hA, if_neg hA]
    by_cases hB : lt = .midDbl ∧ rt = .empty
    · rw [if_pos hB, if_pos hB, hhl]
      exact ⟨⟨hpre _, hdl.append _, by rw [hashAt_append _ hdl.lt]; exact hhl,
        (Den.push_mid _ hdl hr.den).last⟩, rfl⟩
    · rw [if_neg hB, if_neg hB, hdl.typeAt, hr.den.typeAt, hhl, hr.hash]
      exact ⟨⟨hpre _, Den.push_mid _ hdl hr.den, hashAt_push _ _, (Den.push_mid _ hdl hr.den).last⟩, rfl⟩

/-- the trees behind `build` -/
def PT.eval (H : Bytes → Bytes) : PT → Parsed
  | .empty => ⟨.empty, .empty, .empty⟩
  | .term x => ⟨.leaf x, .leaf x, .term⟩
  | .trunc h => ⟨.trunc h, .trunc h, .mid⟩
  | .mid l r => midT H (l.eval H).val (l.eval H).ty (r.eval H).val (r.eval H).ty

theorem eval_mid (H : Bytes → Bytes) (l r : PT) :
    (PT.mid l r).eval H = midT H (l.eval H).val (l.eval H).ty (r.eval H).val (r.eval H).ty := rfl

theorem PT.build_pushed (H : Bytes → Bytes) (t : PT) (nv : NodeVec) :
    Pushed nv (t.build H nv).1 (t.build H nv).2.1 (t.eval H).val (t.eval H).last ∧
      (t.build H nv).2.2 = (t.eval H).ty := by
  induction t generalizing nv with
  | empty => exact ⟨pushed_one (den_push_empty _ _) rfl, rfl⟩
  | term x => exact ⟨pushed_one (den_push_leaf _ _) rfl, rfl⟩
  | trunc x => exact ⟨pushed_one (den_push_trunc _ _) rfl, rfl⟩
  | mid l r ihl ihr =>
    obtain ⟨pl, el⟩ := ihl nv
    obtain ⟨pr, er⟩ := ihr (l.build H nv).1
    have := Pushed.mid H (l.build H nv).2.2 (r.build H (l.build H nv).1).2.2 pl pr
    rw [el, er] at this
    simpa only [PT.build, PT.eval, el, er] using this

/-! ## the leaf-position audit -/

theorem auditFrom_iff (h : Bytes) (pos : Nat) (bits : List Bool) :
    auditFrom h pos bits = true ↔ ∀ i (hi : i < bits.length), getBit h ((pos + i) % 256) = bits[i] := by
  induction bits generalizing pos with
  | nil => simp [auditFrom]
  | cons v rest ih =>
    simp only [auditFrom, Bool.and_eq_true, beq_iff_eq, ih]
    constructor
    · rintro ⟨h0, hr⟩ i hi
      cases i with
      | zero => simpa using h0
      | succ j =>
        have := hr j (by simpa using hi)
        simpa [Nat.add_assoc, Nat.add_comm 1 j] using this
    · intro hall
      refine ⟨by have := hall 0 (by simp); simpa using this, fun i hi => ?_⟩
      have := hall (i + 1) (by simpa using hi)
      simpa [Nat.add_assoc, Nat.add_comm 1 i] using this

/-- `y` lies below the trie position reached by the route `p` -/
def Path (p : List Bool) (y : Bytes) : Prop := ∀ i (hi : i < p.length), getBit y i = p[i]

theorem auditOk_of_path {p : List Bool} {y : Bytes} (hp : Path p y) (hlen : p.length ≤ 256) :
    auditOk y p = true := by
  unfold auditOk
  rw [auditFrom_iff]
  intro i hi
  rw [Nat.zero_add, Nat.mod_eq_of_lt (by omega)]
  exact hp i hi

theorem path_of_auditOk {p : List Bool} {y : Bytes} (h : auditOk y p = true) (hlen : p.length ≤ 256) :
    Path p y := by
  unfold auditOk at h
  rw [auditFrom_iff] at h
  intro i hi
  have := h i hi
  rwa [Nat.zero_add, Nat.mod_eq_of_lt (by omega)] at this

theorem Path.snoc {p : List Bool} {y : Bytes} (hp : Path p y) {b : Bool} (hb : getBit y p.length = b) :
    Path (p ++ [b]) y := by
  intro i hi
  by_cases h : i < p.length
  · rw [List.getElem_append_left h]; exact hp i h
  · have : i = p.length := by simp at hi; omega
    subst this
    simp [hb]

theorem Path.prefix {p : List Bool} {y : Bytes} {b : Bool} (hp : Path (p ++ [b]) y) : Path p y := by
  intro i hi
  have := hp i (by simp; omega)
  rwa [List.getElem_append_left hi] at this

theorem Path.last {p : List Bool} {y : Bytes} {b : Bool} (hp : Path (p ++ [b]) y) : getBit y p.length = b := by
  have := hp p.length (by simp)
  simpa using this

theorem path_nil (y : Bytes) : Path [] y := by intro i hi; simp at hi

theorem audit_head {y : Bytes} {bits : List Bool} {c : Bool} (h : auditOk y bits = true)
    (hc : bits.head? = some c) : getBit y 0 = c := by
  cases bits with
  | nil => simp at hc
  | cons b t =>
    simp at hc; subst hc
    simp [auditOk, auditFrom] at h
    exact h.1

/-! ## what every accepted proof tree evaluates to -/

def Tree.leaves : Tree → List Bytes
  | .empty => []
  | .leaf x => [x]
  | .trunc _ => []
  | .mid l r _ => l.leaves ++ r.leaves

/-- Every leaf of `t` has, as its bit 0, the first step of the route (nothing is said on the empty route).  Of what the
audit checks only this step is kept: `Top` is consumed at the root alone (`Top.walk_root` at `p = []`), where the side
of a collapsed top is the one-step route `[side]`. -/
def HeadOK (bits : List Bool) (t : Tree) : Prop :=
  ∀ y ∈ t.leaves, ∀ c, bits.head? = some c → getBit y 0 = c

theorem headOK_of_snoc {bits : List Bool} {c : Bool} {t : Tree} (h : HeadOK (bits ++ [c]) t) : HeadOK bits t := by
  intro y hy c' hc'
  apply h y hy c'
  cases bits with
  | nil => simp at hc'
  | cons b t => simpa using hc'

/-- the constructor of a parsed value as far as its type fixes it; the weak form of `Shape` (`Shape t v`
gives `TyShape t v.2`), since a parsed value of type `mid` may be a truncated node -/
def TyShape (t : Tree) : NodeType → Prop
  | .empty => t = .empty
  | .term => ∃ y, t = .leaf y
  | .mid => True
  | .midDbl => ∃ a b h, t = .mid (.leaf a) (.leaf b) h

/-- the last node pushed is the value itself, or the top of a collapsed chain above it -/
def Top (bits : List Bool) (nt vt : Tree) (ty : NodeType) : Prop :=
  nt = vt ∨ (ty = .midDbl ∧
    ((nt = .mid .empty vt vt.hash ∧ HeadOK (bits ++ [true]) vt) ∨
     (nt = .mid vt .empty vt.hash ∧ HeadOK (bits ++ [false]) vt)))

theorem eval_inv (H : Bytes → Bytes) : ∀ (t : PT) (d : Nat) (p : List Bool), t.Acc d p →
    ValT H (t.eval H).val ∧ TyShape (t.eval H).val (t.eval H).ty ∧ HeadOK p (t.eval H).val ∧
      Top p (t.eval H).last (t.eval H).val (t.eval H).ty := by
  intro t
  induction t with
  | empty => intro d p _; exact ⟨trivial, rfl, fun y hy => absurd hy List.not_mem_nil, Or.inl rfl⟩
  | term x =>
    intro d p ha
    refine ⟨ha.1, ⟨x, rfl⟩, fun y hy c hc => ?_, Or.inl rfl⟩
    rw [List.mem_singleton.mp hy]
    exact audit_head ha.2 hc
  | trunc x => intro d p ha; exact ⟨ha, trivial, fun y hy => absurd hy List.not_mem_nil, Or.inl rfl⟩
  | mid l r ihl ihr =>
    -- as `midT`: over `(empty, midDbl)` or `(midDbl, empty)` the double-leaf child stays the value and the node
    -- pushed is the top of a collapsed chain (second case of `Top`, keeping the child's `HeadOK` with the side
    -- taken); otherwise the new `mid` node is the value
    intro d p ha
    obtain ⟨hvl, htl, hol, _⟩ := ihl _ _ ha.2.1
    obtain ⟨hvr, htr, hor, _⟩ := ihr _ _ ha.2.2
    rw [eval_mid]
    generalize (l.eval H).val = vl, (l.eval H).ty = lt, (r.eval H).val = vr, (r.eval H).ty = rt at *
    fun_cases midT H vl lt vr rt with
    | case1 hA =>
      obtain ⟨rfl, rfl⟩ := hA
      obtain rfl : vl = .empty := htl
      exact ⟨hvr, htr, headOK_of_snoc hor, Or.inr ⟨rfl, Or.inl ⟨rfl, hor⟩⟩⟩
    | case2 _ hB =>
      obtain ⟨rfl, rfl⟩ := hB
      obtain rfl : vr = .empty := htr
      exact ⟨hvl, htl, headOK_of_snoc hol, Or.inr ⟨rfl, Or.inr ⟨rfl, hol⟩⟩⟩
    | case3 =>
      refine ⟨⟨hvl, hvr, rfl⟩, ?_, fun y hy c hc => ?_, Or.inl rfl⟩
      · by_cases htt : lt = .term ∧ rt = .term
        · rw [if_pos htt]
          obtain ⟨rfl, rfl⟩ := htt
          obtain ⟨a, rfl⟩ := htl
          obtain ⟨b, rfl⟩ := htr
          exact ⟨a, b, _, rfl⟩
        · rw [if_neg htt]; trivial
      · rcases List.mem_append.mp hy with hy | hy
        · exact headOK_of_snoc hol y hy c hc
        · exact headOK_of_snoc hor y hy c hc

/-- The last node pushed differs from the value only as the top of a collapsed chain over a double leaf;
the audit has put both leaves on the side of that node, so root and verdict are the value's. -/
theorem Top.walk_root (H : Bytes → Bytes) (x : Bytes) {nt vt : Tree} {ty : NodeType} (htop : Top [] nt vt ty)
    (hts : TyShape vt ty) : nt.walk x 0 = vt.walk x 0 ∧ nt.root H = vt.root H := by
  rcases htop with rfl | ⟨rfl, ⟨rfl, hho⟩ | ⟨rfl, hho⟩⟩
  · exact ⟨rfl, rfl⟩
  · obtain ⟨a, b, hh, rfl⟩ := hts
    exact ⟨walk_collapsed x a b hh hh 0 true (hho a (by simp [Tree.leaves]) true rfl)
      (hho b (by simp [Tree.leaves]) true rfl), rfl⟩
  · obtain ⟨a, b, hh, rfl⟩ := hts
    exact ⟨walk_collapsed x a b hh hh 0 false (hho a (by simp [Tree.leaves]) false rfl)
      (hho b (by simp [Tree.leaves]) false rfl), rfl⟩

/-- `validate_merkle_proof` in trees: the proof is the serialisation of a tree accepted at the root, and root and
verdict are those of its value (the code reads them off the last node pushed: `Top.walk_root`, the one place where
the leaf-position audit is used) -/
theorem validate_iff {H : Bytes → Bytes} {p x r : Bytes} {b : Bool} :
    validateMerkleProof H p x r = some b ↔
      ∃ t : PT, t.Acc 0 [] ∧ p = t.ser ∧ (t.eval H).val.root H = r ∧ (t.eval H).val.walk x 0 = some b := by
  have run : ∀ t : PT, t.Acc 0 [] → validateMerkleProof H t.ser x r =
      if (t.eval H).val.root H = r then (t.eval H).val.walk x 0 else none := fun t acc => by
    have hden := (t.build_pushed H []).1.last
    obtain ⟨_, hts, _, htop⟩ := eval_inv H t 0 [] acc
    obtain ⟨hwn, hrn⟩ := htop.walk_root H x hts
    rw [← hwn, ← hrn]
    unfold validateMerkleProof validateOutcome fromProof deserializeProof
    rw [(parseNode_iff rfl (by decide)).mpr ⟨t, acc, (List.append_nil _).symm, rfl⟩]
    simp only []
    rw [hden.getRoot H, generateProof_eq ⟨_, true⟩ _ hden, Tree.walk]
    by_cases hr : (t.eval H).last.root H = r
    · rw [if_neg (fun h => h hr), if_pos hr]; cases (t.eval H).last.genProof x 0 <;> rfl
    · rw [if_pos hr, if_neg hr]
  constructor
  · intro h
    have h' := h
    unfold validateMerkleProof validateOutcome fromProof deserializeProof at h'
    cases hp : parseNode H 258 0 [] p [] with
    | none => rw [hp] at h'; cases h'
    | some v =>
      obtain ⟨rest, v⟩ := v
      obtain ⟨t, acc, rfl, _⟩ := (parseNode_iff rfl (by decide)).mp hp
      cases rest with
      | cons c rest => rw [hp] at h'; simp at h'
      | nil =>
        rw [List.append_nil, run t acc] at h
        split at h
        · exact ⟨t, acc, List.append_nil _, ‹_›, h⟩
        · cases h
  · rintro ⟨t, acc, rfl, hr, hw⟩
    rw [run t acc, if_pos hr, hw]

end ChiaModel.Merkle
