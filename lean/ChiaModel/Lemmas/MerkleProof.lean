import ChiaModel.Lemmas.MerkleParse
/-
C12 completeness.  What proof generation emits on the tree of a set is `PT.ser` of a wire tree that the
parser accepts (`PT.Acc`) and whose value stands for the tree walked (`Stands`: same hash, node type,
leaf and verdict), with the type of the reference value: `Honest`, shown for the tree of every set at every
depth (`ttree_honest`).
-/
namespace ChiaModel.Merkle
open ChiaModel Spec

theorem pad_succ (k : Nat) (a b : Bytes) (d : Nat) :
    padMiddlesForProofGen (k + 1) a b d =
      if getBit a d ≠ getBit b d then [MIDDLE, TERMINAL] ++ a ++ [TERMINAL] ++ b
      else if getBit a d then [MIDDLE, EMPTY] ++ padMiddlesForProofGen k a b ((d + 1) % 256)
      else [MIDDLE] ++ padMiddlesForProofGen k a b ((d + 1) % 256) ++ [EMPTY] := rfl

abbrev dblT (H : Bytes → Bytes) (a b : Bytes) : Tree := .mid (.leaf a) (.leaf b) (hashNode H .term .term a b)

/-- the bytes of `pad_middles_for_proof_gen` as a proof tree: the two leaves at the bottom are the
value (type `midDbl`), every level above is collapsed -/
theorem pad_pt (H : Bytes → Bytes) (a b : Bytes) (ha : a.length = 32) (hb : b.length = 32) (e : Nat)
    (he : e ≤ 255) (hae : getBit a e = false) (hbe : getBit b e = true)
    (hagree : ∀ i, i < e → getBit a i = getBit b i) :
    ∀ (k d : Nat) (p : List Bool), d ≤ e → e - d < k → p.length = d → Path p a → Path p b →
      ∃ pt : PT, padMiddlesForProofGen k a b d = pt.ser ∧ pt.Acc d p ∧
        (pt.eval H).val = dblT H a b ∧ (pt.eval H).ty = .midDbl := by
  intro k
  induction k with
  | zero => intro d p _ h; omega
  | succ k ih =>
    intro d p hde hk hpl hpa hpb
    have hlen : ∀ c : Bool, (p ++ [c]).length = d + 1 := fun c => by simp [hpl]
    have hlen' : ∀ c : Bool, (p ++ [c]).length ≤ 256 := fun c => by rw [hlen]; omega
    rw [pad_succ]
    by_cases hd : d = e
    · subst hd
      rw [if_pos (by rw [hae, hbe]; simp)]
      exact ⟨.mid (.term a) (.term b), by simp [PT.ser],
        ⟨by omega, ⟨ha, auditOk_of_path (hpa.snoc (by rw [hpl]; exact hae)) (hlen' _)⟩,
          ⟨hb, auditOk_of_path (hpb.snoc (by rw [hpl]; exact hbe)) (hlen' _)⟩⟩, rfl, rfl⟩
    · have hd1 : d + 1 ≤ e := Nat.lt_of_le_of_ne hde hd
      have hab := hagree d hd1
      rw [if_neg (by rw [hab]; simp), Nat.mod_eq_of_lt (by omega)]
      by_cases hbit : getBit a d = true
      · obtain ⟨pt, e1, acc, ev, et⟩ := ih (d + 1) (p ++ [true]) hd1 (by omega) (hlen _)
          (hpa.snoc (by rw [hpl]; exact hbit)) (hpb.snoc (by rw [hpl, ← hab]; exact hbit))
        rw [if_pos hbit, e1]
        exact ⟨.mid .empty pt, rfl, ⟨by omega, trivial, acc⟩, by rw [eval_mid, ev, et]; exact ⟨rfl, rfl⟩⟩
      · have hbit' : getBit a d = false := by simpa using hbit
        obtain ⟨pt, e1, acc, ev, et⟩ := ih (d + 1) (p ++ [false]) hd1 (by omega) (hlen _)
          (hpa.snoc (by rw [hpl]; exact hbit')) (hpb.snoc (by rw [hpl, ← hab]; exact hbit'))
        rw [if_neg hbit, e1]
        exact ⟨.mid pt .empty, by simp [PT.ser], ⟨by omega, acc, trivial⟩, by rw [eval_mid, ev, et]; exact ⟨rfl, rfl⟩⟩

/-- what `other_included` leaves of a sub-tree: its hash as a truncated node -/
def Tree.stub : Tree → Tree
  | .empty => .empty
  | .leaf x => .leaf x
  | .trunc h => .trunc h
  | .mid _ _ h => .trunc h

theorem Tree.stub_hash (t : Tree) : t.stub.hash = t.hash := by cases t <;> rfl
theorem Tree.stub_ntype (t : Tree) : t.stub.ntype = t.ntype := by cases t <;> rfl
theorem Tree.stub_leaf? (t : Tree) : t.stub.leaf? = t.leaf? := by cases t <;> rfl

/-- what `other_included` writes for a sub-tree, as a proof tree -/
def Tree.stubPT : Tree → PT
  | .empty => .empty
  | .leaf x => .term x
  | .trunc h => .trunc h
  | .mid _ _ h => .trunc h

theorem Tree.other_ser (t : Tree) : t.other = t.stubPT.ser := by cases t <;> rfl

theorem Tree.stubPT_eval (H : Bytes → Bytes) (t : Tree) : t.stubPT.eval H = ⟨t.stub, t.stub, t.ntype⟩ := by
  cases t <;> rfl

theorem Tree.stubPT_acc {t : Tree} (d : Nat) {p : List Bool} (hl : t.hash.length = 32)
    (ha : ∀ y, t = .leaf y → auditOk y p = true) : t.stubPT.Acc d p := by
  cases t with
  | empty => trivial
  | leaf y => exact ⟨hl, ha y rfl⟩
  | trunc h => exact hl
  | mid l r h => exact hl

/-- `u` can take the place of `t` below a node on the route of `x`: the parser computes the same hash
over it and `generate_proof` reaches the same verdict through it -/
structure Stands (x : Bytes) (d : Nat) (u t : Tree) : Prop where
  hash : u.hash = t.hash
  ntype : u.ntype = t.ntype
  leaf? : u.leaf? = t.leaf?
  walk : u.walk x d = t.walk x d

theorem Stands.refl (x : Bytes) (d : Nat) (t : Tree) : Stands x d t t := ⟨rfl, rfl, rfl, rfl⟩

/-- `get_root` hashes a leaf and reads every other node's hash off the node: it depends on the leaf, the
node type and the hash only, the three that `Stands` keeps besides the verdict -/
theorem Tree.root_eq (H : Bytes → Bytes) (t : Tree) :
    t.root H = match t.leaf? with
      | some a => hashLeaf H a
      | none => if t.ntype = .empty then BLANK else t.hash := by
  cases t <;> rfl

theorem Stands.root (H : Bytes → Bytes) {x : Bytes} {d : Nat} {u t : Tree} (h : Stands x d u t) :
    u.root H = t.root H := by
  rw [Tree.root_eq, Tree.root_eq, h.hash, h.ntype, h.leaf?]

/-- below a node whose right sub-tree holds the route of `x`, the left one may be truncated -/
theorem Stands.mid_right {x : Bytes} {d : Nat} {l r vr : Tree} (h : Bytes) (hd : d < 255) (hbit : getBit x d = true)
    (hnb : ¬(l.leaf?.isSome = true ∧ r.leaf?.isSome = true)) (hr : Stands x (d + 1) vr r) :
    Stands x d (.mid l.stub vr h) (.mid l r h) := by
  refine ⟨rfl, rfl, rfl, ?_⟩
  rw [walk_mid_not_both _ _ _ _ _ (by rw [Tree.stub_leaf?, hr.leaf?]; exact hnb), walk_mid_not_both _ _ _ _ _ hnb,
    if_pos hbit, if_pos hbit, Nat.mod_eq_of_lt (by omega), hr.walk]

theorem Stands.mid_left {x : Bytes} {d : Nat} {l r vl : Tree} (h : Bytes) (hd : d < 255) (hbit : ¬ getBit x d = true)
    (hnb : ¬(l.leaf?.isSome = true ∧ r.leaf?.isSome = true)) (hl : Stands x (d + 1) vl l) :
    Stands x d (.mid vl r.stub h) (.mid l r h) := by
  refine ⟨rfl, rfl, rfl, ?_⟩
  rw [walk_mid_not_both _ _ _ _ _ (by rw [Tree.stub_leaf?, hl.leaf?]; exact hnb), walk_mid_not_both _ _ _ _ _ hnb,
    if_neg hbit, if_neg hbit, Nat.mod_eq_of_lt (by omega), hl.walk]

/-- Proof generation for `x` on `t` at depth `d` emits a proof tree that the parser accepts on route
`p`, with type `ty` and a value that stands for `t`. -/
def Honest (H : Bytes → Bytes) (x : Bytes) (t : Tree) (ty : NodeType) (d : Nat) (p : List Bool) : Prop :=
  ∃ (b : Bool) (pt : PT), t.genProof x d = some (b, pt.ser) ∧ pt.Acc d p ∧ (pt.eval H).ty = ty ∧
    Stands x d (pt.eval H).val t

theorem honest_empty (H : Bytes → Bytes) (x : Bytes) (d : Nat) (p : List Bool) : Honest H x .empty .empty d p :=
  ⟨_, .empty, rfl, trivial, rfl, Stands.refl ..⟩

theorem honest_leaf (H : Bytes → Bytes) (x a : Bytes) (d : Nat) {p : List Bool} (ha : a.length = 32) (hp : Path p a)
    (hpl : p.length ≤ 256) : Honest H x (.leaf a) .term d p :=
  ⟨_, .term a, rfl, ⟨ha, auditOk_of_path hp hpl⟩, rfl, Stands.refl ..⟩

theorem honest_dbl (H : Bytes → Bytes) (x a b : Bytes) (ha : a.length = 32) (hb : b.length = 32) (e : Nat) (he : e ≤ 255)
    (hae : getBit a e = false) (hbe : getBit b e = true) (hagree : ∀ i, i < e → getBit a i = getBit b i)
    (d : Nat) (p : List Bool) (hd : d ≤ e) (hpl : p.length = d) (hpa : Path p a) (hpb : Path p b) :
    Honest H x (dblT H a b) .midDbl d p := by
  obtain ⟨pt, e1, acc, ev, et⟩ := pad_pt H a b ha hb e he hae hbe hagree 257 d p hd (by omega) hpl hpa hpb
  exact ⟨_, pt, by rw [genProof_dbl, e1], acc, et, by rw [ev]; exact Stands.refl ..⟩

/-- a hashed node whose right sub-tree holds the route of `x`: the left sub-tree is truncated -/
theorem Honest.mid_right (H : Bytes → Bytes) (hH : ∀ u, (H u).length = 32) {x : Bytes} {tl tr : Tree} {h : Bytes}
    {a b : Bytes × NodeType} {d : Nat} {p : List Bool} (shl : Shape tl a) (shr : Shape tr b)
    (hval : ValT H (.mid tl tr h)) (hal : a.2 = .term → auditOk a.1 (p ++ [false]) = true)
    (h1 : ¬(a.2 = .empty ∧ b.2 ≠ .mid)) (hnt : ¬(a.2 = .term ∧ b.2 = .term))
    (hd : d < 255) (hbit : getBit x d = true) (hr : Honest H x tr b.2 (d + 1) (p ++ [true])) :
    Honest H x (.mid tl tr h) .mid d p := by
  obtain ⟨bb, ptr, hg, accr, tyr, str⟩ := hr
  obtain ⟨vl, _, rfl⟩ := hval
  have hnb : ¬(tl.leaf?.isSome = true ∧ tr.leaf?.isSome = true) := by
    rw [shl.leaf?_isSome, shr.leaf?_isSome]; exact hnt
  have hty : tl.ntype = .empty ↔ a.2 = .empty := by rw [← enc_eq_zero, shl.enc, enc_eq_zero]
  have hty1 : tl.ntype = .term ↔ a.2 = .term := by rw [← enc_eq_one, shl.enc, enc_eq_one]
  refine ⟨bb, .mid tl.stubPT ptr, ?_, ⟨by omega, ?_, accr⟩, ?_⟩
  · rw [genProof_mid_not_both _ _ _ _ _ hnb, if_pos hbit, Nat.mod_eq_of_lt (by omega), hg, Tree.other_ser]
    simp [PT.ser]
  · refine Tree.stubPT_acc _ (vl.hash_length hH) fun y hy => ?_
    have ht : a.2 = .term := shl.leaf?_isSome.mp (by rw [hy]; rfl)
    cases hy.symm.trans (shl.of_term ht)
    exact hal ht
  · -- no level is collapsed here (an empty side only occurs beside a `mid`), and the hash the parser computes over
    -- the stub and the value is the cached one, the node being valid
    rw [eval_mid, Tree.stubPT_eval, tyr,
      midT_of_not _ _ _ (by rintro ⟨e1, e2⟩; exact h1 ⟨hty.mp e1, by rw [e2]; simp⟩) (by rintro ⟨e1, _⟩; cases tl <;> cases e1),
      if_neg (by rw [hty1]; exact hnt), Tree.stub_hash, Tree.stub_ntype, str.hash, str.ntype]
    exact ⟨rfl, Stands.mid_right _ hd hbit hnb str⟩

/-- the mirror image: the left sub-tree holds the route of `x`, the right one is truncated -/
theorem Honest.mid_left (H : Bytes → Bytes) (hH : ∀ u, (H u).length = 32) {x : Bytes} {tl tr : Tree} {h : Bytes}
    {a b : Bytes × NodeType} {d : Nat} {p : List Bool} (shl : Shape tl a) (shr : Shape tr b)
    (hval : ValT H (.mid tl tr h)) (hal : b.2 = .term → auditOk b.1 (p ++ [true]) = true)
    (h2 : ¬(b.2 = .empty ∧ a.2 ≠ .mid)) (hnt : ¬(a.2 = .term ∧ b.2 = .term))
    (hd : d < 255) (hbit : ¬ getBit x d = true) (hl : Honest H x tl a.2 (d + 1) (p ++ [false])) :
    Honest H x (.mid tl tr h) .mid d p := by
  obtain ⟨bb, ptl, hg, accl, tyl, stl⟩ := hl
  obtain ⟨_, vr, rfl⟩ := hval
  have hnb : ¬(tl.leaf?.isSome = true ∧ tr.leaf?.isSome = true) := by
    rw [shl.leaf?_isSome, shr.leaf?_isSome]; exact hnt
  have hty : tr.ntype = .empty ↔ b.2 = .empty := by rw [← enc_eq_zero, shr.enc, enc_eq_zero]
  have hty1 : tr.ntype = .term ↔ b.2 = .term := by rw [← enc_eq_one, shr.enc, enc_eq_one]
  refine ⟨bb, .mid ptl tr.stubPT, ?_, ⟨by omega, accl, ?_⟩, ?_⟩
  · rw [genProof_mid_not_both _ _ _ _ _ hnb, if_neg hbit, Nat.mod_eq_of_lt (by omega), hg, Tree.other_ser]
    simp [PT.ser]
  · refine Tree.stubPT_acc _ (vr.hash_length hH) fun y hy => ?_
    have ht : b.2 = .term := shr.leaf?_isSome.mp (by rw [hy]; rfl)
    cases hy.symm.trans (shr.of_term ht)
    exact hal ht
  · rw [eval_mid, Tree.stubPT_eval, tyl,
      midT_of_not _ _ _ (by rintro ⟨_, e2⟩; cases tr <;> cases e2) (by rintro ⟨e1, e2⟩; exact h2 ⟨hty.mp e2, by rw [e1]; simp⟩),
      if_neg (by rw [hty1]; exact hnt), Tree.stub_hash, Tree.stub_ntype, stl.hash, stl.ntype]
    exact ⟨rfl, Stands.mid_left _ hd hbit hnb stl⟩

theorem term_audit (H : Bytes → Bytes) (n : Nat) (S : List Bytes) (hS : ∀ y ∈ S, IsLeaf y) (hag : Agree (256 - n) S)
    {p : List Bool} (hp : ∀ y ∈ S, Path p y) (hlen : p.length ≤ 256) (h : (trie H n S).2 = .term) :
    auditOk (trie H n S).1 p = true := by
  obtain ⟨hm, _⟩ := trie_term H n S _ hS hag (by rw [← h])
  exact auditOk_of_path (hp _ hm) hlen

/-- sets whose value is no `mid`: no leaf, one leaf, or two leaves -/
theorem honest_not_mid (H : Bytes → Bytes) (x : Bytes) (n : Nat) (S : List Bytes) (hS : ∀ y ∈ S, IsLeaf y)
    (hag : Agree (256 - n) S) (d : Nat) (p : List Bool) (hd : d ≤ 256 - n) (hpl : p.length = d)
    (hp : ∀ y ∈ S, Path p y) (hnm : (trie H n S).2 ≠ .mid) : Honest H x (ttree H n S) (trie H n S).2 d p := by
  have sh := ttree_shape H n S
  cases hv : trie H n S with
  | mk vh vt =>
  rw [hv] at sh hnm
  cases vt with
  | empty => rw [sh.of_empty rfl]; exact honest_empty H x d p
  | term =>
    obtain ⟨hm, _⟩ := trie_term H n S vh hS hag hv
    rw [sh.of_term rfl]
    exact honest_leaf H x vh d (hS vh hm).1 (hp vh hm) (by omega)
  | midDbl =>
    obtain ⟨a, b, e, he1, he2, hh, hae, hbe, hagree, hma, hmb, _, ht⟩ := trie_dbl H n S vh hS hag hv
    rw [ht, hh]
    exact honest_dbl H x a b (hS a hma).1 (hS b hmb).1 e he2 hae hbe hagree d p (by omega) hpl (hp a hma) (hp b hmb)
  | mid => exact absurd rfl hnm

/-- Proof generation on the tree of `S`, reached at depth `d` by a route `p` that all of `S` lies below, is `Honest`.  A
collapsed value (no leaf, one leaf, a double leaf) is reached at any depth `d ≤ 256 - n`, the levels in between being
collapsed; only a `mid` value is a node at its true depth, `d = 256 - n`. -/
theorem ttree_honest (H : Bytes → Bytes) (hH : ∀ u, (H u).length = 32) (x : Bytes) :
    ∀ (n : Nat) (S : List Bytes), (∀ y ∈ S, IsLeaf y) → Agree (256 - n) S → n ≤ 256 →
      ∀ (d : Nat) (p : List Bool), d ≤ 256 - n → p.length = d → (∀ y ∈ S, Path p y) →
        ((trie H n S).2 = .mid → d = 256 - n) → Honest H x (ttree H n S) (trie H n S).2 d p := by
  intro n
  induction n with
  | zero =>
    intro S hS hag _ d p hd hpl hp _
    exact honest_not_mid H x 0 S hS hag d p hd hpl hp (fun h => absurd (trie_mid_depth H h) (by omega))
  | succ n ih =>
    intro S hS hag hn d p hd hpl hp hmid
    -- A value that is no `mid` is one of the leaf cases.  A `mid` value sits at its true depth `255 - n` over two
    -- halves that are not both single leaves: generation descends into the half that bit `255 - n` of `x` selects
    -- and truncates the other (`Honest.mid_right` / `mid_left`, the descent by induction).
    by_cases hm : (trie H (n + 1) S).2 ≠ .mid
    · exact honest_not_mid H x (n + 1) S hS hag d p hd hpl hp hm
    have hm := Decidable.of_not_not hm
    have hn2 := trie_mid_depth H hm
    obtain rfl : d = 255 - n := by have := hmid hm; omega
    have hd1 : 255 - n + 1 = 256 - n := by omega
    have hSlo : ∀ y ∈ Lo(255 - n, S), IsLeaf y := fun y hy => hS y (List.mem_filter.mp hy).1
    have hShi : ∀ y ∈ Hi(255 - n, S), IsLeaf y := fun y hy => hS y (List.mem_filter.mp hy).1
    have hplo : ∀ y ∈ Lo(255 - n, S), Path (p ++ [false]) y := fun y hy =>
      (hp y (List.mem_filter.mp hy).1).snoc (by rw [hpl]; simpa using (List.mem_filter.mp hy).2)
    have hphi : ∀ y ∈ Hi(255 - n, S), Path (p ++ [true]) y := fun y hy =>
      (hp y (List.mem_filter.mp hy).1).snoc (by rw [hpl]; exact (List.mem_filter.mp hy).2)
    have hlen : ∀ c : Bool, (p ++ [c]).length = 255 - n + 1 := fun c => by simp [hpl]
    have hlen' : ∀ c : Bool, (p ++ [c]).length ≤ 256 := fun c => by rw [hlen]; omega
    have hval := ttree_valT H (n + 1) S hS
    rcases trie_succ_cases H n S rfl rfl with ⟨hnm, _, ht, _⟩ | ⟨h1, h2, ht, htree⟩
    · exact absurd (ht ▸ hm) hnm
    · rw [ht] at hm
      have hnt : ¬((trie H n (Lo(255 - n, S))).2 = .term ∧ (trie H n (Hi(255 - n, S))).2 = .term) :=
        fun h => by rw [if_pos h] at hm; cases hm
      rw [htree] at hval ⊢
      rw [ht, if_neg hnt]
      by_cases hbit : getBit x (255 - n) = true
      · exact Honest.mid_right H hH (ttree_shape H n _) (ttree_shape H n _) hval
          (term_audit H n _ hSlo hag.lo hplo (hlen' _)) h1 hnt (by omega) hbit
          (ih _ hShi hag.hi (by omega) _ (p ++ [true]) (Nat.le_of_eq hd1) (hlen _) hphi (fun _ => hd1))
      · exact Honest.mid_left H hH (ttree_shape H n _) (ttree_shape H n _) hval
          (term_audit H n _ hShi hag.hi hphi (hlen' _)) h2 hnt (by omega) hbit
          (ih _ hSlo hag.lo (by omega) _ (p ++ [false]) (Nat.le_of_eq hd1) (hlen _) hplo (fun _ => hd1))

end ChiaModel.Merkle
