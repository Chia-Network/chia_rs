import ChiaModel.Model.MerkleSet
/-
Helper lemmas for C12 (Merkle set): bit extensionality of 32-byte strings, the recursion equation of
`Spec.trie` (`trie_succ`), and its set-invariance (`trie_set_ext`).
-/
namespace ChiaModel.Merkle
open ChiaModel

theorem getBit_eq (x : Bytes) (j b : Nat) (hb : b < 8) :
    getBit x (8 * j + (7 - b)) = (x.getD j 0).testBit b := by
  unfold getBit
  have hlt : 7 - b < 8 := Nat.lt_succ_of_le (Nat.sub_le 7 b)
  rw [Nat.mul_add_div (by decide), Nat.mul_add_mod, Nat.div_eq_of_lt hlt, Nat.mod_eq_of_lt hlt,
    Nat.sub_sub_self (Nat.le_of_lt_succ hb)]
  rfl

theorem leaf_ext {x y : Bytes} (hx : IsLeaf x) (hy : IsLeaf y)
    (h : ∀ i, i < 256 → getBit x i = getBit y i) : x = y := by
  apply List.ext_getElem (by rw [hx.1, hy.1])
  intro j h1 h2
  apply Nat.eq_of_testBit_eq
  intro b
  by_cases hb : b < 8
  · have := h (8 * j + (7 - b)) (by have := hx.1; omega)
    rw [getBit_eq x j b hb, getBit_eq y j b hb] at this
    simpa [List.getD_eq_getElem?_getD, List.getElem?_eq_getElem h1, List.getElem?_eq_getElem h2] using this
  · have hpow : 256 ≤ 2 ^ b := Nat.pow_le_pow_right (by decide : 0 < 2) (Nat.le_of_not_lt hb)
    rw [Nat.testBit_lt_two_pow (Nat.lt_of_lt_of_le (hx.2 _ (List.getElem_mem h1)) hpow),
      Nat.testBit_lt_two_pow (Nat.lt_of_lt_of_le (hy.2 _ (List.getElem_mem h2)) hpow)]

def Agree (k : Nat) (S : List Bytes) : Prop :=
  ∀ x ∈ S, ∀ y ∈ S, ∀ i, i < k → getBit x i = getBit y i

theorem Agree.all_eq {S : List Bytes} (h : Agree 256 S) (hS : ∀ x ∈ S, IsLeaf x) :
    ∀ x ∈ S, ∀ y ∈ S, x = y :=
  fun x hx y hy => leaf_ext (hS x hx) (hS y hy) (h x hx y hy)

notation "Lo(" d ", " S ")" => List.filter (fun v => !getBit v d) S
notation "Hi(" d ", " S ")" => List.filter (fun v => getBit v d) S

theorem lo_nil_hi {d : Nat} {S : List Bytes} (h : Lo(d, S) = []) : Hi(d, S) = S := by
  rw [List.filter_eq_self]
  intro a ha
  have := (List.filter_eq_nil_iff.mp h) a ha
  simpa using this

theorem hi_nil_lo {d : Nat} {S : List Bytes} (h : Hi(d, S) = []) : Lo(d, S) = S := by
  rw [List.filter_eq_self]
  intro a ha
  have := (List.filter_eq_nil_iff.mp h) a ha
  simpa using this

theorem lo_hi_nil {d : Nat} {S : List Bytes} (h1 : Lo(d, S) = []) (h2 : Hi(d, S) = []) : S = [] := by
  rw [← lo_nil_hi h1]; exact h2

theorem mem_lo_or_hi {d : Nat} {S : List Bytes} {y : Bytes} (h : y ∈ S) : y ∈ Lo(d, S) ∨ y ∈ Hi(d, S) := by
  by_cases hb : getBit y d = true
  · exact Or.inr (List.mem_filter.mpr ⟨h, hb⟩)
  · exact Or.inl (List.mem_filter.mpr ⟨h, by simpa using hb⟩)

theorem mem_hi_iff {d : Nat} {S : List Bytes} {x : Bytes} (hb : getBit x d = true) : x ∈ Hi(d, S) ↔ x ∈ S := by
  simp [List.mem_filter, hb]

theorem mem_lo_iff {d : Nat} {S : List Bytes} {x : Bytes} (hb : getBit x d = false) : x ∈ Lo(d, S) ↔ x ∈ S := by
  simp [List.mem_filter, hb]

/-- splitting by bit `255 - n` extends the common prefix by that bit -/
theorem Agree.filter {n : Nat} {S : List Bytes} {q : Bytes → Bool} (h : Agree (256 - (n + 1)) S)
    (hq : ∀ x y, q x = true → q y = true → getBit x (255 - n) = getBit y (255 - n)) :
    Agree (256 - n) (S.filter q) := by
  intro x hx y hy i hi
  have hx' := List.mem_filter.mp hx
  have hy' := List.mem_filter.mp hy
  by_cases hlt : i < 256 - (n + 1)
  · exact h x hx'.1 y hy'.1 i hlt
  · have : i = 255 - n := by omega
    subst this
    exact hq x y hx'.2 hy'.2

theorem Agree.lo {n : Nat} {S : List Bytes} (h : Agree (256 - (n + 1)) S) :
    Agree (256 - n) (Lo((255 - n), S)) :=
  h.filter fun x y hx hy => by
    rw [Bool.not_eq_true'] at hx hy
    rw [hx, hy]

theorem Agree.hi {n : Nat} {S : List Bytes} (h : Agree (256 - (n + 1)) S) :
    Agree (256 - n) (Hi((255 - n), S)) :=
  h.filter fun x y hx hy => by rw [hx, hy]

theorem Agree.of_half {n : Nat} {S : List Bytes} (h : Agree (256 - (n + 1)) S)
    (e : Lo((255 - n), S) = S ∨ Hi((255 - n), S) = S) : Agree (256 - n) S := by
  rcases e with e | e
  · have := h.lo; rwa [e] at this
  · have := h.hi; rwa [e] at this

open Spec

theorem trie_nil (H : Bytes → Bytes) (n : Nat) : trie H n [] = (BLANK, .empty) := by
  cases n <;> rfl

theorem trie_single (H : Bytes → Bytes) (n : Nat) (x : Bytes) : trie H n [x] = (x, .term) := by
  cases n <;> rfl

theorem trie_zero_cons (H : Bytes → Bytes) (x : Bytes) (S : List Bytes) : trie H 0 (x :: S) = (x, .term) := rfl

theorem combine_empty_left (H : Bytes → Bytes) (b : Bytes) (r : Bytes × NodeType) :
    combine H (b, .empty) r = if r.2 = .mid then (hashNode H .empty r.2 b r.1, .mid) else r := by
  by_cases h : r.2 = .mid <;> simp [combine, h]

theorem combine_empty_right (H : Bytes → Bytes) (b : Bytes) (l : Bytes × NodeType) (hl : l.2 ≠ .empty) :
    combine H l (b, .empty) = if l.2 = .mid then (hashNode H l.2 .empty l.1 b, .mid) else l := by
  by_cases h : l.2 = .mid <;> simp [combine, h, hl]

theorem combine_both (H : Bytes → Bytes) {a b : Bytes × NodeType} (ha : a.2 ≠ .empty) (hb : b.2 ≠ .empty) :
    combine H a b = (hashNode H a.2 b.2 a.1 b.1, if a.2 = .term ∧ b.2 = .term then .midDbl else .mid) := by
  simp [combine, ha, hb]

/-- the one recursion equation of the reference trie, valid for every list -/
theorem trie_succ (H : Bytes → Bytes) (n : Nat) (S : List Bytes) :
    trie H (n + 1) S = combine H (trie H n (Lo((255 - n), S))) (trie H n (Hi((255 - n), S))) := by
  match S with
  | [] => simp [trie, trie_nil, combine]
  | [x] =>
    by_cases hb : getBit x (255 - n) = true
    · simp [trie, hb, trie_nil, trie_single, combine]
    · simp [trie, hb, trie_nil, trie_single, combine]
  | x :: y :: t => simp [trie]

theorem trie_type_empty_iff (H : Bytes → Bytes) (n : Nat) (S : List Bytes) :
    (trie H n S).2 = .empty ↔ S = [] := by
  induction n generalizing S with
  | zero => cases S <;> simp [trie]
  | succ n ih =>
    constructor
    · intro h
      rw [trie_succ] at h
      unfold combine at h
      split at h
      · rename_i h1
        exact lo_hi_nil ((ih _).mp h1.1) ((ih _).mp h)
      · split at h
        · rename_i h1 h2
          have := (ih _).mp h
          have h3 := (ih _).mp h2.1
          exact lo_hi_nil this h3
        · simp at h
          split at h <;> simp at h
    · intro h; subst h; simp [trie_nil]

theorem trie_ne_empty (H : Bytes → Bytes) (n : Nat) {S : List Bytes} (h : S ≠ []) :
    (trie H n S).2 ≠ .empty := fun h' => h ((trie_type_empty_iff H n S).mp h')

theorem headD_cons_of_ne_nil {S : List Bytes} (h : S ≠ []) : ∃ t, S = S.headD BLANK :: t := by
  cases S with
  | nil => exact absurd rfl h
  | cons x t => exact ⟨t, rfl⟩

theorem trie_zero_of_ne_nil (H : Bytes → Bytes) {S : List Bytes} (h : S ≠ []) :
    trie H 0 S = (S.headD BLANK, .term) := by
  cases S with
  | nil => exact absurd rfl h
  | cons x t => rfl

theorem trie_set_ext (H : Bytes → Bytes) (n : Nat) (S S' : List Bytes) (hS : ∀ x ∈ S, IsLeaf x)
    (hag : Agree (256 - n) S) (hmem : ∀ x, x ∈ S ↔ x ∈ S') : trie H n S = trie H n S' := by
  induction n generalizing S S' with
  | zero =>
    cases S with
    | nil =>
      cases S' with
      | nil => rfl
      | cons y t => exact absurd ((hmem y).mpr (List.mem_cons_self ..)) (by simp)
    | cons x t =>
      cases S' with
      | nil => exact absurd ((hmem x).mp (List.mem_cons_self ..)) (by simp)
      | cons y t' =>
        have hy : y ∈ x :: t := (hmem y).mpr (List.mem_cons_self ..)
        have : x = y := Agree.all_eq hag hS x (List.mem_cons_self ..) y hy
        subst this; rfl
  | succ n ih =>
    rw [trie_succ, trie_succ]
    have hmem_lo : ∀ x, x ∈ Lo((255 - n), S) ↔ x ∈ Lo((255 - n), S') := by
      intro x; simp only [List.mem_filter, hmem x]
    have hmem_hi : ∀ x, x ∈ Hi((255 - n), S) ↔ x ∈ Hi((255 - n), S') := by
      intro x; simp only [List.mem_filter, hmem x]
    rw [ih _ _ (fun x hx => hS x (List.mem_filter.mp hx).1) hag.lo hmem_lo,
        ih _ _ (fun x hx => hS x (List.mem_filter.mp hx).1) hag.hi hmem_hi]

theorem agree_zero (S : List Bytes) : Agree (256 - 256) S := by
  intro x _ y _ i hi; omega

theorem mem_dedup (l : List Bytes) (x : Bytes) : x ∈ Spec.dedup l ↔ x ∈ l := by
  induction l with
  | nil => simp [Spec.dedup]
  | cons a t ih =>
    unfold Spec.dedup
    by_cases h : a ∈ Spec.dedup t
    · rw [if_pos h, ih]
      constructor
      · exact fun hx => List.mem_cons_of_mem _ hx
      · intro hx
        rcases List.mem_cons.mp hx with hxa | hx
        · exact ih.mp (by rw [hxa]; exact h)
        · exact hx
    · rw [if_neg h, List.mem_cons, List.mem_cons, ih]

theorem nodup_dedup (l : List Bytes) : (Spec.dedup l).Nodup := by
  induction l with
  | nil => simp [Spec.dedup]
  | cons a t ih =>
    unfold Spec.dedup
    by_cases h : a ∈ Spec.dedup t
    · rw [if_pos h]; exact ih
    · rw [if_neg h]; exact List.nodup_cons.mpr ⟨h, ih⟩

end ChiaModel.Merkle
