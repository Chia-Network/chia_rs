import ChiaModel.Lemmas.MerkleParse
/-
C12 soundness.  Two valid trees with the same root walk to the same verdict, or somewhere on the route
two different pre-images have the same digest (`walk_agree`, `sound_tree`: hashing only, no trie).  One
of the two is the value the parser has built, the other the tree of the set, whose walk decides
membership (`ttree_walk`).
-/
namespace ChiaModel.Merkle
open ChiaModel Spec

def Collision (H : Bytes → Bytes) : Prop := ∃ u v, u ≠ v ∧ H u = H v

theorem hashNode_eq_cases (H : Bytes → Bytes) {a b a' b' : NodeType} {l r l' r' : Bytes}
    (h : hashNode H a b l r = hashNode H a' b' l' r') (hl : l.length = l'.length) :
    (encodeType a = encodeType a' ∧ encodeType b = encodeType b' ∧ l = l' ∧ r = r') ∨ Collision H := by
  unfold hashNode at h
  by_cases he : zeros 30 ++ [encodeType a, encodeType b] ++ l ++ r = zeros 30 ++ [encodeType a', encodeType b'] ++ l' ++ r'
  · left
    simp only [List.append_assoc] at he
    have h1 := List.append_cancel_left he
    simp only [List.cons_append, List.nil_append, List.cons.injEq] at h1
    obtain ⟨e1, e2, e3⟩ := h1
    obtain ⟨e4, e5⟩ := List.append_inj e3 hl
    exact ⟨e1, e2, e4, e5⟩
  · right; exact ⟨_, _, he, h⟩

theorem collision_of_hashLeaf_eq_hashNode (H : Bytes → Bytes) {y : Bytes} {a b : NodeType} {l r : Bytes}
    (h : hashLeaf H y = hashNode H a b l r) : Collision H := by
  refine ⟨_, _, ?_, h⟩
  simp [zeros, List.replicate]

theorem leaf?_eq_some {t : Tree} {y : Bytes} (h : t.leaf? = some y) : t = .leaf y := by
  cases t <;> simp [Tree.leaf?] at h; subst h; rfl

theorem leaf?_congr {u t : Tree} (he : encodeType u.ntype = encodeType t.ntype) (hh : u.hash = t.hash) :
    u.leaf? = t.leaf? := by
  cases u <;> cases t <;> first | rfl | exact congrArg some hh | cases he

theorem walk_agree (H : Bytes → Bytes) (hH : ∀ u, (H u).length = 32) (x : Bytes) : ∀ (u t : Tree) (d : Nat),
    ValT H u → ValT H t → u.hash = t.hash → encodeType u.ntype = encodeType t.ntype →
      ∀ b b', u.walk x d = some b → t.walk x d = some b' → b = b' ∨ Collision H := by
  intro u
  induction u with
  | empty =>
    intro t d _ _ _ he b b' hu ht
    cases t <;> first | cases he | skip
    exact Or.inl (Option.some.inj (hu.symm.trans ht))
  | leaf y =>
    intro t d _ _ hh he b b' hu ht
    cases t <;> first | cases he | skip
    cases (show y = _ from hh)
    exact Or.inl (Option.some.inj (hu.symm.trans ht))
  | trunc h => intro t d _ _ _ _ b b' hu; cases hu
  | mid ul ur h ihl ihr =>
    intro t d hvu hvt hh he b b' hu ht
    cases t with
    | empty => cases he
    | leaf y => cases he
    | trunc h' => cases ht
    | mid tl tr h' =>
      obtain ⟨vul, vur, rfl⟩ := hvu
      obtain ⟨vtl, vtr, rfl⟩ := hvt
      rcases hashNode_eq_cases H hh (by rw [vul.hash_length hH, vtl.hash_length hH]) with ⟨e1, e2, e3, e4⟩ | hcol
      · -- the children agree in type and hash, so both walks take the same branch
        have el := leaf?_congr e1 e3
        have er := leaf?_congr e2 e4
        by_cases hboth : ul.leaf?.isSome = true ∧ ur.leaf?.isSome = true
        · obtain ⟨a, ha⟩ := Option.isSome_iff_exists.mp hboth.1
          obtain ⟨c, hc⟩ := Option.isSome_iff_exists.mp hboth.2
          cases leaf?_eq_some ha; cases leaf?_eq_some hc
          cases leaf?_eq_some (el ▸ ha); cases leaf?_eq_some (er ▸ hc)
          exact Or.inl (Option.some.inj (hu.symm.trans ht))
        · rw [walk_mid_not_both _ _ _ _ _ hboth] at hu
          rw [walk_mid_not_both _ _ _ _ _ (by rw [← el, ← er]; exact hboth)] at ht
          split at hu
          · rw [if_pos ‹_›] at ht; exact ihr tr _ vur vtr e4 e2 b b' hu ht
          · rw [if_neg ‹_›] at ht; exact ihl tl _ vul vtl e3 e1 b b' hu ht
      · exact Or.inr hcol

def ZeroPre (H : Bytes → Bytes) : Prop := ∃ u, H u = zeros 32

/-- `walk_agree` from equal roots (`get_root`): the two roots are of the same kind, or a leaf digest meets
a node digest, or a digest is all zero -/
theorem sound_tree (H : Bytes → Bytes) (hH : ∀ u, (H u).length = 32) (x : Bytes) {u t : Tree} {d : Nat}
    (hvu : ValT H u) (hvt : ValT H t) (hr : u.root H = t.root H) {b b' : Bool} (hu : u.walk x d = some b)
    (ht : t.walk x d = some b') : b = b' ∨ Collision H ∨ ZeroPre H := by
  have key : (u.hash = t.hash ∧ encodeType u.ntype = encodeType t.ntype) ∨ Collision H ∨ ZeroPre H := by
    cases u with
    | trunc h => cases hu
    | empty =>
      cases t with
      | trunc h => cases ht
      | empty => exact Or.inl ⟨rfl, rfl⟩
      | leaf y => exact Or.inr (Or.inr ⟨_, hr.symm⟩)
      | mid tl tr h' => obtain ⟨_, _, rfl⟩ := hvt; exact Or.inr (Or.inr ⟨_, hr.symm⟩)
    | leaf y =>
      cases t with
      | trunc h => cases ht
      | empty => exact Or.inr (Or.inr ⟨_, hr⟩)
      | leaf y' =>
        by_cases hy : y = y'
        · exact Or.inl ⟨hy, rfl⟩
        · exact Or.inr (Or.inl ⟨1 :: y, 1 :: y', by simp [hy], hr⟩)
      | mid tl tr h' => obtain ⟨_, _, rfl⟩ := hvt; exact Or.inr (Or.inl (collision_of_hashLeaf_eq_hashNode H hr))
    | mid ul ur h =>
      cases t with
      | trunc h => cases ht
      | empty => obtain ⟨_, _, rfl⟩ := hvu; exact Or.inr (Or.inr ⟨_, hr⟩)
      | leaf y => obtain ⟨_, _, rfl⟩ := hvu; exact Or.inr (Or.inl (collision_of_hashLeaf_eq_hashNode H hr.symm))
      | mid tl tr h' => exact Or.inl ⟨hr, rfl⟩
  rcases key with ⟨hh, he⟩ | hc
  · exact (walk_agree H hH x u t d hvu hvt hh he b b' hu ht).imp_right Or.inl
  · exact Or.inr hc

theorem sound_set (H : Bytes → Bytes) (hH : ∀ u, (H u).length = 32) (S : List Bytes) (hS : ∀ y ∈ S, IsLeaf y)
    (x : Bytes) {vt : Tree} (hval : ValT H vt) (hroot : vt.root H = rootOfVal H (trie H 256 S)) {b : Bool}
    (hwalk : vt.walk x 0 = some b) : b = decide (x ∈ S) ∨ Collision H ∨ ZeroPre H :=
  sound_tree H hH x hval (ttree_valT H 256 S hS) (hroot.trans (root_of_shape H (ttree_shape H 256 S)).symm) hwalk
    (ttree_walk H x 256 S hS (agree_zero S) (Nat.le_refl _) 0 fun _ => rfl)

/-- The walk through the top of a collapsed chain: one empty side, the double-leaf node on the other.
This is the place where soundness needs the leaf-position audit (`HeadOK`, established by
`eval_inv` from `auditOk`): the top of a collapsed `(Empty, MidDbl)` chain keeps its hash when its
sides are swapped, so only the audit ties the side of the empty node to the first bit of the two
leaves.  Without the audit in the model, `eval_inv` cannot establish `HeadOK`.  `C12.sound` takes this step inside
`validate_iff` (`Top.walk_root`, over the same `walk_collapsed`) and then applies `sound_set` as here. -/
theorem audit_fixes_collapsed_side (H : Bytes → Bytes) (hH : ∀ u, (H u).length = 32) (S : List Bytes) (hS : ∀ y ∈ S, IsLeaf y)
    (x a b hh : Bytes) (side : Bool) (hval : ValT H (.mid (.leaf a) (.leaf b) hh))
    (hho : HeadOK [side] (.mid (.leaf a) (.leaf b) hh))
    (hroot : hh = rootOfVal H (trie H 256 S)) (bb : Bool) (q : Bytes)
    (hwalk : (if side then Tree.mid .empty (.mid (.leaf a) (.leaf b) hh) hh
              else Tree.mid (.mid (.leaf a) (.leaf b) hh) .empty hh).genProof x 0 = some (bb, q)) :
    bb = decide (x ∈ S) ∨ Collision H ∨ ZeroPre H :=
  -- the audit puts both leaves on the side of the double-leaf node, so the verdict is that node's own
  sound_set H hH S hS x hval hroot ((walk_collapsed x a b hh hh 0 side (hho a (by simp [Tree.leaves]) side rfl)
    (hho b (by simp [Tree.leaves]) side rfl)).symm.trans (walk_of_genProof hwalk))

end ChiaModel.Merkle
