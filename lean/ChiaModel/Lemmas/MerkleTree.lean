import ChiaModel.Lemmas.MerkleSet
/-
Helper lemmas for C12: abstraction of the node vector of merkle_tree.rs to an inductive tree
(`Den`), tree-level twins of the proof generator, the tree that `from_leafs` builds (`ttree`), what the
values of the reference trie tell about the set, through the split of a level into collapsed or hashed
(`trie_succ_cases`), and the one analysis of the builder's recursion (`gen_spec`), which `radix_sort` shares as the
builder's value component (`gen_value`, `radix_eq_trie`).
-/
namespace ChiaModel.Merkle
open ChiaModel Spec

/-- the tree that an index of the node vector stands for; `mid` carries the cached node hash -/
inductive Tree where
  | empty
  | leaf (x : Bytes)
  | trunc (h : Bytes)
  | mid (l r : Tree) (h : Bytes)
  deriving Repr

def Tree.hash : Tree → Bytes
  | .empty => BLANK
  | .leaf x => x
  | .trunc h => h
  | .mid _ _ h => h

/-- `NodeType::from(ArrayTypes)` of the root node -/
def Tree.ntype : Tree → NodeType
  | .empty => .empty
  | .leaf _ => .term
  | .trunc _ => .mid
  | .mid _ _ _ => .mid

def Tree.leaf? : Tree → Option Bytes
  | .leaf x => some x
  | _ => none

/-- `get_root` on the tree -/
def Tree.root (H : Bytes → Bytes) : Tree → Bytes
  | .empty => BLANK
  | .leaf x => hashLeaf H x
  | .trunc h => h
  | .mid _ _ h => h

def Tree.other : Tree → Bytes
  | .empty => [EMPTY]
  | .leaf x => TERMINAL :: x
  | .trunc h => TRUNCATED :: h
  | .mid _ _ h => TRUNCATED :: h

def Tree.genProof : Tree → Bytes → Nat → Option (Bool × Bytes)
  | .empty, _, _ => some (false, [EMPTY])
  | .leaf h, x, _ => some (decide (h = x), TERMINAL :: h)
  | .trunc _, _, _ => none
  | .mid l r _, x, d =>
    match l.leaf?, r.leaf? with
    | some lh, some rh => some (decide (lh = x) || decide (rh = x), padMiddlesForProofGen 257 lh rh d)
    | _, _ =>
      if getBit x d then
        match r.genProof x ((d + 1) % 256) with
        | none => none
        | some (b, p) => some (b, [MIDDLE] ++ l.other ++ p)
      else
        match l.genProof x ((d + 1) % 256) with
        | none => none
        | some (b, p) => some (b, [MIDDLE] ++ p ++ r.other)

/-- index `i` of the vector `nv` stands for the tree `t` (child indices are smaller) -/
inductive Den (nv : NodeVec) : Nat → Tree → Prop where
  | empty {i : Nat} {h : Bytes} : nv[i]? = some (.empty, h) → Den nv i .empty
  | leaf {i : Nat} {x : Bytes} : nv[i]? = some (.leaf, x) → Den nv i (.leaf x)
  | trunc {i : Nat} {h : Bytes} : nv[i]? = some (.truncated, h) → Den nv i (.trunc h)
  | mid {i a b : Nat} {h : Bytes} {ta tb : Tree} : nv[i]? = some (.middle a b, h) → a < i → b < i →
      Den nv a ta → Den nv b tb → Den nv i (.mid ta tb h)

theorem getElem?_append_of_some {nv : NodeVec} {i : Nat} {v : ArrayType × Bytes} (e : NodeVec)
    (h : nv[i]? = some v) : (nv ++ e)[i]? = some v := by
  rw [List.getElem?_append_left (List.getElem?_eq_some_iff.mp h).1]; exact h

theorem Den.append {nv : NodeVec} {i : Nat} {t : Tree} (h : Den nv i t) (e : NodeVec) :
    Den (nv ++ e) i t := by
  induction h with
  | empty h => exact .empty (getElem?_append_of_some e h)
  | leaf h => exact .leaf (getElem?_append_of_some e h)
  | trunc h => exact .trunc (getElem?_append_of_some e h)
  | mid h ha hb _ _ iha ihb => exact .mid (getElem?_append_of_some e h) ha hb iha ihb

theorem Den.lt {nv : NodeVec} {i : Nat} {t : Tree} (h : Den nv i t) : i < nv.length := by
  cases h <;> exact (List.getElem?_eq_some_iff.mp ‹_›).1

theorem Den.leafAt {nv : NodeVec} {i : Nat} {t : Tree} (h : Den nv i t) : leafAt nv i = t.leaf? := by
  cases h <;> simp_all [Merkle.leafAt, Tree.leaf?]

theorem Den.other {nv : NodeVec} {i : Nat} {t : Tree} (h : Den nv i t) : otherIncluded nv i = t.other := by
  cases h <;> simp_all [otherIncluded, Tree.other]

theorem Den.hashAt {nv : NodeVec} {i : Nat} {t : Tree} (h : Den nv i t) (ht : t ≠ .empty) :
    hashAt nv i = t.hash := by
  cases h <;> simp_all [Merkle.hashAt, Tree.hash]

theorem Den.typeAt {nv : NodeVec} {i : Nat} {t : Tree} (h : Den nv i t) : typeAt nv i = t.ntype := by
  cases h <;> simp_all [Merkle.typeAt, Tree.ntype, toNodeType]

theorem Den.genProof {nv : NodeVec} {i : Nat} {t : Tree} (h : Den nv i t) :
    ∀ (f : Nat) (x : Bytes) (d : Nat), i < f → generateProofImpl nv f i x d = t.genProof x d := by
  induction h with
  | empty h => intro f x d hf; cases f with
    | zero => omega
    | succ f => simp [generateProofImpl, h, Tree.genProof]
  | leaf h => intro f x d hf; cases f with
    | zero => omega
    | succ f => simp [generateProofImpl, h, Tree.genProof]
  | trunc h => intro f x d hf; cases f with
    | zero => omega
    | succ f => simp [generateProofImpl, h, Tree.genProof]
  | @mid i a b hh ta tb h ha hb da db iha ihb =>
    intro f x d hf
    cases f with
    | zero => omega
    | succ f =>
      unfold generateProofImpl Tree.genProof
      simp only [h]
      rw [da.leafAt, db.leafAt, da.other, db.other, iha f x _ (by omega), ihb f x _ (by omega)]
      rfl

theorem Den.getRoot {nv : NodeVec} {t : Tree} (H : Bytes → Bytes) (h : Den nv (nv.length - 1) t) :
    getRoot H nv = t.root H := by
  unfold Merkle.getRoot
  rw [List.getLast?_eq_getElem?]
  cases h <;> simp_all [Tree.root]

theorem length_push_sub_one (nv : NodeVec) (x : ArrayType × Bytes) : (nv ++ [x]).length - 1 = nv.length := by
  simp

theorem getElem?_push (nv : NodeVec) (x : ArrayType × Bytes) : (nv ++ [x])[nv.length]? = some x := by
  simp

theorem den_push_empty (nv : NodeVec) (h : Bytes) : Den (nv ++ [(.empty, h)]) nv.length .empty :=
  .empty (getElem?_push _ _)

theorem den_push_leaf (nv : NodeVec) (x : Bytes) : Den (nv ++ [(.leaf, x)]) nv.length (.leaf x) :=
  .leaf (getElem?_push _ _)

theorem den_push_trunc (nv : NodeVec) (h : Bytes) : Den (nv ++ [(.truncated, h)]) nv.length (.trunc h) :=
  .trunc (getElem?_push _ _)

theorem Den.push_mid {nv : NodeVec} {a b : Nat} {ta tb : Tree} (h : Bytes) (ha : Den nv a ta) (hb : Den nv b tb) :
    Den (nv ++ [(.middle a b, h)]) nv.length (.mid ta tb h) :=
  .mid (getElem?_push _ _) ha.lt hb.lt (ha.append _) (hb.append _)

/-- the node just pushed, under the index `get_root` and `generate_proof` start from -/
theorem Den.last {nv : NodeVec} {x : ArrayType × Bytes} {t : Tree} (h : Den (nv ++ [x]) nv.length t) :
    Den (nv ++ [x]) ((nv ++ [x]).length - 1) t := by
  rw [length_push_sub_one]; exact h

/-! ## the tree built by `from_leafs` -/

/-- one level of the collapsed tree (twin of `Spec.combine`) -/
def stepT (H : Bytes → Bytes) (tl tr : Tree) (a b : Bytes × NodeType) : Tree :=
  if a.2 = .empty ∧ b.2 ≠ .mid then tr
  else if b.2 = .empty ∧ a.2 ≠ .mid then tl
  else .mid tl tr (hashNode H a.2 b.2 a.1 b.1)

theorem stepT_empty_left (H : Bytes → Bytes) (tl tr : Tree) (b : Bytes) (r : Bytes × NodeType) :
    stepT H tl tr (b, .empty) r = if r.2 = .mid then .mid tl tr (hashNode H .empty r.2 b r.1) else tr := by
  by_cases h : r.2 = .mid <;> simp [stepT, h]

theorem stepT_empty_right (H : Bytes → Bytes) (tl tr : Tree) (b : Bytes) (l : Bytes × NodeType) (hl : l.2 ≠ .empty) :
    stepT H tl tr l (b, .empty) = if l.2 = .mid then .mid tl tr (hashNode H l.2 .empty l.1 b) else tl := by
  by_cases h : l.2 = .mid <;> simp [stepT, h, hl]

theorem stepT_both (H : Bytes → Bytes) (tl tr : Tree) {a b : Bytes × NodeType} (ha : a.2 ≠ .empty) (hb : b.2 ≠ .empty) :
    stepT H tl tr a b = .mid tl tr (hashNode H a.2 b.2 a.1 b.1) := by
  simp [stepT, ha, hb]

/-- the collapsed tree of the set `S` at depth `256 - n` (twin of `Spec.trie`) -/
def ttree (H : Bytes → Bytes) : Nat → List Bytes → Tree
  | 0, [] => .empty
  | 0, x :: _ => .leaf x
  | n+1, S =>
    stepT H (ttree H n (Lo(255 - n, S))) (ttree H n (Hi(255 - n, S)))
      (trie H n (Lo(255 - n, S))) (trie H n (Hi(255 - n, S)))

theorem ttree_succ (H : Bytes → Bytes) (n : Nat) (S : List Bytes) :
    ttree H (n + 1) S = stepT H (ttree H n (Lo(255 - n, S))) (ttree H n (Hi(255 - n, S)))
      (trie H n (Lo(255 - n, S))) (trie H n (Hi(255 - n, S))) := rfl

theorem ttree_nil (H : Bytes → Bytes) (n : Nat) : ttree H n [] = .empty := by
  induction n with
  | zero => rfl
  | succ n ih => simp [ttree, stepT, trie_nil, ih]

theorem ttree_zero_of_ne_nil (H : Bytes → Bytes) {S : List Bytes} (h : S ≠ []) :
    ttree H 0 S = .leaf (S.headD BLANK) := by
  cases S with
  | nil => exact absurd rfl h
  | cons x t => rfl

theorem ttree_single (H : Bytes → Bytes) (n : Nat) (x : Bytes) : ttree H n [x] = .leaf x := by
  induction n with
  | zero => rfl
  | succ n ih =>
    by_cases hb : getBit x (255 - n) = true
    · simp [ttree, stepT, hb, trie_nil, trie_single, ih]
    · simp [ttree, stepT, hb, trie_nil, trie_single, ih]

/-- a trie level either forwards the level below (one half is empty, the other is no `mid`), or
hashes its two halves; `a`, `b` are the values of the two halves (call with `rfl rfl`) -/
theorem trie_succ_cases (H : Bytes → Bytes) (n : Nat) (S : List Bytes) {a b : Bytes × NodeType}
    (ha : a = trie H n (Lo(255 - n, S))) (hb : b = trie H n (Hi(255 - n, S))) :
    ((trie H n S).2 ≠ .mid ∧ (Lo(255 - n, S) = S ∨ Hi(255 - n, S) = S) ∧
      trie H (n + 1) S = trie H n S ∧ ttree H (n + 1) S = ttree H n S) ∨
    (¬(a.2 = .empty ∧ b.2 ≠ .mid) ∧ ¬(b.2 = .empty ∧ a.2 ≠ .mid) ∧
      trie H (n + 1) S = (hashNode H a.2 b.2 a.1 b.1, if a.2 = .term ∧ b.2 = .term then .midDbl else .mid) ∧
      ttree H (n + 1) S =
        .mid (ttree H n (Lo(255 - n, S))) (ttree H n (Hi(255 - n, S))) (hashNode H a.2 b.2 a.1 b.1)) := by
  subst ha hb
  rw [trie_succ, ttree_succ]
  unfold combine stepT
  by_cases h1 : (trie H n (Lo(255 - n, S))).2 = .empty ∧ (trie H n (Hi(255 - n, S))).2 ≠ .mid
  · have e := lo_nil_hi ((trie_type_empty_iff H n _).mp h1.1)
    rw [if_pos h1, if_pos h1]
    exact Or.inl ⟨by rw [← e]; exact h1.2, Or.inr e, by rw [e], by rw [e]⟩
  · rw [if_neg h1, if_neg h1]
    by_cases h2 : (trie H n (Hi(255 - n, S))).2 = .empty ∧ (trie H n (Lo(255 - n, S))).2 ≠ .mid
    · have e := hi_nil_lo ((trie_type_empty_iff H n _).mp h2.1)
      rw [if_pos h2, if_pos h2]
      exact Or.inl ⟨by rw [← e]; exact h2.2, Or.inl e, by rw [e], by rw [e]⟩
    · rw [if_neg h2, if_neg h2]
      exact Or.inr ⟨h1, h2, rfl, rfl⟩

/-- how the constructor of the tree follows from the type of the reference trie value -/
inductive Shape : Tree → Bytes × NodeType → Prop
  | empty (h : Bytes) : Shape .empty (h, .empty)
  | term (x : Bytes) : Shape (.leaf x) (x, .term)
  | mid (l r : Tree) (h : Bytes) : Shape (.mid l r h) (h, .mid)
  | dbl (a b h : Bytes) : Shape (.mid (.leaf a) (.leaf b) h) (h, .midDbl)

theorem shape_step (H : Bytes → Bytes) {tl tr : Tree} {a b : Bytes × NodeType}
    (hl : Shape tl a) (hr : Shape tr b) : Shape (stepT H tl tr a b) (combine H a b) := by
  unfold stepT combine
  by_cases h1 : a.2 = .empty ∧ b.2 ≠ .mid
  · rw [if_pos h1, if_pos h1]; exact hr
  · rw [if_neg h1, if_neg h1]
    by_cases h2 : b.2 = .empty ∧ a.2 ≠ .mid
    · rw [if_pos h2, if_pos h2]; exact hl
    · rw [if_neg h2, if_neg h2]
      by_cases h3 : a.2 = .term ∧ b.2 = .term
      · rw [if_pos h3]
        obtain ⟨ah, aty⟩ := a
        obtain ⟨bh, bty⟩ := b
        obtain ⟨rfl, rfl⟩ := h3
        cases hl; cases hr; exact .dbl ..
      · rw [if_neg h3]; exact .mid ..

theorem ttree_shape (H : Bytes → Bytes) (n : Nat) (S : List Bytes) : Shape (ttree H n S) (trie H n S) := by
  induction n generalizing S with
  | zero => cases S <;> constructor
  | succ n ih => rw [trie_succ, ttree_succ]; exact shape_step H (ih _) (ih _)

theorem Shape.hash {t : Tree} {v : Bytes × NodeType} (h : Shape t v) (hv : v.2 = .empty → v.1 = BLANK) :
    t.hash = v.1 := by
  cases h with
  | empty => exact (hv rfl).symm
  | _ => rfl

theorem Shape.enc {t : Tree} {v : Bytes × NodeType} (h : Shape t v) : encodeType t.ntype = encodeType v.2 := by
  cases h <;> rfl

theorem Shape.leaf?_isSome {t : Tree} {v : Bytes × NodeType} (h : Shape t v) : t.leaf?.isSome = true ↔ v.2 = .term := by
  cases h <;> simp [Tree.leaf?]

theorem Shape.of_empty {t : Tree} {v : Bytes × NodeType} (h : Shape t v) (hv : v.2 = .empty) : t = .empty := by
  cases h <;> first | rfl | cases hv

theorem Shape.of_term {t : Tree} {v : Bytes × NodeType} (h : Shape t v) (hv : v.2 = .term) : t = .leaf v.1 := by
  cases h <;> first | rfl | cases hv

/-! ## values of the reference trie -/

theorem decide_mem_one {S : List Bytes} {a : Bytes} (x : Bytes) (ha : a ∈ S) (hall : ∀ y ∈ S, y = a) :
    decide (a = x) = decide (x ∈ S) :=
  decide_eq_decide.mpr ⟨fun h => h ▸ ha, fun h => (hall x h).symm⟩

theorem decide_mem_two {S : List Bytes} {a b : Bytes} (x : Bytes) (ha : a ∈ S) (hb : b ∈ S)
    (hall : ∀ y ∈ S, y = a ∨ y = b) : (decide (a = x) || decide (b = x)) = decide (x ∈ S) := by
  rw [Bool.eq_iff_iff]
  simp only [Bool.or_eq_true, decide_eq_true_eq]
  exact ⟨fun h => h.elim (fun h => h ▸ ha) (fun h => h ▸ hb), fun h => (hall x h).imp Eq.symm Eq.symm⟩

theorem trie_zero_type (H : Bytes → Bytes) (S : List Bytes) : (trie H 0 S).2 = .empty ∨ (trie H 0 S).2 = .term := by
  cases S <;> simp [trie]

theorem trie_term (H : Bytes → Bytes) (n : Nat) (S : List Bytes) (a : Bytes) (hS : ∀ x ∈ S, IsLeaf x)
    (hag : Agree (256 - n) S) (h : trie H n S = (a, .term)) : a ∈ S ∧ ∀ y ∈ S, y = a := by
  induction n generalizing S with
  | zero =>
    cases S with
    | nil => simp [trie] at h
    | cons x t =>
      simp [trie] at h; subst h
      exact ⟨List.mem_cons_self .., fun y hy => Agree.all_eq hag hS y hy x (List.mem_cons_self ..)⟩
  | succ n ih =>
    rcases trie_succ_cases H n S rfl rfl with ⟨_, hhalf, ht, _⟩ | ⟨_, _, ht, _⟩
    · rw [ht] at h; exact ih S hS (hag.of_half hhalf) h
    · rw [ht] at h
      have := (Prod.mk.inj h).2
      split at this <;> cases this

theorem trie_empty_val (H : Bytes → Bytes) (n : Nat) (S : List Bytes) (h : (trie H n S).2 = .empty) :
    (trie H n S).1 = BLANK := by
  have := (trie_type_empty_iff H n S).mp h
  subst this; rw [trie_nil]

theorem trie_mid_depth (H : Bytes → Bytes) {n : Nat} {S : List Bytes} (h : (trie H n S).2 = .mid) : 2 ≤ n := by
  have z : ∀ S, (trie H 0 S).2 ≠ .mid := fun S => by
    rcases trie_zero_type H S with e | e <;> rw [e] <;> simp
  match n with
  | 0 => exact absurd h (z S)
  | 1 =>
    exfalso
    rcases trie_succ_cases H 0 S rfl rfl with ⟨_, _, ht, _⟩ | ⟨h1, h2, ht, _⟩
    · rw [ht] at h; exact z S h
    · rw [ht] at h
      rcases trie_zero_type H (Lo(255 - 0, S)) with ha | ha
      · exact h1 ⟨ha, z _⟩
      · rcases trie_zero_type H (Hi(255 - 0, S)) with hb | hb
        · exact h2 ⟨hb, z _⟩
        · rw [if_pos ⟨ha, hb⟩] at h; cases h
  | n + 2 => omega

/-- a `midDbl` value: exactly two leaves, which first differ at some bit `e` -/
theorem trie_dbl (H : Bytes → Bytes) (n : Nat) (S : List Bytes) (h : Bytes) (hS : ∀ x ∈ S, IsLeaf x)
    (hag : Agree (256 - n) S) (hv : trie H n S = (h, .midDbl)) :
    ∃ a b e, 256 - n ≤ e ∧ e ≤ 255 ∧ h = hashNode H .term .term a b ∧ getBit a e = false ∧ getBit b e = true ∧
      (∀ i, i < e → getBit a i = getBit b i) ∧ a ∈ S ∧ b ∈ S ∧ (∀ y ∈ S, y = a ∨ y = b) ∧
      ttree H n S = .mid (.leaf a) (.leaf b) h := by
  induction n generalizing S with
  | zero => cases S <;> simp [trie] at hv
  | succ n ih =>
    rcases trie_succ_cases H n S rfl rfl with ⟨_, hhalf, ht, htt⟩ | ⟨_, _, ht, htt⟩
    · rw [ht] at hv; rw [htt]
      obtain ⟨a, b, e, he, hrest⟩ := ih S hS (hag.of_half hhalf) hv
      exact ⟨a, b, e, by omega, hrest⟩
    · rw [ht] at hv; rw [htt]
      obtain ⟨hh, hty⟩ := Prod.mk.inj hv
      by_cases hb : (trie H n (Lo(255 - n, S))).2 = .term ∧ (trie H n (Hi(255 - n, S))).2 = .term
      · have e1 : trie H n (Lo(255 - n, S)) = ((trie H n (Lo(255 - n, S))).1, .term) := by rw [← hb.1]
        have e2 : trie H n (Hi(255 - n, S)) = ((trie H n (Hi(255 - n, S))).1, .term) := by rw [← hb.2]
        obtain ⟨ma, alla⟩ := trie_term H n _ _ (fun x hx => hS x (List.mem_filter.mp hx).1) hag.lo e1
        obtain ⟨mb, allb⟩ := trie_term H n _ _ (fun x hx => hS x (List.mem_filter.mp hx).1) hag.hi e2
        have s1 := (ttree_shape H n (Lo(255 - n, S))).of_term hb.1
        have s2 := (ttree_shape H n (Hi(255 - n, S))).of_term hb.2
        obtain ⟨ma, ba⟩ := List.mem_filter.mp ma
        obtain ⟨mb, bb⟩ := List.mem_filter.mp mb
        refine ⟨_, _, 255 - n, by omega, by omega, ?_, by simpa using ba, bb,
          fun i hi => hag _ ma _ mb i (by omega), ma, mb,
          fun y hy => (mem_lo_or_hi (d := 255 - n) hy).imp (alla y) (allb y), ?_⟩
        · rw [← hh, hb.1, hb.2]
        · rw [s1, s2, ← hh, hb.1, hb.2]
      · rw [if_neg hb] at hty; cases hty

/-! ## the node vector of `from_leafs` -/

theorem gen_spec (H : Bytes → Bytes) (n : Nat) : ∀ (l : List Bytes) (nv : NodeVec), l ≠ [] →
    ∃ nv', generateMerkleTreeRecurse H n l nv = (nv', trie H n l) ∧ nv <+: nv' ∧
      Den nv' (nv'.length - 1) (ttree H n l) := by
  induction n with
  | zero =>
    intro l nv hl
    rw [trie_zero_of_ne_nil H hl, ttree_zero_of_ne_nil H hl]
    exact ⟨_, rfl, List.prefix_append _ _, (den_push_leaf _ _).last⟩
  | succ n ih =>
    intro l nv hl
    unfold generateMerkleTreeRecurse
    by_cases h1 : l.length = 1
    · rw [if_pos h1]
      obtain ⟨a, rfl⟩ := List.length_eq_one_iff.mp h1
      rw [trie_single, ttree_single]
      exact ⟨_, rfl, List.prefix_append _ _, (den_push_leaf _ _).last⟩
    · -- The code, `trie` and `ttree` split alike: the low half empty, the high half empty, or neither.  With an
      -- empty half, bit 255 ends in a leaf; above it the recursion runs on the whole list, and a `mid` node over an
      -- `empty` one is pushed only if the value returned is `mid` (else the level is collapsed).  With both halves
      -- non-empty two recursive blocks are appended and a `mid` node is pushed over their last nodes.
      rw [if_neg h1, trie_succ, ttree_succ]
      simp only []
      by_cases hlo : Lo(255 - n, l) = []
      · rw [if_pos (Or.inl hlo), hlo, lo_nil_hi hlo, trie_nil, ttree_nil, combine_empty_left, stepT_empty_left]
        by_cases hd : 255 - n = 255
        · obtain rfl : n = 0 := by omega
          rw [if_pos hd, trie_zero_of_ne_nil H hl, ttree_zero_of_ne_nil H hl, if_neg (by simp), if_neg (by simp)]
          exact ⟨_, rfl, List.prefix_append _ _, (den_push_leaf _ _).last⟩
        · obtain ⟨nv1, he, hpre, hden⟩ := ih l nv hl
          rw [if_neg hd, he]
          simp only []
          by_cases hm : (trie H n l).2 = .mid
          · rw [if_pos hm, if_pos hm, if_pos hm, if_pos trivial]
            refine ⟨_, rfl, hpre.trans ((List.prefix_append _ _).trans (List.prefix_append _ _)),
              (Den.push_mid _ (den_push_empty _ _).last ?_).last⟩
            rw [show (nv1 ++ [(ArrayType.empty, EMPTY_NODE_HASH)]).length - 2 = nv1.length - 1 by simp]
            exact hden.append _
          · rw [if_neg hm, if_neg hm, if_neg hm]
            exact ⟨_, rfl, hpre, hden⟩
      · by_cases hhi : Hi(255 - n, l) = []
        · rw [if_pos (Or.inr hhi), hhi, hi_nil_lo hhi, trie_nil, ttree_nil,
            combine_empty_right _ _ _ (trie_ne_empty H n hl), stepT_empty_right _ _ _ _ _ (trie_ne_empty H n hl)]
          by_cases hd : 255 - n = 255
          · obtain rfl : n = 0 := by omega
            rw [if_pos hd, trie_zero_of_ne_nil H hl, ttree_zero_of_ne_nil H hl, if_neg (by simp), if_neg (by simp)]
            exact ⟨_, rfl, List.prefix_append _ _, (den_push_leaf _ _).last⟩
          · obtain ⟨nv1, he, hpre, hden⟩ := ih l nv hl
            rw [if_neg hd, he]
            simp only []
            by_cases hm : (trie H n l).2 = .mid
            · rw [if_pos hm, if_pos hm, if_pos hm, if_neg hl]
              refine ⟨_, rfl, hpre.trans ((List.prefix_append _ _).trans (List.prefix_append _ _)),
                (Den.push_mid _ ?_ (den_push_empty _ _).last).last⟩
              rw [show (nv1 ++ [(ArrayType.empty, EMPTY_NODE_HASH)]).length - 2 = nv1.length - 1 by simp]
              exact hden.append _
            · rw [if_neg hm, if_neg hm, if_neg hm]
              exact ⟨_, rfl, hpre, hden⟩
        · rw [if_neg (not_or.mpr ⟨hlo, hhi⟩), combine_both H (trie_ne_empty H n hlo) (trie_ne_empty H n hhi),
            stepT_both H _ _ (trie_ne_empty H n hlo) (trie_ne_empty H n hhi)]
          by_cases hd : 255 - n = 255
          · obtain rfl : n = 0 := by omega
            rw [if_pos hd, trie_zero_of_ne_nil H hlo, trie_zero_of_ne_nil H hhi, ttree_zero_of_ne_nil H hlo,
              ttree_zero_of_ne_nil H hhi, if_pos ⟨rfl, rfl⟩]
            have e : ∀ a b : ArrayType × Bytes, (nv ++ [a, b]).length - 2 = nv.length := by intro a b; simp
            refine ⟨_, rfl, (List.prefix_append _ _).trans (List.prefix_append _ _), (Den.push_mid _ ?_ ?_).last⟩
            · rw [e, List.append_cons nv]
              exact (den_push_leaf nv _).append _
            · rw [List.append_cons nv]
              exact (den_push_leaf _ _).last
          · obtain ⟨nv1, he1, hp1, hden1⟩ := ih _ nv hlo
            obtain ⟨nv2, he2, ⟨e2, rfl⟩, hden2⟩ := ih _ nv1 hhi
            rw [if_neg hd, he1]
            simp only []
            rw [he2]
            exact ⟨_, rfl, hp1.trans ((List.prefix_append _ _).trans (List.prefix_append _ _)),
              (Den.push_mid _ (hden1.append e2) hden2).last⟩

/-- `radix_sort` is `generate_merkle_tree_recurse` without the node vector: with the projection pushed through
the conditionals the two bodies are one expression, up to `ih` at the recursive calls -/
theorem gen_value (H : Bytes → Bytes) (n : Nat) : ∀ (l : List Bytes) (nv : NodeVec),
    (generateMerkleTreeRecurse H n l nv).2 = radixSort H n l := by
  induction n with
  | zero => intro l nv; rfl
  | succ n ih =>
    intro l nv
    simp only [generateMerkleTreeRecurse, radixSort, apply_ite Prod.snd, ih]

theorem radix_eq_trie (H : Bytes → Bytes) (n : Nat) (l : List Bytes) (hl : l ≠ []) :
    radixSort H n l = trie H n l := by
  obtain ⟨_, he, _⟩ := gen_spec H n l [] hl
  rw [← gen_value H n l [], he]

theorem fromLeafs_den (H : Bytes → Bytes) (l : List Bytes) :
    Den (fromLeafs H l).nodes ((fromLeafs H l).nodes.length - 1) (ttree H 256 l) := by
  unfold fromLeafs
  by_cases h : l = []
  · subst h; rw [if_pos rfl, ttree_nil]
    exact Den.empty (h := BLANK) rfl
  · rw [if_neg h]
    obtain ⟨nv', he, _, hden⟩ := gen_spec H 256 l [] h
    rw [he]
    exact hden

/-- the root that belongs to a trie value (the final `match` of `compute_merkle_set_root`) -/
def rootOfVal (H : Bytes → Bytes) : Bytes × NodeType → Bytes
  | (h, .term) => hashLeaf H h
  | (h, .mid) => h
  | (h, .midDbl) => h
  | (_, .empty) => BLANK

theorem specRoot_eq (H : Bytes → Bytes) (S : List Bytes) : Spec.root H S = rootOfVal H (trie H 256 S) := by
  unfold Spec.root
  generalize trie H 256 S = v
  obtain ⟨a, t⟩ := v
  cases t <;> rfl

theorem computeRoot_eq (H : Bytes → Bytes) (l : List Bytes) :
    computeMerkleSetRoot H l = rootOfVal H (trie H 256 l) := by
  unfold computeMerkleSetRoot
  by_cases h : l = []
  · subst h; rw [if_pos rfl, trie_nil]; rfl
  · rw [if_neg h, radix_eq_trie H 256 l h]; rfl

theorem root_of_shape (H : Bytes → Bytes) {t : Tree} {v : Bytes × NodeType} (h : Shape t v) :
    t.root H = rootOfVal H v := by
  cases h <;> rfl

theorem fromLeafs_fromProof (H : Bytes → Bytes) (l : List Bytes) : (fromLeafs H l).fromProof = false := by
  unfold fromLeafs; split <;> rfl

theorem generateProof_eq (ms : MerkleSet) (t : Tree) (hd : Den ms.nodes (ms.nodes.length - 1) t) (x : Bytes) :
    generateProof ms x = match t.genProof x 0 with
      | none => none
      | some (b, p) => some (b, if ms.fromProof then [] else p) := by
  unfold generateProof
  rw [hd.genProof _ _ _ hd.lt]
  rfl

end ChiaModel.Merkle
