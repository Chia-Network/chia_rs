import ChiaModel.Lemmas.MerkleTree
/-
C12: the walk of `generate_proof` on trees.  `Tree.walk` is its verdict; `ValT` says that a tree's
cached hashes are those of its children.  On the tree of a set the walk decides membership
(`ttree_walk`) and the tree is valid (`ttree_valT`): with `ttree_shape` this is all that soundness uses
of the reference trie.
-/
namespace ChiaModel.Merkle
open ChiaModel Spec

theorem genProof_mid_not_both (l r : Tree) (h x : Bytes) (d : Nat)
    (hnb : ¬ (l.leaf?.isSome = true ∧ r.leaf?.isSome = true)) :
    (Tree.mid l r h).genProof x d =
      if getBit x d then (r.genProof x ((d + 1) % 256)).map fun v => (v.1, [MIDDLE] ++ l.other ++ v.2)
      else (l.genProof x ((d + 1) % 256)).map fun v => (v.1, [MIDDLE] ++ v.2 ++ r.other) := by
  have e1 : ∀ o : Option (Bool × Bytes), (match o with | none => none | some (b, p) => some (b, [MIDDLE] ++ l.other ++ p)) =
      o.map fun v => (v.1, [MIDDLE] ++ l.other ++ v.2) := fun o => by cases o <;> rfl
  have e2 : ∀ o : Option (Bool × Bytes), (match o with | none => none | some (b, p) => some (b, [MIDDLE] ++ p ++ r.other)) =
      o.map fun v => (v.1, [MIDDLE] ++ v.2 ++ r.other) := fun o => by cases o <;> rfl
  rw [← e1, ← e2]
  conv => lhs; unfold Tree.genProof
  cases hl : l.leaf? with
  | none => rfl
  | some a =>
    cases hr : r.leaf? with
    | none => rfl
    | some b => exact absurd ⟨by rw [hl]; rfl, by rw [hr]; rfl⟩ hnb

theorem genProof_dbl (a b h x : Bytes) (d : Nat) :
    (Tree.mid (.leaf a) (.leaf b) h).genProof x d =
      some (decide (a = x) || decide (b = x), padMiddlesForProofGen 257 a b d) := rfl

def Tree.walk (x : Bytes) (t : Tree) (d : Nat) : Option Bool := (t.genProof x d).map Prod.fst

theorem walk_of_genProof {x : Bytes} {t : Tree} {d : Nat} {b : Bool} {q : Bytes}
    (h : t.genProof x d = some (b, q)) : t.walk x d = some b := by
  rw [Tree.walk, h]; rfl

theorem walk_dbl (x a b h : Bytes) (d : Nat) :
    (Tree.mid (.leaf a) (.leaf b) h).walk x d = some (decide (a = x) || decide (b = x)) := rfl

theorem walk_mid_not_both (x : Bytes) (l r : Tree) (h : Bytes) (d : Nat)
    (hnb : ¬ (l.leaf?.isSome = true ∧ r.leaf?.isSome = true)) :
    (Tree.mid l r h).walk x d = if getBit x d then r.walk x ((d + 1) % 256) else l.walk x ((d + 1) % 256) := by
  rw [Tree.walk, genProof_mid_not_both _ _ _ _ _ hnb]
  split <;> exact Option.map_map ..

/-- the walk through the top of a collapsed chain: one empty side, the double-leaf node on the
other, on the side of the bit that its two leaves share -/
theorem walk_collapsed (x a b h h' : Bytes) (d : Nat) (side : Bool) (ha : getBit a d = side) (hb : getBit b d = side) :
    (if side then Tree.mid .empty (.mid (.leaf a) (.leaf b) h) h'
      else Tree.mid (.mid (.leaf a) (.leaf b) h) .empty h').walk x d = some (decide (a = x) || decide (b = x)) := by
  have hne : getBit x d ≠ side → (decide (a = x) || decide (b = x)) = false := fun hx => by
    have h1 : a ≠ x := fun e => hx (e ▸ ha)
    have h2 : b ≠ x := fun e => hx (e ▸ hb)
    simp [h1, h2]
  cases side with
  | true =>
    rw [if_pos rfl, walk_mid_not_both _ _ _ _ _ (by simp [Tree.leaf?])]
    by_cases hx : getBit x d = true
    · rw [if_pos hx, walk_dbl]
    · rw [if_neg hx, hne hx]; rfl
  | false =>
    rw [if_neg (by simp), walk_mid_not_both _ _ _ _ _ (by simp [Tree.leaf?])]
    by_cases hx : getBit x d = true
    · rw [if_pos hx, hne (by simp [hx])]; rfl
    · rw [if_neg hx, walk_dbl]

/-- every hashed node of the tree carries the hash of its children's types and hashes, and every
leaf / truncated hash is 32 bytes long (what the parser guarantees for the values it builds) -/
def ValT (H : Bytes → Bytes) : Tree → Prop
  | .empty => True
  | .leaf x => x.length = 32
  | .trunc h => h.length = 32
  | .mid l r h => ValT H l ∧ ValT H r ∧ h = hashNode H l.ntype r.ntype l.hash r.hash

theorem length_BLANK : BLANK.length = 32 := by simp [BLANK, zeros]

theorem ValT.hash_length {H : Bytes → Bytes} (hH : ∀ u, (H u).length = 32) {t : Tree} (h : ValT H t) :
    t.hash.length = 32 := by
  cases t with
  | empty => exact length_BLANK
  | leaf x => exact h
  | trunc x => exact h
  | mid l r hh => obtain ⟨_, _, rfl⟩ := h; exact hH _

theorem enc_eq_zero {t : NodeType} : encodeType t = 0 ↔ t = .empty := by cases t <;> simp [encodeType]
theorem enc_eq_one {t : NodeType} : encodeType t = 1 ↔ t = .term := by cases t <;> simp [encodeType]

theorem hashNode_enc (H : Bytes → Bytes) {a b a' b' : NodeType} (l r : Bytes) (h1 : encodeType a = encodeType a')
    (h2 : encodeType b = encodeType b') : hashNode H a b l r = hashNode H a' b' l r := by
  unfold hashNode; rw [h1, h2]

/-- The tree of `S` is valid, every cached hash being that of the two children; and for a set that shares its first
`256 - n` bits the walk on it, started with depth `d`, decides membership.  A collapsed value (no leaf, one leaf, a
double leaf) stands for every depth down to its own and its verdict does not depend on `d`; a `mid` value is a node at
depth `256 - n` exactly, where the walk reads bit `d` of `x`: hence the clause on `d`. -/
theorem ttree_spec (H : Bytes → Bytes) : ∀ (n : Nat) (S : List Bytes), (∀ y ∈ S, IsLeaf y) → ValT H (ttree H n S) ∧
    (Agree (256 - n) S → n ≤ 256 → ∀ x d, ((trie H n S).2 = .mid → d = 256 - n) →
      (ttree H n S).walk x d = some (decide (x ∈ S))) := by
  intro n
  induction n with
  | zero =>
    intro S hS
    cases S with
    | nil => exact ⟨trivial, fun _ _ _ _ _ => by simp [ttree, Tree.walk, Tree.genProof]⟩
    | cons y t =>
      refine ⟨(hS y List.mem_cons_self).1, fun hag _ x d _ => ?_⟩
      show some (decide (y = x)) = _
      rw [decide_mem_one x List.mem_cons_self fun z hz => Agree.all_eq hag hS z hz y List.mem_cons_self]
  | succ n ih =>
    intro S hS
    have hSlo : ∀ y ∈ Lo(255 - n, S), IsLeaf y := fun y hy => hS y (List.mem_filter.mp hy).1
    have hShi : ∀ y ∈ Hi(255 - n, S), IsLeaf y := fun y hy => hS y (List.mem_filter.mp hy).1
    rcases trie_succ_cases H n S rfl rfl with ⟨hnm, hhalf, ht, htt⟩ | ⟨_, _, ht, htt⟩
    · rw [htt, ht]
      exact ⟨(ih S hS).1, fun hag hn x d _ => (ih S hS).2 (hag.of_half hhalf) (by omega) x d fun h => absurd h hnm⟩
    · rw [htt]
      have shl := ttree_shape H n (Lo(255 - n, S))
      have shr := ttree_shape H n (Hi(255 - n, S))
      obtain ⟨hvl, hwl⟩ := ih _ hSlo
      obtain ⟨hvr, hwr⟩ := ih _ hShi
      refine ⟨⟨hvl, hvr, ?_⟩, fun hag hn x d hd => ?_⟩
      · -- the reference value hashes the trie types, the parser the node types: they encode alike
        rw [shl.hash (trie_empty_val H n _), shr.hash (trie_empty_val H n _)]
        exact (hashNode_enc H _ _ shl.enc shr.enc).symm
      by_cases hb : (trie H n (Lo(255 - n, S))).2 = .term ∧ (trie H n (Hi(255 - n, S))).2 = .term
      · -- two leaves: they are the whole set
        obtain ⟨a, b, _, _, _, _, _, _, _, hma, hmb, hall, hdbl⟩ :=
          trie_dbl H (n + 1) S _ hS hag (by rw [ht, if_pos hb])
        rw [← htt, hdbl, walk_dbl, decide_mem_two x hma hmb hall]
      · -- a hashed node that is no double leaf sits at its true depth; the walk follows the bit of `x`
        have hm : (trie H (n + 1) S).2 = .mid := by rw [ht, if_neg hb]
        have hn2 := trie_mid_depth H hm
        obtain rfl : d = 255 - n := by have := hd hm; omega
        have hdn : (255 - n + 1) % 256 = 256 - n := by rw [Nat.mod_eq_of_lt (by omega)]; omega
        rw [walk_mid_not_both _ _ _ _ _ (by rw [shl.leaf?_isSome, shr.leaf?_isSome]; exact hb), hdn]
        by_cases hbit : getBit x (255 - n) = true
        · rw [if_pos hbit, hwr hag.hi (by omega) x _ fun _ => rfl, decide_eq_decide.mpr (mem_hi_iff hbit)]
        · rw [if_neg hbit, hwl hag.lo (by omega) x _ fun _ => rfl,
            decide_eq_decide.mpr (mem_lo_iff (by simpa using hbit))]

theorem ttree_walk (H : Bytes → Bytes) (x : Bytes) (n : Nat) (S : List Bytes) (hS : ∀ y ∈ S, IsLeaf y)
    (hag : Agree (256 - n) S) (hn : n ≤ 256) (d : Nat) (hd : (trie H n S).2 = .mid → d = 256 - n) :
    (ttree H n S).walk x d = some (decide (x ∈ S)) :=
  (ttree_spec H n S hS).2 hag hn x d hd

theorem ttree_valT (H : Bytes → Bytes) (n : Nat) (S : List Bytes) (hS : ∀ y ∈ S, IsLeaf y) : ValT H (ttree H n S) :=
  (ttree_spec H n S hS).1

end ChiaModel.Merkle
