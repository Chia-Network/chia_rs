import ChiaModel.Lemmas.ArgGrammar
/-
C01: message keys.  A message is counted under the key (source key ‖ destination key ‖ message); each
end-point key is a mode byte followed by exactly the fixed-width fields the mode selects (`KeyForm`), so
the concatenation determines its three parts (`msgKey_injective` in Props/C01.lean).
-/
namespace ChiaModel.Rules
open ChiaModel ChiaModel.Cond ChiaModel.Grammar

/-- width of a message end-point key under a 3-bit mode: the mode byte, then 32 bytes for the coin id
(mode 7), or 32 / 32 / 8 bytes for each of parent id / puzzle hash / amount that the mode selects -/
def keyLen (mode : Nat) : Nat :=
  1 + (if mode = 7 then 32
       else (if mode / 4 % 2 = 1 then 32 else 0) + (if mode / 2 % 2 = 1 then 32 else 0) + (if mode % 2 = 1 then 8 else 0))

def KeyForm (k : Bytes) : Prop := ∃ mode rest, k = mode :: rest ∧ k.length = keyLen mode

theorem keyForm_fromSelf (mode : Nat) (parent puzzle coinId : Bytes) (amount : Nat)
    (h1 : parent.length = 32) (h2 : puzzle.length = 32) (h3 : coinId.length = 32) :
    KeyForm (spendIdFromSelf mode parent puzzle amount coinId) := by
  unfold spendIdFromSelf
  by_cases h7 : mode = 7
  · rw [if_pos h7]
    exact ⟨7, coinId, rfl, by rw [List.length_cons, h3]; rfl⟩
  · rw [if_neg h7]
    refine ⟨mode, _, rfl, ?_⟩
    simp only [keyLen, if_neg h7, List.length_cons, List.length_append, apply_ite List.length, List.length_nil, h1, h2, be_length]
    omega

def fieldWidth (k : ArgKind) : Nat := if k = .hash32 then 32 else 8

theorem fieldBytes_length {k : ArgKind} {a : Sexp} {v : Val} (hk : k = .hash32 ∨ k = amountU64) (h : argValue k a = some v) :
    (fieldBytes v).length = fieldWidth k := by
  rcases a with b | _
  case pair => cases h
  rcases hk with rfl | rfl <;> simp only [argValue] at h <;> split at h
  · injection h with h; subst h; assumption
  · cases h
  · injection h with h; subst h; exact be_length 8 _
  all_goals cases h

theorem keyBytes_length : ∀ (ks : List ArgKind) (t : Sexp) {fs : List Val} {t' : Sexp},
    (∀ k ∈ ks, k = .hash32 ∨ k = amountU64) → walk ks t = some (fs, t') → (keyBytes fs).length = (ks.map fieldWidth).sum
  | [], t, _, _, _, h => by cases h; rfl
  | k :: ks, .atom _, _, _, _, h => by cases h
  | k :: ks, .pair a r, fs, t', hks, h => by
    simp only [walk] at h
    split at h
    · next hv hw =>
      cases h
      simp only [keyBytes, List.length_append, List.map_cons, List.sum_cons,
        fieldBytes_length (hks k (List.mem_cons_self ..)) hv,
        keyBytes_length ks r (fun k' hk' => hks k' (List.mem_cons_of_mem _ hk')) hw]
    · cases h

theorem modeFields_width (m : Nat) : 1 + ((modeFields m).map fieldWidth).sum = keyLen m := by
  unfold modeFields keyLen
  split
  · rfl
  · simp only [List.map_append, List.sum_append, apply_ite (List.map fieldWidth), apply_ite List.sum]
    rfl

theorem mem_optional {α : Type} {p : Prop} [Decidable p] {x k : α} (h : k ∈ if p then [x] else []) : k = x := by
  split at h
  · exact List.mem_singleton.mp h
  · cases h

theorem modeFields_kinds (m : Nat) : ∀ k ∈ modeFields m, k = .hash32 ∨ k = amountU64 := by
  unfold modeFields
  intro k hk
  split at hk
  · exact Or.inl (List.mem_singleton.mp hk)
  · rcases List.mem_append.mp hk with hk | hk
    · exact Or.inl ((List.mem_append.mp hk).elim mem_optional mem_optional)
    · exact Or.inr (mem_optional hk)

theorem keyForm_parse {args : Sexp} {mode : Nat} {k : SpendIdKey} {r : Sexp}
    (h : spendIdParse args mode = .ok (k, r)) : KeyForm k := by
  rw [spendIdParse_walk] at h
  split at h
  · next hw =>
    cases h
    exact ⟨mode, _, rfl, by rw [List.length_cons, keyBytes_length _ _ (modeFields_kinds mode) hw, Nat.add_comm, modeFields_width]⟩
  · cases h

theorem keyForm_append_inj {k k' x x' : Bytes} (hk : KeyForm k) (hk' : KeyForm k') (h : k ++ x = k' ++ x') :
    k = k' ∧ x = x' := by
  obtain ⟨m, r, rfl, hl⟩ := hk
  obtain ⟨m', r', rfl, hl'⟩ := hk'
  have hm : m = m' := by
    simp only [List.cons_append, List.cons.injEq] at h; exact h.1
  subst hm
  exact List.append_inj h (by rw [hl, hl'])

theorem message_keyForm {c : Sexp} {flags : Nat} {cva : Cond} (s : Side) (mk : Nat → Bytes → Bytes → Cond)
    (bld : List Val → Option Cond) (hb : ∀ m msg k, bld [.int m, .bytes msg, .key k] = some (mk m k msg))
    (h : interp [.messageMode, .announceMsg] (.endpoint s) bld c flags = .ok cva) :
    ∃ mode k msg, cva = mk mode k msg ∧ KeyForm k := by
  rw [← shape_message c flags s mk bld hb] at h
  obtain ⟨f, _, h⟩ := bind_ok h
  obtain ⟨mode, _, h⟩ := bind_ok h
  obtain ⟨c1, _, h⟩ := bind_ok h
  obtain ⟨f1, _, h⟩ := bind_ok h
  obtain ⟨msg, _, h⟩ := bind_ok h
  obtain ⟨c2, _, h⟩ := bind_ok h
  obtain ⟨⟨k, c3⟩, hk, h⟩ := bind_ok h
  refine ⟨mode, k, msg, ?_, keyForm_parse hk⟩
  simp only [strict_bind] at h
  split at h
  · injection h with h; exact h.symm
  · cases h

theorem parseArgs_send_keyForm {c : Sexp} {flags : Nat} {cva : Cond} (h : parseArgs c Gen.opSendMessage flags = .ok cva) :
    ∃ srcMode dst msg, cva = .sendMessage srcMode dst msg ∧ KeyForm dst := by
  rw [parseArgs_eq_spec] at h
  obtain ⟨mode, k, msg, rfl, hk⟩ :=
    message_keyForm .low (fun m k msg => .sendMessage (m / 8 % 8) k msg) (build 66) (fun _ _ _ => rfl) h
  exact ⟨_, k, msg, rfl, hk⟩

theorem parseArgs_receive_keyForm {c : Sexp} {flags : Nat} {cva : Cond} (h : parseArgs c Gen.opReceiveMessage flags = .ok cva) :
    ∃ src dstMode msg, cva = .receiveMessage src dstMode msg ∧ KeyForm src := by
  rw [parseArgs_eq_spec] at h
  obtain ⟨mode, k, msg, rfl, hk⟩ :=
    message_keyForm .high (fun m k msg => .receiveMessage k (m % 8) msg) (build 67) (fun _ _ _ => rfl) h
  exact ⟨k, _, msg, rfl, hk⟩

end ChiaModel.Rules
