import ChiaModel.Lemmas.BundleInv
import ChiaModel.Lemmas.CostNative
/-
What one accepted spend of the execution paths (`spendStep`) does to the bundle — it pushes one spend carrying
the puzzle hash it was given, books the run as execution cost and the table cost as condition cost, takes both
off the budget, and keeps the bundle invariant of `parse_spends` — and what follows for the spend loops of
`run_block_generator2` and `run_spendbundle` by induction along an accepted run.
-/
namespace ChiaModel.Gn
open ChiaModel ChiaModel.Cond

/-- what an accepted spend adds to the condition cost (`condCostOf`: the cost table of C04) -/
def runCond (flags : Nat) : RunRes → Nat
  | some (_, conds) => spendCharge flags + ((listElems conds).map (condCostOf flags)).sum
  | none => 0

variable {env : Env} {r : RunRes} {declaredOk : Bool} {ret : Bundle} {st : PState} {parent amount : Sexp} {h32 : Bytes}
  {m : Nat} {ret' : Bundle} {st' : PState} {m' : Nat}

theorem spendStep_push (h : spendStep env r declaredOk ret st parent h32 amount m = .ok ((ret', st'), m')) :
    ∃ sp, ret'.spends = ret.spends ++ [sp] ∧ sp.puzzleHash = h32 := by
  obtain ⟨_, c, conds, _, _, h⟩ := spendStep_ok_iff.mp h
  obtain ⟨sp, _, _, _, e, hr⟩ := Rules.processSingleSpend_record h
  exact ⟨sp, e, (Sexp.atom.inj hr.ph_eq).symm⟩

theorem spendStep_cost (h : spendStep env r declaredOk ret st parent h32 amount m = .ok ((ret', st'), m')) :
    ret'.executionCost = ret.executionCost + runExec r ∧ ret'.conditionCost = ret.conditionCost + runCond env.flags r ∧
    m = m' + runExec r + runCond env.flags r := by
  obtain ⟨_, c, conds, rfl, hc, h⟩ := spendStep_ok_iff.mp h
  obtain ⟨c1, c2, c3⟩ := Rules.processSingleSpend_costs h
  simp only [runExec, runCond]
  exact ⟨c1, c2, by omega⟩

theorem BInv_exec {ret : Bundle} {st : PState} (h : BInv ret st) (c : Nat) : BInv { ret with executionCost := c } st :=
  ⟨h.1, h.2, h.3, h.4, h.5, h.6, h.7⟩

theorem spendStep_BInv (hb : BInv ret st) (ha : amount.AllBytes)
    (h : spendStep env r declaredOk ret st parent h32 amount m = .ok ((ret', st'), m')) : BInv ret' st' := by
  obtain ⟨_, c, conds, _, _, h⟩ := spendStep_ok_iff.mp h
  exact BInv_processSingleSpend env c _ st parent _ amount conds _ ret' st' m' (BInv_exec hb _) ha h

def puzzlesOf : Sexp → List Sexp
  | .pair spend nxt => (match extract5 spend with | some (_, puzzle, _, _, _) => [puzzle] | none => []) ++ puzzlesOf nxt
  | .atom _ => []

variable {puz : Nat → RunRes} {i n : Nat}

theorem nativeLoop_BInv {t : Sexp} (hab : t.AllBytes) (h : nativeLoop env puz t i ret st n m = .ok ((ret', st'), m'))
    (hb : BInv ret st) : BInv ret' st' := by
  refine nativeLoop_induct (P := fun t _ ret st _ _ => t.AllBytes → BInv ret st → BInv ret' st')
    (fun _ _ _ hb => hb) ?_ t i ret st n m h hab hb
  intro spend nxt i ret st n m parent puzzle amount sol ext r1 s1 m1 _ he hs ih hab hb
  exact ih hab.2 (spendStep_BInv hb (extract5_allBytes he hab.1).2 hs)

theorem nativeLoop_puzzleHashes {t : Sexp} (h : nativeLoop env puz t i ret st n m = .ok ((ret', st'), m')) :
    ret'.spends.map (·.puzzleHash) = ret.spends.map (·.puzzleHash) ++ (puzzlesOf t).map Sexp.treeHash := by
  refine nativeLoop_induct (P := fun t _ ret _ _ _ =>
    ret'.spends.map (·.puzzleHash) = ret.spends.map (·.puzzleHash) ++ (puzzlesOf t).map Sexp.treeHash)
    (fun _ _ => by simp [puzzlesOf]) ?_ t i ret st n m h
  intro spend nxt i ret st n m parent puzzle amount sol ext r1 s1 m1 _ he hs ih
  obtain ⟨sp, e1, e2⟩ := spendStep_push hs
  rw [ih, e1]
  simp [puzzlesOf, he, e2]

theorem nativeLoop_cost_balance {t : Sexp} (h : nativeLoop env puz t i ret st n m = .ok ((ret', st'), m')) :
    m + ret.executionCost + ret.conditionCost = m' + ret'.executionCost + ret'.conditionCost := by
  refine nativeLoop_induct (P := fun _ _ ret _ _ m =>
    m + ret.executionCost + ret.conditionCost = m' + ret'.executionCost + ret'.conditionCost)
    (fun _ _ => rfl) ?_ t i ret st n m h
  intro spend nxt i ret st n m parent puzzle amount sol ext r1 s1 m1 _ he hs ih
  obtain ⟨c1, c2, c3⟩ := spendStep_cost hs
  omega

variable {l : List CoinSpendM}

theorem bundleLoop_BInv (h : bundleLoop env puz l i ret st m = .ok ((ret', st'), m')) (hb : BInv ret st) : BInv ret' st' := by
  refine bundleLoop_induct (P := fun _ _ ret st _ => BInv ret st → BInv ret' st') (fun _ hb => hb) ?_ l i ret st m h hb
  intro cs rest i ret st m r1 s1 m1 _ hs ih hb
  exact ih (spendStep_BInv hb (by simp only [Sexp.AllBytes]; exact be_isBytes _ _) hs)

theorem bundleLoop_puzzleHashes (h : bundleLoop env puz l i ret st m = .ok ((ret', st'), m')) :
    ret'.spends.map (·.puzzleHash) = ret.spends.map (·.puzzleHash) ++ l.map (fun cs => Sexp.treeHash cs.puzzle)
    ∧ ∀ cs ∈ l, cs.puzzleHash = Sexp.treeHash cs.puzzle := by
  refine bundleLoop_induct (P := fun l _ ret _ _ =>
    ret'.spends.map (·.puzzleHash) = ret.spends.map (·.puzzleHash) ++ l.map (fun cs => Sexp.treeHash cs.puzzle)
    ∧ ∀ cs ∈ l, cs.puzzleHash = Sexp.treeHash cs.puzzle) (fun _ => by simp) ?_ l i ret st m h
  intro cs rest i ret st m r1 s1 m1 hd hs ih
  obtain ⟨sp, e1, e2⟩ := spendStep_push hs
  refine ⟨by rw [ih.1, e1]; simp [e2], fun c hc => ?_⟩
  cases hc with
  | head => exact hd
  | tail _ hc => exact ih.2 c hc

theorem bundleLoop_cost_balance (h : bundleLoop env puz l i ret st m = .ok ((ret', st'), m')) :
    m + ret.executionCost + ret.conditionCost = m' + ret'.executionCost + ret'.conditionCost := by
  refine bundleLoop_induct (P := fun _ _ ret _ m =>
    m + ret.executionCost + ret.conditionCost = m' + ret'.executionCost + ret'.conditionCost)
    (fun _ => rfl) ?_ l i ret st m h
  intro cs rest i ret st m r1 s1 m1 _ hs ih
  obtain ⟨c1, c2, c3⟩ := spendStep_cost hs
  omega

end ChiaModel.Gn
