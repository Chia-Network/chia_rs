import ChiaModel.Lemmas.BundleRules
import ChiaModel.Lemmas.CondOrder
/-
C06, order of the spends of a bundle and of the conditions inside a spend, at the level of the whole of
`parse_spends`.  Everything here is on the specification side: the order-free rules `BundleAccepts` and the
summary `bundleSummary` of the parsed spends `ps`; `Props/C06` transfers it to the model through `C01.C01_refines`.

`BPerm ps ps'`: `ps'` arises from `ps` by permuting the spends and, inside every spend, its items.  The summary
fold respects it up to `AccEquiv` (every scalar, and every collection that does not name a spend by its index, up
to listing order), because its step respects `AccEquiv` and two steps commute (`foldl_bperm`).  The two clauses of
`Deferred` that do name spends by index (ASSERT_EPHEMERAL / "must not be ephemeral") are first put in index-free
form (`FoldInv`, `eph_clauses_iff`; `EphP`: the parent coin is spent in the bundle and creates the coin).  The
reported spend records are equal up to listing order (`SpendEquiv`) once the positional ELIGIBLE_FOR_FF bit is
cleared (`spendRec_sim`, `summary_spends_replace`).
-/
namespace ChiaModel.Rules
open ChiaModel ChiaModel.Cond

def PEquiv (p p' : PSpend) : Prop := p.attrs = p'.attrs ∧ List.Perm p.items p'.items

theorem PEquiv.refl (p : PSpend) : PEquiv p p := ⟨rfl, List.Perm.refl _⟩
theorem PEquiv.symm {p p' : PSpend} (h : PEquiv p p') : PEquiv p' p := ⟨h.1.symm, h.2.symm⟩
theorem PEquiv.trans {p p' p'' : PSpend} (h : PEquiv p p') (h' : PEquiv p' p'') : PEquiv p p'' :=
  ⟨h.1.trans h'.1, h.2.trans h'.2⟩
theorem PEquiv.conds {p p' : PSpend} (h : PEquiv p p') : List.Perm (itemConds p.items) (itemConds p'.items) :=
  itemConds_perm h.2

inductive BPerm : List PSpend → List PSpend → Prop
  | nil : BPerm [] []
  | cons {p p' : PSpend} {l l' : List PSpend} : PEquiv p p' → BPerm l l' → BPerm (p :: l) (p' :: l')
  | swap (a b : PSpend) (l : List PSpend) : BPerm (a :: b :: l) (b :: a :: l)
  | trans {l1 l2 l3 : List PSpend} : BPerm l1 l2 → BPerm l2 l3 → BPerm l1 l3

theorem BPerm.refl : ∀ l : List PSpend, BPerm l l
  | [] => .nil
  | p :: l => .cons (PEquiv.refl p) (BPerm.refl l)

theorem BPerm.symm {l l' : List PSpend} (h : BPerm l l') : BPerm l' l := by
  induction h with
  | nil => exact .nil
  | cons hp _ ih => exact .cons hp.symm ih
  | swap a b l => exact .swap b a l
  | trans _ _ ih1 ih2 => exact .trans ih2 ih1

theorem BPerm.of_perm {l l' : List PSpend} (h : List.Perm l l') : BPerm l l' := by
  induction h with
  | nil => exact .nil
  | cons p _ ih => exact .cons (PEquiv.refl p) ih
  | swap a b l => exact .swap b a l
  | trans _ _ ih1 ih2 => exact .trans ih1 ih2

theorem BPerm.replace {p p' : PSpend} (h : PEquiv p p') : ∀ (pre post : List PSpend),
    BPerm (pre ++ p :: post) (pre ++ p' :: post)
  | [], post => .cons h (BPerm.refl post)
  | q :: pre, post => .cons (PEquiv.refl q) (BPerm.replace h pre post)

theorem BPerm.length_eq {l l' : List PSpend} (h : BPerm l l') : l.length = l'.length := by
  induction h with
  | nil => rfl
  | cons _ _ ih => simp [ih]
  | swap a b l => simp
  | trans _ _ ih1 ih2 => exact ih1.trans ih2

theorem BPerm.mem {l l' : List PSpend} (h : BPerm l l') : ∀ p' ∈ l', ∃ p ∈ l, PEquiv p p' := by
  induction h with
  | nil => intro p' hp; cases hp
  | cons hq _ ih =>
    intro p' hp
    rcases List.mem_cons.mp hp with rfl | hp
    · exact ⟨_, List.mem_cons_self, hq⟩
    · obtain ⟨p, hp1, hp2⟩ := ih p' hp
      exact ⟨p, List.mem_cons_of_mem _ hp1, hp2⟩
  | swap a b l => intro p' hp; exact ⟨p', (List.Perm.swap a b l).mem_iff.mp hp, PEquiv.refl p'⟩
  | trans _ _ ih1 ih2 =>
    intro p'' hp
    obtain ⟨p', hp1, e1⟩ := ih2 p'' hp
    obtain ⟨p, hp2, e2⟩ := ih1 p' hp1
    exact ⟨p, hp2, e2.trans e1⟩

theorem BPerm.map_perm {β : Type} (f : PSpend → β) (hf : ∀ p p', PEquiv p p' → f p = f p') {l l' : List PSpend}
    (h : BPerm l l') : List.Perm (l.map f) (l'.map f) := by
  induction h with
  | nil => exact List.Perm.refl _
  | cons hq _ ih => simp only [List.map_cons]; rw [hf _ _ hq]; exact List.Perm.cons _ ih
  | swap a b l => simp only [List.map_cons]; exact List.Perm.swap _ _ _
  | trans _ _ ih1 ih2 => exact ih1.trans ih2

theorem BPerm.flatMap_perm {β : Type} (g : PSpend → List β) (hg : ∀ p p', PEquiv p p' → List.Perm (g p) (g p'))
    {l l' : List PSpend} (h : BPerm l l') : List.Perm (l.flatMap g) (l'.flatMap g) := by
  induction h with
  | nil => exact List.Perm.refl _
  | cons hq _ ih => simp only [List.flatMap_cons]; exact List.Perm.append (hg _ _ hq) ih
  | swap a b l =>
    simp only [List.flatMap_cons]
    exact List.perm_append_comm_assoc _ _ _
  | trans _ _ ih1 ih2 => exact ih1.trans ih2

theorem foldl_same {β : Type} (R : β → β → Prop) (f : β → PSpend → β)
    (hstep : ∀ a a' p p', R a a' → PEquiv p p' → R (f a p) (f a' p')) :
    ∀ (l : List PSpend) (a a' : β), R a a' → R (l.foldl f a) (l.foldl f a')
  | [], _, _, h => h
  | p :: l, a, a', h => foldl_same R f hstep l _ _ (hstep a a' p p h (PEquiv.refl p))

theorem foldl_bperm {β : Type} (R : β → β → Prop) (hrefl : ∀ a, R a a) (htrans : ∀ {a b c}, R a b → R b c → R a c)
    (f : β → PSpend → β)
    (hstep : ∀ a a' p p', R a a' → PEquiv p p' → R (f a p) (f a' p'))
    (hcomm : ∀ a p q, R (f (f a p) q) (f (f a q) p))
    {ps ps' : List PSpend} (h : BPerm ps ps') : ∀ a a', R a a' → R (ps.foldl f a) (ps'.foldl f a') := by
  induction h with
  | nil => intro a a' h; exact h
  | cons hq _ ih => intro a a' h; exact ih _ _ (hstep _ _ _ _ h hq)
  | swap x y l =>
    intro a a' h
    simp only [List.foldl_cons]
    refine foldl_same R f hstep l _ _ (htrans (hcomm a x y) ?_)
    exact hstep _ _ _ _ (hstep _ _ _ _ h (PEquiv.refl y)) (PEquiv.refl x)
  | trans _ _ ih1 ih2 => intro a a' h; exact htrans (ih1 a a' h) (ih2 a' a' (hrefl a'))

theorem minOpt2_right_comm (a x y : Option Nat) : minOpt2 (minOpt2 a x) y = minOpt2 (minOpt2 a y) x := by
  cases a <;> cases x <;> cases y <;>
    first | rfl | exact congrArg some (Nat.min_comm ..) | exact congrArg some (Nat.min_right_comm ..)

/-- two accumulators of the summary fold agree on every scalar of the summary and, up to listing order, on
every collection whose entries do not refer to a spend by its index (not compared: the spend records
themselves and the two index lists ASSERT_EPHEMERAL / "must not be ephemeral") -/
structure AccEquiv (a b : Bundle × PState) : Prop where
  spendsLen : a.1.spends.length = b.1.spends.length
  reserveFee : a.1.reserveFee = b.1.reserveFee
  heightAbsolute : a.1.heightAbsolute = b.1.heightAbsolute
  secondsAbsolute : a.1.secondsAbsolute = b.1.secondsAbsolute
  aggSigUnsafe : List.Perm a.1.aggSigUnsafe b.1.aggSigUnsafe
  beforeHeightAbsolute : a.1.beforeHeightAbsolute = b.1.beforeHeightAbsolute
  beforeSecondsAbsolute : a.1.beforeSecondsAbsolute = b.1.beforeSecondsAbsolute
  cost : a.1.cost = b.1.cost
  executionCost : a.1.executionCost = b.1.executionCost
  conditionCost : a.1.conditionCost = b.1.conditionCost
  removalAmount : a.1.removalAmount = b.1.removalAmount
  additionAmount : a.1.additionAmount = b.1.additionAmount
  validatedSignature : a.1.validatedSignature = b.1.validatedSignature
  announceCoin : List.Perm a.2.announceCoin b.2.announceCoin
  announcePuzzle : List.Perm a.2.announcePuzzle b.2.announcePuzzle
  assertCoin : List.Perm a.2.assertCoin b.2.assertCoin
  assertPuzzle : List.Perm a.2.assertPuzzle b.2.assertPuzzle
  messages : List.Perm a.2.messages b.2.messages
  assertConcurrentSpend : List.Perm a.2.assertConcurrentSpend b.2.assertConcurrentSpend
  assertConcurrentPuzzle : List.Perm a.2.assertConcurrentPuzzle b.2.assertConcurrentPuzzle
  spentCoins : List.Perm a.2.spentCoins b.2.spentCoins
  spentPuzzles : List.Perm a.2.spentPuzzles b.2.spentPuzzles
  pkmPairs : List.Perm a.2.pkmPairs b.2.pkmPairs

theorem AccEquiv.refl (a : Bundle × PState) : AccEquiv a a := by
  constructor <;> first | rfl | exact List.Perm.refl _

theorem AccEquiv.symm {a b : Bundle × PState} (h : AccEquiv a b) : AccEquiv b a := by
  cases h
  constructor <;> first | exact Eq.symm ‹_› | exact List.Perm.symm ‹_›

theorem AccEquiv.trans {a b c : Bundle × PState} (h1 : AccEquiv a b) (h2 : AccEquiv b c) : AccEquiv a c :=
  ⟨h1.spendsLen.trans h2.spendsLen, h1.reserveFee.trans h2.reserveFee, h1.heightAbsolute.trans h2.heightAbsolute,
   h1.secondsAbsolute.trans h2.secondsAbsolute, h1.aggSigUnsafe.trans h2.aggSigUnsafe,
   h1.beforeHeightAbsolute.trans h2.beforeHeightAbsolute, h1.beforeSecondsAbsolute.trans h2.beforeSecondsAbsolute,
   h1.cost.trans h2.cost, h1.executionCost.trans h2.executionCost, h1.conditionCost.trans h2.conditionCost,
   h1.removalAmount.trans h2.removalAmount, h1.additionAmount.trans h2.additionAmount,
   h1.validatedSignature.trans h2.validatedSignature, h1.announceCoin.trans h2.announceCoin,
   h1.announcePuzzle.trans h2.announcePuzzle, h1.assertCoin.trans h2.assertCoin, h1.assertPuzzle.trans h2.assertPuzzle,
   h1.messages.trans h2.messages, h1.assertConcurrentSpend.trans h2.assertConcurrentSpend,
   h1.assertConcurrentPuzzle.trans h2.assertConcurrentPuzzle, h1.spentCoins.trans h2.spentCoins,
   h1.spentPuzzles.trans h2.spentPuzzles, h1.pkmPairs.trans h2.pkmPairs⟩

/-- every field of `enterSpend_eq` combines the old value with an aggregate of the spend's conditions that does not depend
on their order -/
theorem enterSpend_accEquiv (env : Env) (cc : Nat) (a a' : Bundle × PState) (p p' : PSpend) (h : AccEquiv a a')
    (hp : PEquiv p p') : AccEquiv (enterSpend env cc a p) (enterSpend env cc a' p') := by
  have hc := hp.conds
  rw [enterSpend_eq, enterSpend_eq, ← hp.1]
  constructor <;> dsimp only
  · simp only [List.length_append, List.length_singleton, h.spendsLen]
  · rw [h.reserveFee]; exact congrArg _ (hc.filterMap _).sum_nat
  · rw [h.heightAbsolute]; exact congrArg _ (maxList_perm (hc.filterMap heightAbsOf))
  · rw [h.secondsAbsolute]; exact congrArg _ (maxList_perm (hc.filterMap secondsAbsOf))
  · exact h.aggSigUnsafe.append (hc.filterMap _)
  · rw [h.beforeHeightAbsolute]; exact congrArg _ (minOpt_perm (hc.filterMap beforeHeightAbsOf))
  · rw [h.beforeSecondsAbsolute]; exact congrArg _ (minOpt_perm (hc.filterMap beforeSecondsAbsOf))
  · exact h.cost
  · exact h.executionCost
  · rw [h.conditionCost, totalCost_perm env.flags hp.2]
  · rw [h.removalAmount]
  · rw [h.additionAmount]; exact congrArg _ ((hc.filterMap _).map _).sum_nat
  · exact h.validatedSignature
  · exact rev_app_perm (hc.filterMap _) h.announceCoin
  · exact rev_app_perm (hc.filterMap _) h.announcePuzzle
  · exact rev_app_perm (hc.filterMap _) h.assertCoin
  · exact rev_app_perm (hc.filterMap _) h.assertPuzzle
  · exact rev_app_perm (hc.filterMap _) h.messages
  · exact rev_app_perm (hc.filterMap _) h.assertConcurrentSpend
  · exact rev_app_perm (hc.filterMap _) h.assertConcurrentPuzzle
  · exact h.spentCoins.append_right _
  · exact h.spentPuzzles.cons _
  · exact h.pkmPairs.append (ite_nil_perm _ (hc.filterMap _))

theorem append_right_comm_perm {α : Type} (l a b : List α) : List.Perm (l ++ a ++ b) (l ++ b ++ a) := by
  simp only [List.append_assoc]
  exact List.Perm.append_left _ List.perm_append_comm

/-- the combining function of every field is commutative, resp. commutative up to listing order -/
theorem enterSpend_comm (env : Env) (cc : Nat) (a : Bundle × PState) (p q : PSpend) :
    AccEquiv (enterSpend env cc (enterSpend env cc a p) q) (enterSpend env cc (enterSpend env cc a q) p) := by
  rw [enterSpend_eq, enterSpend_eq, enterSpend_eq, enterSpend_eq]
  exact {
    spendsLen := by simp only [List.length_append, List.length_singleton]
    reserveFee := Nat.add_right_comm ..
    heightAbsolute := Nat.max_right_comm ..
    secondsAbsolute := Nat.max_right_comm ..
    aggSigUnsafe := append_right_comm_perm ..
    beforeHeightAbsolute := minOpt2_right_comm ..
    beforeSecondsAbsolute := minOpt2_right_comm ..
    cost := rfl
    executionCost := rfl
    conditionCost := by dsimp only; omega
    removalAmount := Nat.add_right_comm ..
    additionAmount := Nat.add_right_comm ..
    validatedSignature := rfl
    announceCoin := List.perm_append_comm_assoc ..
    announcePuzzle := List.perm_append_comm_assoc ..
    assertCoin := List.perm_append_comm_assoc ..
    assertPuzzle := List.perm_append_comm_assoc ..
    messages := List.perm_append_comm_assoc ..
    assertConcurrentSpend := List.perm_append_comm_assoc ..
    assertConcurrentPuzzle := List.perm_append_comm_assoc ..
    spentCoins := append_right_comm_perm ..
    spentPuzzles := List.Perm.swap ..
    pkmPairs := append_right_comm_perm .. }

theorem foldl_enterSpend_bperm (env : Env) (cc : Nat) {ps ps' : List PSpend} (h : BPerm ps ps') {a a' : Bundle × PState}
    (e : AccEquiv a a') : AccEquiv (ps.foldl (enterSpend env cc) a) (ps'.foldl (enterSpend env cc) a') :=
  foldl_bperm AccEquiv AccEquiv.refl AccEquiv.trans (enterSpend env cc) (enterSpend_accEquiv env cc)
    (enterSpend_comm env cc) h _ _ e

theorem bundleFold_bperm (env : Env) (cc : Nat) {ps ps' : List PSpend} (h : BPerm ps ps') :
    AccEquiv (bundleFold env cc ps) (bundleFold env cc ps') :=
  foldl_enterSpend_bperm env cc h (AccEquiv.refl _)

/-- closed form of the index-based fields of an accumulator after the spends `ps0`, `r p` being the spend
record pushed for `p` -/
structure FoldInv (r : PSpend → Spend) (acc : Bundle × PState) (ps0 : List PSpend) : Prop where
  spends : acc.1.spends = ps0.map r
  spentCoins : acc.2.spentCoins = ps0.map (·.attrs.coinId)
  eph : ∀ i, i ∈ acc.2.assertEphemeral ↔ ∃ p, ps0[i]? = some p ∧ 0 < ephemeralCount (itemConds p.items)
  notEph : ∀ i, i ∈ acc.2.assertNotEphemeral ↔ ∃ p, ps0[i]? = some p ∧ anyNotEphemeral (itemConds p.items) = true

theorem foldInv_init (r : PSpend → Spend) : FoldInv r ({}, {}) [] :=
  ⟨rfl, rfl, fun i => by simp, fun i => by simp⟩

theorem getElem?_snoc_iff {α : Type} (l : List α) (q : α) (i : Nat) (P : α → Prop) :
    (∃ p, (l ++ [q])[i]? = some p ∧ P p) ↔ (i = l.length ∧ P q) ∨ ∃ p, l[i]? = some p ∧ P p := by
  rcases Nat.lt_trichotomy i l.length with hi | rfl | hi
  · rw [List.getElem?_append_left hi]
    exact ⟨Or.inr, fun h => h.resolve_left (fun h => absurd h.1 (Nat.ne_of_lt hi))⟩
  · rw [List.getElem?_concat_length, List.getElem?_eq_none (Nat.le_refl _)]
    exact ⟨fun ⟨_, e, hP⟩ => Or.inl ⟨rfl, Option.some.inj e ▸ hP⟩,
      fun h => h.elim (fun h => ⟨q, rfl, h.2⟩) (fun ⟨_, e, _⟩ => (nomatch e))⟩
  · rw [List.getElem?_eq_none (by simp only [List.length_append, List.length_singleton]; omega),
      List.getElem?_eq_none (Nat.le_of_lt hi)]
    exact ⟨fun ⟨_, e, _⟩ => (nomatch e),
      fun h => h.elim (fun h => absurd h.1 (Nat.ne_of_gt hi)) (fun ⟨_, e, _⟩ => (nomatch e))⟩

theorem foldInv_step (env : Env) (cc : Nat) {r : PSpend → Spend} {acc : Bundle × PState} {ps0 : List PSpend}
    (h : FoldInv r acc ps0) (q : PSpend) (hq : r q = spendRec env cc q) :
    FoldInv r (enterSpend env cc acc q) (ps0 ++ [q]) := by
  have hlen : acc.1.spends.length = ps0.length := by rw [h.spends, List.length_map]
  rw [enterSpend_eq]
  refine ⟨?_, ?_, fun i => ?_, fun i => ?_⟩
  · show acc.1.spends ++ [spendRec env cc q] = _
    rw [h.spends, ← hq, List.map_append]; rfl
  · show acc.2.spentCoins ++ [q.attrs.coinId] = _
    rw [h.spentCoins, List.map_append]; rfl
  · show i ∈ List.replicate (ephemeralCount (itemConds q.items)) acc.1.spends.length ++ acc.2.assertEphemeral ↔ _
    rw [getElem?_snoc_iff, List.mem_append, List.mem_replicate, h.eph i, hlen]
    exact or_congr ⟨fun h => ⟨h.2, Nat.pos_of_ne_zero h.1⟩, fun h => ⟨Nat.ne_of_gt h.2, h.1⟩⟩ Iff.rfl
  · show i ∈ (bif anyNotEphemeral (itemConds q.items) then acc.1.spends.length :: acc.2.assertNotEphemeral
        else acc.2.assertNotEphemeral) ↔ _
    rw [getElem?_snoc_iff, ← h.notEph i, hlen]
    cases anyNotEphemeral (itemConds q.items) <;> simp

/-- a fold, over any list of elements standing for parsed spends (`sp`), each of whose steps extends the closed form -/
theorem foldInv_foldl {α : Type} {r : PSpend → Spend} (f : Bundle × PState → α → Bundle × PState) (sp : α → PSpend) :
    ∀ (xs : List α) (acc : Bundle × PState) (ps0 : List PSpend),
    (∀ x ∈ xs, ∀ acc ps0, FoldInv r acc ps0 → FoldInv r (f acc x) (ps0 ++ [sp x])) →
    FoldInv r acc ps0 → FoldInv r (xs.foldl f acc) (ps0 ++ xs.map sp)
  | [], acc, ps0, _, h => by simpa using h
  | x :: xs, acc, ps0, hstep, h => by
    have := foldInv_foldl f sp xs _ _ (fun y hy => hstep y (List.mem_cons_of_mem _ hy))
      (hstep x (List.mem_cons_self ..) _ _ h)
    simpa [List.append_assoc] using this

theorem bundleFold_inv (env : Env) (cc : Nat) (ps : List PSpend) :
    FoldInv (spendRec env cc) (bundleFold env cc ps) ps := by
  have := foldInv_foldl (enterSpend env cc) id ps _ [] (fun q _ _ _ h => foldInv_step env cc h q rfl)
    (foldInv_init (spendRec env cc))
  simpa [bundleFold] using this

def EphP (ps : List PSpend) (p : PSpend) : Prop :=
  ∃ q ∈ ps, q.attrs.coinId = p.attrs.parentId ∧ (p.attrs.puzzleHash, p.attrs.amount) ∈ createKeys (itemConds q.items)

theorem nodup_map_eq {α β : Type} (f : α → β) : ∀ {l : List α}, (l.map f).Nodup → ∀ {a b : α},
    a ∈ l → b ∈ l → f a = f b → a = b
  | x :: l, hnd, a, b, ha, hb, e => by
    obtain ⟨hx, hl⟩ := List.nodup_cons.mp hnd
    rcases List.mem_cons.mp ha with rfl | ha' <;> rcases List.mem_cons.mp hb with rfl | hb'
    · rfl
    · exact absurd (e ▸ List.mem_map_of_mem hb') hx
    · exact absurd (e ▸ List.mem_map_of_mem ha') hx
    · exact nodup_map_eq f hl ha' hb' e

/-- what `isEphemeral` reads of a spend record -/
def RecOk (r : PSpend → Spend) : Prop :=
  ∀ p, (r p).parentId = p.attrs.parentId ∧ (r p).puzzleHash = p.attrs.puzzleHash ∧
    (r p).coinAmount = p.attrs.amount ∧ (r p).createCoin = newCoins (itemConds p.items)

theorem recOk_spendRec (env : Env) (ccf : PSpend → Nat) : RecOk (fun p => spendRec env (ccf p) p) := by
  intro p
  dsimp only
  unfold spendRec
  rw [postSpend_eq, spendStart_eq, newSpendVisit_eq]
  exact ⟨rfl, rfl, rfl, rfl⟩

theorem isEphemeral_iff (ps : List PSpend) (r : PSpend → Spend) (hr : RecOk r)
    (st : PState) (hst : st.spentCoins = ps.map (·.attrs.coinId)) (hnd : (ps.map (·.attrs.coinId)).Nodup) (i : Nat) :
    isEphemeral st (ps.map r) i = true ↔ ∃ p, ps[i]? = some p ∧ EphP ps p := by
  unfold isEphemeral
  rw [List.getElem?_map]
  cases hi : ps[i]? with
  | none => simp
  | some p =>
    simp only [Option.map_some]
    rw [(hr p).1, (hr p).2.1, (hr p).2.2.1, hst]
    cases hj : (ps.map (·.attrs.coinId)).idxOf? p.attrs.parentId with
    | none =>
      have hnot := List.idxOf?_eq_none_iff.mp hj
      simp only [Bool.false_eq_true, false_iff]
      rintro ⟨p', e, q, hq, hqc, _⟩
      injection e with e; subst e
      exact hnot (List.mem_map.mpr ⟨q, hq, hqc⟩)
    | some j =>
      obtain ⟨hjl, hje, _⟩ := List.idxOf?_eq_some_iff.mp hj
      have hjl' : j < ps.length := by simpa using hjl
      have hq : ps[j]? = some ps[j] := List.getElem?_eq_getElem hjl'
      have hqc : ps[j].attrs.coinId = p.attrs.parentId := by simpa using hje
      simp only
      rw [List.getElem?_map, hq]
      simp only [Option.map_some]
      rw [(hr ps[j]).2.2.2]
      rw [mem_createKeys]
      constructor
      · intro h
        exact ⟨p, rfl, ps[j], List.getElem_mem hjl', hqc, h⟩
      · rintro ⟨p', e, q, hqm, hqc', hk⟩
        injection e with e; subst e
        rw [nodup_map_eq (·.attrs.coinId) hnd (List.getElem_mem hjl') hqm (hqc.trans hqc'.symm)]; exact hk

/-- the ASSERT_EPHEMERAL and "must not be ephemeral" rules, index-free -/
def EphRules (ps : List PSpend) : Prop :=
  (∀ p ∈ ps, 0 < ephemeralCount (itemConds p.items) → EphP ps p) ∧
  (∀ p ∈ ps, anyNotEphemeral (itemConds p.items) = true → ¬ EphP ps p)

theorem postProcess_spends (env : Env) {r : PSpend → Spend} {ps : List PSpend} {F : Bundle × PState}
    (inv : FoldInv r F ps) : (postProcess env F.1 F.2).spends = ps.map (fun p => ppSpend env F.2 (r p)) := by
  rw [postProcess_eq]
  show List.map _ F.1.spends = _
  rw [inv.spends, List.map_map]; rfl

theorem eph_clauses_iff (env : Env) {r : PSpend → Spend} (hr0 : RecOk r) {ps : List PSpend} {F : Bundle × PState}
    (inv : FoldInv r F ps) (hnd : (ps.map (·.attrs.coinId)).Nodup) :
    ((∀ i ∈ F.2.assertEphemeral, isEphemeral F.2 (postProcess env F.1 F.2).spends i = true) ∧
     (∀ i ∈ F.2.assertNotEphemeral, isEphemeral F.2 (postProcess env F.1 F.2).spends i = false)) ↔
      EphRules ps := by
  have key := isEphemeral_iff ps (fun p => ppSpend env F.2 (r p)) hr0 F.2 inv.spentCoins hnd
  -- a member of the bundle is ephemeral iff the spend at its index is
  have key' {p : PSpend} {i : Nat} (hi : ps[i]? = some p) :
      isEphemeral F.2 (ps.map (fun p => ppSpend env F.2 (r p))) i = true ↔ EphP ps p :=
    (key i).trans ⟨fun ⟨p', e, he⟩ => Option.some.inj (hi.symm.trans e) ▸ he, fun he => ⟨p, hi, he⟩⟩
  rw [postProcess_spends env inv]
  unfold EphRules
  constructor
  · rintro ⟨h1, h2⟩
    constructor
    · intro p hp hpos
      obtain ⟨i, hi⟩ := List.mem_iff_getElem?.mp hp
      exact (key' hi).mp (h1 i ((inv.eph i).mpr ⟨p, hi, hpos⟩))
    · intro p hp hany he
      obtain ⟨i, hi⟩ := List.mem_iff_getElem?.mp hp
      have := h2 i ((inv.notEph i).mpr ⟨p, hi, hany⟩)
      rw [(key' hi).mpr he] at this
      cases this
  · rintro ⟨h1, h2⟩
    constructor
    · intro i hi
      obtain ⟨p, hp, hpos⟩ := (inv.eph i).mp hi
      exact (key' hp).mpr (h1 p (List.mem_of_getElem? hp) hpos)
    · intro i hi
      obtain ⟨p, hp, hany⟩ := (inv.notEph i).mp hi
      exact Bool.eq_false_iff.mpr (fun hb => h2 p (List.mem_of_getElem? hp) hany ((key' hp).mp hb))

theorem ephP_bperm {ps ps' : List PSpend} (h : BPerm ps ps') {p p' : PSpend} (hp : PEquiv p p') :
    EphP ps p → EphP ps' p' := by
  rintro ⟨q, hq, hqc, hk⟩
  obtain ⟨q', hq', he⟩ := h.symm.mem q hq
  refine ⟨q', hq', ?_, ?_⟩
  · rw [he.1, ← hp.1]; exact hqc
  · rw [← hp.1]
    exact (((he.conds.filterMap newCoinOf).map _).mem_iff).mpr hk

theorem ephRules_bperm {ps ps' : List PSpend} (h : BPerm ps ps') : EphRules ps → EphRules ps' := by
  rintro ⟨h1, h2⟩
  constructor
  · intro p' hp' hpos
    obtain ⟨p, hp, he⟩ := h.mem p' hp'
    refine ephP_bperm h he (h1 p hp ?_)
    have : ephemeralCount (itemConds p.items) = ephemeralCount (itemConds p'.items) := he.conds.countP_eq _
    omega
  · intro p' hp' hany hE
    obtain ⟨p, hp, he⟩ := h.mem p' hp'
    refine h2 p hp ?_ (ephP_bperm h.symm he.symm hE)
    have : anyNotEphemeral (itemConds p.items) = anyNotEphemeral (itemConds p'.items) := he.conds.any_eq
    rw [this]; exact hany

theorem int_sum_perm {l l' : List Int} (h : List.Perm l l') : l.sum = l'.sum := by
  induction h with
  | nil => rfl
  | cons a _ ih => simp only [List.sum_cons, ih]
  | swap a b l => simp only [List.sum_cons]; omega
  | trans _ _ ih1 ih2 => exact ih1.trans ih2

/-- the clauses of `Deferred` that do not name spends by index are carried along `AccEquiv` -/
theorem deferred_transfer (env : Env) {a a' : Bundle × PState} (e : AccEquiv a a')
    (hd : Deferred (postProcess env a.1 a.2) a.2)
    (h8 : ∀ i ∈ a'.2.assertEphemeral, isEphemeral a'.2 (postProcess env a'.1 a'.2).spends i = true)
    (h9 : ∀ i ∈ a'.2.assertNotEphemeral, isEphemeral a'.2 (postProcess env a'.1 a'.2).spends i = false) :
    Deferred (postProcess env a'.1 a'.2) a'.2 := by
  rw [postProcess_eq] at hd h8 h9 ⊢
  obtain ⟨d1, d2, d3, d4, d5, d6, d7, _, _, d10, d11⟩ := hd
  refine ⟨?_, ?_, ?_, ?_, ?_, ?_, ?_, h8, h9, ?_, ?_⟩
  · exact e.additionAmount ▸ e.removalAmount ▸ d1
  · exact e.additionAmount ▸ e.removalAmount ▸ e.reserveFee ▸ d2
  · exact e.heightAbsolute ▸ e.beforeHeightAbsolute ▸ d3
  · exact e.secondsAbsolute ▸ e.beforeSecondsAbsolute ▸ d4
  · intro id hid
    exact e.spentCoins.mem_iff.mp (d5 id (e.assertConcurrentSpend.mem_iff.mpr hid))
  · intro ph hph
    exact e.spentPuzzles.mem_iff.mp (d6 ph (e.assertConcurrentPuzzle.mem_iff.mpr hph))
  · intro x hx
    obtain ⟨p, hp, hpe⟩ := d7 x (e.assertCoin.mem_iff.mpr hx)
    exact ⟨p, e.announceCoin.mem_iff.mp hp, hpe⟩
  · intro x hx
    obtain ⟨p, hp, hpe⟩ := d10 x (e.assertPuzzle.mem_iff.mpr hx)
    exact ⟨p, e.announcePuzzle.mem_iff.mp hp, hpe⟩
  · intro m hm
    rw [← int_sum_perm ((e.messages.filter (fun x => x.1 == m.1)).map (·.2))]
    exact d11 m (e.messages.mem_iff.mpr hm)

theorem coinIds_bperm {ps ps' : List PSpend} (h : BPerm ps ps') :
    List.Perm (ps.map (·.attrs.coinId)) (ps'.map (·.attrs.coinId)) :=
  h.map_perm (·.attrs.coinId) (fun _ _ hp => by rw [hp.1])

theorem deferred_of_inv (env : Env) {r r' : PSpend → Spend} (hr : RecOk r) (hr' : RecOk r') {ps ps' : List PSpend}
    (h : BPerm ps ps') {F F' : Bundle × PState} (inv : FoldInv r F ps) (inv' : FoldInv r' F' ps') (e : AccEquiv F F')
    (hnd : (ps.map (·.attrs.coinId)).Nodup) (hd : Deferred (postProcess env F.1 F.2) F.2) :
    Deferred (postProcess env F'.1 F'.2) F'.2 := by
  have hnd' := (coinIds_bperm h).nodup_iff.mp hnd
  have heph := (eph_clauses_iff env hr inv hnd).mp ⟨hd.ephemeral, hd.notEphemeral⟩
  have heph' := (eph_clauses_iff env hr' inv' hnd').mpr (ephRules_bperm h heph)
  exact deferred_transfer env e hd heph'.1 heph'.2

theorem deferred_bperm (env : Env) (cc : Nat) {ps ps' : List PSpend} (h : BPerm ps ps')
    (hnd : (ps.map (·.attrs.coinId)).Nodup)
    (hd : Deferred (postProcess env (bundleFold env cc ps).1 (bundleFold env cc ps).2) (bundleFold env cc ps).2) :
    Deferred (postProcess env (bundleFold env cc ps').1 (bundleFold env cc ps').2) (bundleFold env cc ps').2 :=
  deferred_of_inv env (recOk_spendRec env (fun _ => cc)) (recOk_spendRec env (fun _ => cc)) h
    (bundleFold_inv env cc ps) (bundleFold_inv env cc ps') (bundleFold_bperm env cc h) hnd hd

theorem bundleCost_bperm (flags : Nat) {ps ps' : List PSpend} (h : BPerm ps ps') :
    bundleCost flags ps = bundleCost flags ps' :=
  (h.map_perm (spendCost flags) (fun p p' hp => by simp only [spendCost, totalCost_perm flags hp.2])).sum_nat

theorem bundleFee_bperm {ps ps' : List PSpend} (h : BPerm ps ps') : bundleFee ps = bundleFee ps' :=
  (h.map_perm (fun p => feeSum (itemConds p.items)) (fun _ _ hp => (hp.conds.filterMap _).sum_nat)).sum_nat

theorem bundleAccepts_bperm (env : Env) (sigOk : List (Bytes × Bytes) → Bool)
    (hsig : ∀ pairs pairs', List.Perm pairs pairs' → sigOk pairs = sigOk pairs') (L cc : Nat)
    {ps ps' : List PSpend} (h : BPerm ps ps') (ha : BundleAccepts env sigOk L cc ps) :
    BundleAccepts env sigOk L cc ps' := by
  obtain ⟨b1, b2, b3, b4, b5, b6, b7⟩ := ha
  refine ⟨by rw [← h.length_eq]; exact b1, (coinIds_bperm h).nodup_iff.mp b2, by rw [← bundleCost_bperm _ h]; exact b3,
    ?_, by rw [← bundleFee_bperm h]; exact b5, deferred_bperm env cc h b2 b6, ?_⟩
  · intro p' hp'
    obtain ⟨p, hp, he⟩ := h.mem p' hp'
    rw [← he.1]
    exact (accepts_perm env _ 0 1024 he.conds).mp (b4 p hp)
  · intro hf
    rw [← hsig _ _ (bundleFold_bperm env cc h).pkmPairs]
    exact b7 hf

theorem bundleAccepts_bperm_iff (env : Env) (sigOk : List (Bytes × Bytes) → Bool)
    (hsig : ∀ pairs pairs', List.Perm pairs pairs' → sigOk pairs = sigOk pairs') (L cc : Nat)
    {ps ps' : List PSpend} (h : BPerm ps ps') : BundleAccepts env sigOk L cc ps ↔ BundleAccepts env sigOk L cc ps' :=
  ⟨bundleAccepts_bperm env sigOk hsig L cc h, bundleAccepts_bperm env sigOk hsig L cc h.symm⟩

theorem summary_spends (env : Env) (cc : Nat) (ps : List PSpend) :
    (bundleSummary env cc ps).1.spends =
      ps.map (fun p => ppSpend env (bundleFold env cc ps).2 (spendRec env cc p)) :=
  postProcess_spends env (bundleFold_inv env cc ps)

theorem bundleSummary_bperm (env : Env) (cc : Nat) {ps ps' : List PSpend} (h : BPerm ps ps') :
    (bundleSummary env cc ps').1.cost = (bundleSummary env cc ps).1.cost ∧
    (bundleSummary env cc ps').1.conditionCost = (bundleSummary env cc ps).1.conditionCost ∧
    (bundleSummary env cc ps').1.executionCost = (bundleSummary env cc ps).1.executionCost ∧
    (bundleSummary env cc ps').1.removalAmount = (bundleSummary env cc ps).1.removalAmount ∧
    (bundleSummary env cc ps').1.additionAmount = (bundleSummary env cc ps).1.additionAmount ∧
    (bundleSummary env cc ps').1.reserveFee = (bundleSummary env cc ps).1.reserveFee ∧
    (bundleSummary env cc ps').1.heightAbsolute = (bundleSummary env cc ps).1.heightAbsolute ∧
    (bundleSummary env cc ps').1.secondsAbsolute = (bundleSummary env cc ps).1.secondsAbsolute ∧
    (bundleSummary env cc ps').1.beforeHeightAbsolute = (bundleSummary env cc ps).1.beforeHeightAbsolute ∧
    (bundleSummary env cc ps').1.beforeSecondsAbsolute = (bundleSummary env cc ps).1.beforeSecondsAbsolute ∧
    (bundleSummary env cc ps').1.spends.length = (bundleSummary env cc ps).1.spends.length ∧
    (bundleSummary env cc ps').1.validatedSignature = (bundleSummary env cc ps).1.validatedSignature ∧
    List.Perm (bundleSummary env cc ps').1.aggSigUnsafe (bundleSummary env cc ps).1.aggSigUnsafe := by
  have e := bundleFold_bperm env cc h
  unfold bundleSummary
  rw [postProcess_eq, postProcess_eq]
  exact ⟨(bundleCost_bperm env.flags h).symm, e.conditionCost.symm, e.executionCost.symm, e.removalAmount.symm,
    e.additionAmount.symm, e.reserveFee.symm, e.heightAbsolute.symm, e.secondsAbsolute.symm, e.beforeHeightAbsolute.symm,
    e.beforeSecondsAbsolute.symm, by simp only [List.length_map, e.spendsLen], rfl, e.aggSigUnsafe.symm⟩

/-- `post_process` reads the parse state by membership only -/
theorem ppSpend_accEquiv (env : Env) {a a' : Bundle × PState} (e : AccEquiv a a') : ppSpend env a.2 = ppSpend env a'.2 :=
  funext (ppSpend_congr env e.assertConcurrentSpend e.spentCoins)

theorem summary_spends_perm (env : Env) (cc : Nat) {ps ps' : List PSpend} (h : List.Perm ps ps') :
    List.Perm (bundleSummary env cc ps).1.spends (bundleSummary env cc ps').1.spends := by
  rw [summary_spends, summary_spends, ← ppSpend_accEquiv env (bundleFold_bperm env cc (BPerm.of_perm h))]
  exact h.map _

theorem parseSpendList_perm (flags : Nat) {xs xs' : List Sexp} (hp : List.Perm xs xs') : ∀ {ps : List PSpend},
    parseSpendList flags xs = some ps → ∃ ps', parseSpendList flags xs' = some ps' ∧ List.Perm ps ps' := by
  induction hp with
  | nil => intro ps h; exact ⟨ps, h, List.Perm.refl _⟩
  | cons x _ ih =>
    intro ps h
    obtain ⟨p, ps0, h1, h2, rfl⟩ := (parseSpendList_cons _ _ _ _).mp h
    obtain ⟨ps0', h2', hp'⟩ := ih h2
    exact ⟨p :: ps0', (parseSpendList_cons _ _ _ _).mpr ⟨p, ps0', h1, h2', rfl⟩, List.Perm.cons _ hp'⟩
  | swap a b l =>
    intro ps h
    obtain ⟨pb, ps0, h1, h2, rfl⟩ := (parseSpendList_cons _ _ _ _).mp h
    obtain ⟨pa, ps1, h3, h4, rfl⟩ := (parseSpendList_cons _ _ _ _).mp h2
    exact ⟨pa :: pb :: ps1, (parseSpendList_cons _ _ _ _).mpr ⟨pa, _, h3,
      (parseSpendList_cons _ _ _ _).mpr ⟨pb, ps1, h1, h4, rfl⟩, rfl⟩, List.Perm.swap _ _ _⟩
  | trans _ _ ih1 ih2 =>
    intro ps h
    obtain ⟨p1, h1, e1⟩ := ih1 h
    obtain ⟨p2, h2, e2⟩ := ih2 h1
    exact ⟨p2, h2, e1.trans e2⟩

theorem parseSpendList_split (flags : Nat) (x : Sexp) (post : List Sexp) : ∀ (pre : List Sexp) (ps : List PSpend),
    parseSpendList flags (pre ++ x :: post) = some ps ↔
      ∃ a p c, parseSpendList flags pre = some a ∧ parseSpend flags x = some p ∧ parseSpendList flags post = some c ∧
        ps = a ++ p :: c
  | [], ps => by
    rw [List.nil_append, parseSpendList_cons]
    exact ⟨fun ⟨p, c, h1, h2, e⟩ => ⟨[], p, c, rfl, h1, h2, e⟩,
      fun ⟨a, p, c, h0, h1, h2, e⟩ => ⟨p, c, h1, h2, by cases h0; exact e⟩⟩
  | y :: pre, ps => by
    rw [List.cons_append, parseSpendList_cons]
    constructor
    · rintro ⟨q, ps0, h1, h2, rfl⟩
      obtain ⟨a, p, c, h3, h4, h5, rfl⟩ := (parseSpendList_split flags x post pre ps0).mp h2
      exact ⟨q :: a, p, c, (parseSpendList_cons _ _ _ _).mpr ⟨q, a, h1, h3, rfl⟩, h4, h5, rfl⟩
    · rintro ⟨a0, p, c, h0, h1, h2, rfl⟩
      obtain ⟨q, a, h3, h4, rfl⟩ := (parseSpendList_cons _ _ _ _).mp h0
      exact ⟨q, a ++ p :: c, h3, (parseSpendList_split flags x post pre _).mpr ⟨a, p, c, h4, h1, h2, rfl⟩, rfl⟩

theorem parseSpend_conds_perm (flags : Nat) {parent ph amount conds conds' rest rest' : Sexp} {cs cs' : List Sexp}
    (ht : sexpList conds = some cs) (ht' : sexpList conds' = some cs') (hp : List.Perm cs cs') (p : PSpend)
    (h : parseSpend flags (.pair parent (.pair ph (.pair amount (.pair conds rest)))) = some p) :
    ∃ p', parseSpend flags (.pair parent (.pair ph (.pair amount (.pair conds' rest')))) = some p' ∧ PEquiv p p' ∧
      parseAll flags cs = .ok p.items := by
  obtain ⟨conds0, cs0, hst, hl, hpa⟩ := parseSpend_iff.mp h
  obtain ⟨pa, pha, amt, r, v, hx, l1, l2, hs, hattr⟩ := spendTuple_some hst
  injection hx with e1 hx; injection hx with e2 hx; injection hx with e3 hx; injection hx with e4 e5
  subst e1 e2 e3 e4
  rw [ht] at hl; injection hl with hl; subst hl
  obtain ⟨items', hpa', hip⟩ := parseAll_perm flags hp hpa
  have hst' : spendTuple (.pair (.atom pa) (.pair (.atom pha) (.pair (.atom amt) (.pair conds' rest')))) = some (p.attrs, conds') := by
    simp [spendTuple, l1, l2, hs, hattr]
  exact ⟨⟨p.attrs, items'⟩, parseSpend_iff.mpr ⟨_, _, hst', ht', hpa'⟩, ⟨rfl, hip⟩, hpa⟩

structure SpendEquiv (s t : Spend) : Prop where
  parentId : s.parentId = t.parentId
  coinAmount : s.coinAmount = t.coinAmount
  puzzleHash : s.puzzleHash = t.puzzleHash
  coinId : s.coinId = t.coinId
  heightRelative : s.heightRelative = t.heightRelative
  secondsRelative : s.secondsRelative = t.secondsRelative
  beforeHeightRelative : s.beforeHeightRelative = t.beforeHeightRelative
  beforeSecondsRelative : s.beforeSecondsRelative = t.beforeSecondsRelative
  birthHeight : s.birthHeight = t.birthHeight
  birthSeconds : s.birthSeconds = t.birthSeconds
  createCoin : List.Perm s.createCoin t.createCoin
  aggSigMe : List.Perm s.aggSigMe t.aggSigMe
  aggSigParent : List.Perm s.aggSigParent t.aggSigParent
  aggSigPuzzle : List.Perm s.aggSigPuzzle t.aggSigPuzzle
  aggSigAmount : List.Perm s.aggSigAmount t.aggSigAmount
  aggSigPuzzleAmount : List.Perm s.aggSigPuzzleAmount t.aggSigPuzzleAmount
  aggSigParentAmount : List.Perm s.aggSigParentAmount t.aggSigParentAmount
  aggSigParentPuzzle : List.Perm s.aggSigParentPuzzle t.aggSigParentPuzzle
  flags : s.flags = t.flags
  executionCost : s.executionCost = t.executionCost
  conditionCost : s.conditionCost = t.conditionCost

theorem SpendEquiv.refl (s : Spend) : SpendEquiv s s := by
  constructor <;> first | rfl | exact List.Perm.refl _

theorem _root_.ChiaModel.Cond.CEquiv.toSpend {s t : CSt} (h : CEquiv s t) : SpendEquiv s.spend t.spend := by
  cases h
  constructor <;> assumption

theorem SpendEquiv.withFlags {s t : Spend} (h : SpendEquiv s t) {f g : Nat} (hf : f = g) :
    SpendEquiv { s with flags := f } { t with flags := g } :=
  { h with flags := hf }

def clrFF (s : Spend) : Spend := { s with flags := clearFlag s.flags ELIGIBLE_FOR_FF }

theorem SpendEquiv.clrFF {s t : Spend} (h : SpendEquiv s t) : SpendEquiv (clrFF s) (clrFF t) :=
  h.withFlags (congrArg (clearFlag · ELIGIBLE_FOR_FF) h.flags)

theorem postBits_congr (env : Env) {s t : Spend} (h : SpendEquiv s t) : postBits env s = postBits env t := by
  unfold postBits
  rw [h.coinAmount, h.puzzleHash, h.createCoin.any_eq, (h.createCoin.map (·.amount)).sum_nat]

theorem postSpend_congr (env : Env) {s t : Spend} (h : SpendEquiv s t) : SpendEquiv (postSpend env s) (postSpend env t) := by
  rw [postSpend_eq, postSpend_eq]
  exact h.withFlags (by rw [postBits_congr env h, h.flags])

/-- up to ELIGIBLE_FOR_FF, `post_spend` does not read ELIGIBLE_FOR_FF -/
theorem postSpend_clrFF (env : Env) (sp : Spend) : clrFF (postSpend env sp) = clrFF (postSpend env (clrFF sp)) := by
  rw [postSpend_eq, postSpend_eq]
  show ({ sp with flags := clr (false, true) (clr (postBits env sp) sp.flags) } : Spend)
    = { sp with flags := clr (false, true) (clr (postBits env sp) (clr (false, true) sp.flags)) }
  simp only [clr_clr, Bool.or_true, Bool.true_or, Bool.or_false, Bool.false_or]

/-- `post_process` only ever clears ELIGIBLE_FOR_FF -/
theorem ppSpend_clrFF (env : Env) (st : PState) (s : Spend) : clrFF (ppSpend env st s) = clrFF s := by
  show ({ s with flags := clr (false, true) (clr _ s.flags) } : Spend) = { s with flags := clr (false, true) s.flags }
  simp only [clr_clr, Bool.or_true, Bool.or_false]

theorem ppSpend_sim (env : Env) (st : PState) {s t : Spend} (h : SpendEquiv s t) :
    SpendEquiv (ppSpend env st s) (ppSpend env st t) :=
  h.withFlags (by rw [h.coinId, h.flags, h.createCoin.any_eq])

theorem spendResult_cequiv (env : Env) (S : CSt) (hs : FreshSpend S.spend) {cs cs' : List Cond} (hc : List.Perm cs cs')
    (hacc : SpendAccepts env (attrsOf S.spend) S.ret.reserveFee S.countdown cs) :
    CEquiv (spendResult env S cs) (spendResult env S cs') := by
  rw [← stateAfter_fresh env S hs, ← stateAfter_fresh env S hs]
  exact stateAfter_perm env S hc hacc.birthHeights_eq hacc.birthSeconds_eq

/-- Permuting the parsed items of a spend leaves the charge, the count and the ELIGIBLE_FOR_DEDUP bit of `allBits` as they are;
the ELIGIBLE_FOR_FF bit too unless ASSERT_MY_PARENT_ID occurs, which the mempool visitor treats by its position. -/
theorem wrapF_items_perm (env : Env) (n : Nat) {items items' : List Item} (hip : List.Perm items items') {u u' : CSt}
    (he : CEquiv u u') :
    CEquiv (wrapF (false, true) (wrapF (allBits env.mempool n items) u (totalCount items) (totalCost env.flags items)) 0 0)
      (wrapF (false, true) (wrapF (allBits env.mempool n items') u' (totalCount items') (totalCost env.flags items')) 0 0) ∧
    ((env.mempool = false ∨ NoParentId items) →
      CEquiv (wrapF (allBits env.mempool n items) u (totalCount items) (totalCost env.flags items))
        (wrapF (allBits env.mempool n items') u' (totalCount items') (totalCost env.flags items'))) := by
  have hb1 : (allBits env.mempool n items).1 = (allBits env.mempool n items').1 := by
    rw [allBits_fst, allBits_fst, bitsOf_perm env.mempool hip]
  rw [← totalCost_perm env.flags hip, ← totalCount_perm hip]
  constructor
  · rw [wrapF_wrapF, wrapF_wrapF, hb1]
    simp only [Bool.or_true]
    exact he.wrapF _ _ _
  · intro hno
    rw [← Prod.ext hb1 (by rw [allBits_snd _ _ _ hno, allBits_snd _ _ _ (hno.imp id (NoParentId_perm hip)),
      bitsOf_perm env.mempool hip])]
    exact he.wrapF _ _ _

theorem spendRec_sim (env : Env) (cc : Nat) {p p' : PSpend} (he : PEquiv p p')
    (hacc : SpendAccepts env p.attrs 0 1024 (itemConds p.items)) :
    SpendEquiv (clrFF (spendRec env cc p)) (clrFF (spendRec env cc p')) ∧
    ((env.mempool = false ∨ NoParentId p.items) → SpendEquiv (spendRec env cc p) (spendRec env cc p')) := by
  have hce := spendResult_cequiv env (spendStart env cc {} {} p.attrs) (spendStart_fresh env cc {} {} p.attrs) he.conds
    (by rw [spendStart_attrs, spendStart_fee, spendStart_countdown]; exact hacc)
  obtain ⟨h1, h2⟩ := wrapF_items_perm env 0 he.2 hce
  unfold spendRec
  rw [← he.1]
  constructor
  · -- with ELIGIBLE_FOR_FF cleared in the start state the two runs clear the same bits
    rw [postSpend_clrFF env (wrapF (allBits env.mempool 0 p.items) _ _ _).spend,
      postSpend_clrFF env (wrapF (allBits env.mempool 0 p'.items) _ _ _).spend]
    exact (postSpend_congr env h1.toSpend).clrFF
  · exact fun hno => postSpend_congr env (h2 hno).toSpend

theorem summary_spends_replace (env : Env) (cc : Nat) (a c : List PSpend) {p p' : PSpend} (he : PEquiv p p')
    (hacc : SpendAccepts env p.attrs 0 1024 (itemConds p.items)) :
    ∃ sa s s' sc, (bundleSummary env cc (a ++ p :: c)).1.spends = sa ++ s :: sc ∧
      (bundleSummary env cc (a ++ p' :: c)).1.spends = sa ++ s' :: sc ∧ sa.length = a.length ∧
      SpendEquiv (clrFF s) (clrFF s') ∧ ((env.mempool = false ∨ NoParentId p.items) → SpendEquiv s s') := by
  obtain ⟨h1, h2⟩ := spendRec_sim env cc he hacc
  let f := fun q => ppSpend env (bundleFold env cc (a ++ p :: c)).2 (spendRec env cc q)
  refine ⟨a.map f, f p, f p', c.map f, ?_, ?_, List.length_map _, ?_, fun hno => ppSpend_sim env _ (h2 hno)⟩
  · rw [summary_spends, List.map_append, List.map_cons]
  · rw [summary_spends, ← ppSpend_accEquiv env (bundleFold_bperm env cc (BPerm.replace he a c)), List.map_append,
      List.map_cons]
  · rw [ppSpend_clrFF, ppSpend_clrFF]; exact h1

/-! ## small concrete inputs for the non-vacuity examples of Props/C06.lean -/

/-- a spend of 10 mojos (parent id 32 × 1, puzzle hash 32 × 2) that creates a coin of 4 with its own puzzle
hash, reserves a fee of 1 and makes the coin announcement `[7]` -/
def exA : Sexp := spnd 1 [10] [cnd 51 [h32 2, [4]], cnd 52 [[1]], cnd 60 [[7]]]
def exA' : Sexp := spnd 1 [10] [cnd 60 [[7]], cnd 52 [[1]], cnd 51 [h32 2, [4]]]
/-- the spend of the coin of 4 that `exA` creates: it asserts to be ephemeral (ASSERT_EPHEMERAL) and asserts
the coin announcement of `exA` -/
def exB : Sexp :=
  slist [.atom (coinId (h32 1) (h32 2) [10]), .atom (h32 2), .atom [4],
    slist [cnd 76 [], cnd 61 [sha256 (coinId (h32 1) (h32 2) [10] ++ [7])]]]

end ChiaModel.Rules
