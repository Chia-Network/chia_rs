import ChiaModel.Model.TreeHash
import ChiaModel.Model.Ints
/-
C17: the regenerated small-atom table against the definition (kernel evaluation of 24 SHA-256 digests).
Kept in its own file: it is re-checked when a generated table (`Gen/Precomputed.lean`; `Gen/Ladders.lean` through
`Model/Ints.lean`) or a base file changes, not with the lemmas of C17.
-/
namespace ChiaModel.TreeHash
open ChiaModel

theorem precomputed_eq : Gen.precomputed = (List.range 24).map (fun i => sha256 (1 :: canonNat i)) := by
  decide +kernel

theorem prefixes_eq : Gen.thAtomPrefix = 1 ∧ Gen.thPairPrefix = 2 := by decide

end ChiaModel.TreeHash
