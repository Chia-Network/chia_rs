import ChiaModel.Spec.ConditionRules
import ChiaModel.Lemmas.CondLoop
import ChiaModel.Lemmas.TimeLocks
/-
C01: the per-spend refinement.  The fold of `applyCond` over parsed conditions (`applyAll`), from ANY state `s`, accepts
iff the order-free rules hold, and then the state is `stateAfter env s cs`: the summary of `cs` merged into `s` with the
combining function of each field (`applyAll_ok_iff`).  The rules are `SpendAccepts` of `Spec/ConditionRules.lean` with no
fee reserved before, and `Compatible s cs`: one membership clause per guard of `condOk` for what `s` already carries.
For a fresh spend record `stateAfter` is `spendResult` and `Compatible` is the fee bound (`stateAfter_fresh`,
`accepts_fresh`; `C01.spend_refines`).

Proof shape: induction over the list with the start state general, one step of the fold at a time.  One step needs
 (A) `stateAfter s (c :: cs) = stateAfter (condUpd s c) cs` (`stateAfter_cons`: every field is a fold whose combining
     function is associative), and
 (B) the rules for `c :: cs` from `s` ↔ `condOk s c` ∧ the rules for `cs` from `condUpd s c` (`rules_cons`; (B) comes first
     in the file)
where (B) is, per rule: a guard that looks at one condition only (ASSERT_MY_*, keys); a pairwise symmetric guard, where
what `c` contributes is carried by `condUpd s c` and met there by the later conditions as `Compatible` (duplicate
CREATE_COIN against the list so far, relative lock against the min / max so far, birth against the value so far); or a
monotone budget (fee, announcement count).
-/
namespace ChiaModel.Rules
open ChiaModel ChiaModel.Cond ChiaModel.TL

theorem nodup_snoc_iff {α : Type} (l : List α) (a : α) : (l ++ [a]).Nodup ↔ l.Nodup ∧ a ∉ l := by
  simp only [List.nodup_append, List.nodup_cons, List.not_mem_nil, not_false_eq_true, List.nodup_nil, and_self, true_and,
    List.mem_singleton, forall_eq, ne_eq, and_congr_right_iff]
  exact fun _ => ⟨fun h ha => h a ha rfl, fun h x hx e => h (e ▸ hx)⟩

theorem minOpt2_eq (p m : Option Nat) : minOpt2 p m = optApp optMin p m := by
  cases p <;> cases m <;> rfl

theorem maxOpt_cons (v : Nat) (l : List Nat) : maxOpt (v :: l) = optApp optMax (some v) (maxOpt l) := by
  cases l with
  | nil => rfl
  | cons w t => simp [maxOpt, optMax, List.foldl_assoc]

theorem minOpt_cons (v : Nat) (l : List Nat) : minOpt (v :: l) = optApp optMin (some v) (minOpt l) := by
  cases l with
  | nil => rfl
  | cons w t => simp [minOpt, optMin, List.foldl_assoc]

theorem maxList_cons (v : Nat) (l : List Nat) : maxList (v :: l) = max v (maxList l) := by
  show List.foldl max (max 0 v) l = max v (List.foldl max 0 l)
  rw [Nat.zero_max, ← List.foldl_assoc (op := max) (a₁ := v), Nat.max_zero]

theorem maxOpt_spec : ∀ l : List Nat, MaxSpec (maxOpt l) l
  | [] => rfl
  | v :: l => by rw [maxOpt_cons]; exact MaxSpec_append (MaxSpec_single v) (maxOpt_spec l)

theorem minOpt_spec : ∀ l : List Nat, MinSpec (minOpt l) l
  | [] => rfl
  | v :: l => by rw [minOpt_cons]; exact MinSpec_append (MinSpec_single v) (minOpt_spec l)

theorem maxList_spec : ∀ l : List Nat, AbsMaxSpec (maxList l) l
  | [] => by simp [maxList, AbsMaxSpec]
  | v :: l => by rw [maxList_cons]; exact AbsMaxSpec_append (AbsMaxSpec_single v) (maxList_spec l)

theorem optLe_false_iff (o : Option Nat) (v : Nat) : optLe o v = false ↔ ∀ x, o = some x → v < x := by
  cases o <;> simp [optLe]

theorem optGe_false_iff (o : Option Nat) (v : Nat) : optGe o v = false ↔ ∀ x, o = some x → x < v := by
  cases o <;> simp [optGe]

theorem commonValue_spec (l : List Nat) (h : ∀ v ∈ l, ∀ w ∈ l, v = w) : SameSpec (commonValue l) l := by
  cases l with
  | nil => simp [commonValue, SameSpec]
  | cons a l =>
    simp only [commonValue, List.head?_cons, SameSpec]
    exact ⟨by simp, fun v hv => h v hv a (by simp)⟩

def mergeSpend (sp : Spend) (sm : SpendSummary) : Spend :=
  { sp with
    heightRelative := optApp optMax sp.heightRelative sm.heightRelative
    secondsRelative := optApp optMax sp.secondsRelative sm.secondsRelative
    beforeHeightRelative := optApp optMin sp.beforeHeightRelative sm.beforeHeightRelative
    beforeSecondsRelative := optApp optMin sp.beforeSecondsRelative sm.beforeSecondsRelative
    birthHeight := optApp (fun _ v => some v) sp.birthHeight sm.birthHeight
    birthSeconds := optApp (fun _ v => some v) sp.birthSeconds sm.birthSeconds
    createCoin := sp.createCoin ++ sm.createCoin
    aggSigMe := sp.aggSigMe ++ sm.aggSigMe
    aggSigParent := sp.aggSigParent ++ sm.aggSigParent
    aggSigPuzzle := sp.aggSigPuzzle ++ sm.aggSigPuzzle
    aggSigAmount := sp.aggSigAmount ++ sm.aggSigAmount
    aggSigPuzzleAmount := sp.aggSigPuzzleAmount ++ sm.aggSigPuzzleAmount
    aggSigParentAmount := sp.aggSigParentAmount ++ sm.aggSigParentAmount
    aggSigParentPuzzle := sp.aggSigParentPuzzle ++ sm.aggSigParentPuzzle
    flags := bif sm.notEphemeral then markFlags sp.flags else sp.flags }

/-- the state after the parsed conditions `cs` from any state `s`: `spendResult`, except that the spend record is
merged, not overwritten, and the "must not be ephemeral" mark looks at the flags `s` has -/
def stateAfter (env : Env) (s : CSt) (cs : List Cond) : CSt :=
  let sm := spendSummary env (attrsOf s.spend) cs
  { spendResult env s cs with
    spend := mergeSpend s.spend sm
    st := { (spendResult env s cs).st with
      assertNotEphemeral := bif sm.notEphemeral then markList s.spend.flags s.ret.spends.length s.st.assertNotEphemeral
                            else s.st.assertNotEphemeral } }

/-- what the conditions `cs` have to satisfy against what the state `s` already carries: one clause per guard of
`condOk`, each about the members of `cs` of one kind.  The fee is only looked at when a fee is reserved, so its clause
speaks only if `cs` has a RESERVE_FEE. -/
def Compatible (s : CSt) (cs : List Cond) : Prop :=
  (∀ _v ∈ fees cs, s.ret.reserveFee + feeSum cs < 2 ^ 64) ∧
  (∀ nc ∈ newCoins cs, s.spend.createCoin.any (fun x => x.ph == nc.ph && x.amount == nc.amount) = false) ∧
  (∀ v ∈ secondsRels cs, optLe s.spend.beforeSecondsRelative v = false) ∧
  (∀ v ∈ heightRels cs, optLe s.spend.beforeHeightRelative v = false) ∧
  (∀ v ∈ beforeSecondsRels cs, optGe s.spend.secondsRelative v = false) ∧
  (∀ v ∈ beforeHeightRels cs, optGe s.spend.heightRelative v = false) ∧
  (∀ v ∈ birthSeconds cs, isSomeNe s.spend.birthSeconds v = false) ∧
  (∀ v ∈ birthHeights cs, isSomeNe s.spend.birthHeight v = false)

theorem Compatible.birthSeconds {s : CSt} {cs : List Cond} (h : Compatible s cs) :
    ∀ v ∈ birthSeconds cs, isSomeNe s.spend.birthSeconds v = false := h.2.2.2.2.2.2.1

theorem Compatible.birthHeights {s : CSt} {cs : List Cond} (h : Compatible s cs) :
    ∀ v ∈ birthHeights cs, isSomeNe s.spend.birthHeight v = false := h.2.2.2.2.2.2.2

theorem SpendAccepts.createKeys_nodup {env : Env} {a : Attrs} {fb cd : Nat} {cs : List Cond}
    (h : SpendAccepts env a fb cd cs) : (createKeys cs).Nodup := h.2.2.1

theorem mem_createKeys (cs : List Cond) (ph : Bytes) (a : Nat) :
    (newCoins cs).any (fun c => c.ph == ph && c.amount == a) = true ↔ (ph, a) ∈ createKeys cs := by
  simp only [createKeys, List.any_eq_true, Bool.and_eq_true, beq_iff_eq, List.mem_map, Prod.mk.injEq]

theorem SpendAccepts.birthHeights_eq {env : Env} {a : Attrs} {fb cd : Nat} {cs : List Cond}
    (h : SpendAccepts env a fb cd cs) : ∀ v ∈ birthHeights cs, ∀ w ∈ birthHeights cs, v = w := h.2.2.2.1

theorem SpendAccepts.birthSeconds_eq {env : Env} {a : Attrs} {fb cd : Nat} {cs : List Cond}
    (h : SpendAccepts env a fb cd cs) : ∀ v ∈ birthSeconds cs, ∀ w ∈ birthSeconds cs, v = w := h.2.2.2.2.1

section proj
variable (env : Env) (s : CSt) (cs : List Cond)
theorem sr_reserveFee : (spendResult env s cs).ret.reserveFee = s.ret.reserveFee + feeSum cs := rfl
theorem sr_createCoin : (spendResult env s cs).spend.createCoin = newCoins cs := rfl
theorem sr_heightRelative : (spendResult env s cs).spend.heightRelative = maxOpt (heightRels cs) := rfl
theorem sr_secondsRelative : (spendResult env s cs).spend.secondsRelative = maxOpt (secondsRels cs) := rfl
theorem sr_beforeHeightRelative : (spendResult env s cs).spend.beforeHeightRelative = minOpt (beforeHeightRels cs) := rfl
theorem sr_beforeSecondsRelative : (spendResult env s cs).spend.beforeSecondsRelative = minOpt (beforeSecondsRels cs) := rfl
theorem sr_birthHeight : (spendResult env s cs).spend.birthHeight = commonValue (birthHeights cs) := rfl
theorem sr_birthSeconds : (spendResult env s cs).spend.birthSeconds = commonValue (birthSeconds cs) := rfl
theorem sr_coinId : (spendResult env s cs).spend.coinId = s.spend.coinId := rfl
theorem sr_parentId : (spendResult env s cs).spend.parentId = s.spend.parentId := rfl
theorem sr_puzzleHash : (spendResult env s cs).spend.puzzleHash = s.spend.puzzleHash := rfl
theorem sr_coinAmount : (spendResult env s cs).spend.coinAmount = s.spend.coinAmount := rfl
theorem sr_countdown : (spendResult env s cs).countdown =
    if hasFlag env.flags Gen.flagCostConditions then s.countdown else s.countdown - announceCount cs := rfl
end proj

/-! ## (B) acceptance of a list extended in front by one condition -/

theorem rel_excl (c : Cond) : (∀ x b, heightRelOf c = some x → beforeHeightRelOf c = some b → x < b)
    ∧ ∀ x b, secondsRelOf c = some x → beforeSecondsRelOf c = some b → x < b := by
  constructor <;> intro x b h h' <;> cases c <;> first | (cases h; done) | (cases h'; done)

theorem optLe_optMin (hi w : Option Nat) (v : Nat) :
    optLe (optApp optMin hi w) v = false ↔ optLe hi v = false ∧ ∀ x, w = some x → v < x := by
  cases hi <;> cases w <;> simp [optApp, optLe, optMin] <;> omega

theorem optGe_optMax (lo w : Option Nat) (v : Nat) :
    optGe (optApp optMax lo w) v = false ↔ optGe lo v = false ∧ ∀ x, w = some x → x < v := by
  cases lo <;> cases w <;> simp [optApp, optGe, optMax] <;> omega

theorem filterMap_cons_opt {α β : Type} (f : α → Option β) (a : α) (l : List α) :
    (a :: l).filterMap f = (f a).toList ++ l.filterMap f := by
  rw [List.filterMap_cons]; cases f a <;> rfl

theorem forall_mem_opt_cons {α : Type} (p : α → Prop) (o : Option α) (l : List α) :
    (∀ x ∈ o.toList ++ l, p x) ↔ (∀ x, o = some x → p x) ∧ ∀ x ∈ l, p x := by
  cases o <;> simp

/-- the birth rule for a list extended in front, against a carried value `a` -/
theorem birth_cons (a o : Option Nat) (l : List Nat) :
    (∀ v ∈ o.toList ++ l, ∀ w ∈ o.toList ++ l, v = w) ∧ (∀ v ∈ o.toList ++ l, isSomeNe a v = false) ↔
      (∀ v, o = some v → isSomeNe a v = false) ∧ (∀ v ∈ l, ∀ w ∈ l, v = w) ∧
        ∀ v ∈ l, isSomeNe (optApp (fun _ v => some v) a o) v = false := by
  cases o with
  | none => simp
  | some x =>
    simp only [Option.toList_some, List.singleton_append, List.forall_mem_cons, optApp_some, isSomeNe, Option.some.injEq,
      forall_eq', decide_eq_false_iff_not, Decidable.not_not]
    constructor
    · rintro ⟨⟨⟨-, h1⟩, h2⟩, h3, -⟩
      exact ⟨h3, fun v hv w hw => (h2 v hv).2 w hw, fun v hv => h1 v hv⟩
    · rintro ⟨h3, h2, h1⟩
      have hx : ∀ v ∈ l, v = x := fun v hv => (h1 v hv).symm
      refine ⟨⟨⟨trivial, h1⟩, fun v hv => ⟨hx v hv, h2 v hv⟩⟩, h3, fun v hv => ?_⟩
      rw [hx v hv]; exact h3

/-- a relative lock pair (after `A` / before `B`) for lists extended in front, against carried bounds `lo` / `hi` -/
theorem rel_cons (lo hi oa ob : Option Nat) (A B : List Nat) (hex : ∀ x b, oa = some x → ob = some b → x < b) :
    (∀ x ∈ oa.toList ++ A, ∀ b ∈ ob.toList ++ B, x < b) ∧ (∀ v ∈ oa.toList ++ A, optLe hi v = false) ∧
        (∀ v ∈ ob.toList ++ B, optGe lo v = false) ↔
      ((∀ v, oa = some v → optLe hi v = false) ∧ (∀ v, ob = some v → optGe lo v = false)) ∧
      (∀ x ∈ A, ∀ b ∈ B, x < b) ∧
      (∀ v ∈ A, optLe (optApp optMin hi ob) v = false) ∧ (∀ v ∈ B, optGe (optApp optMax lo oa) v = false) := by
  simp only [forall_mem_opt_cons, optLe_optMin, optGe_optMax]
  exact ⟨fun ⟨⟨h1, h2⟩, ⟨a1, a2⟩, b1, b2⟩ =>
      ⟨⟨a1, b1⟩, fun x hx b hb => (h2 x hx).2 b hb, fun v hv => ⟨a2 v hv, fun b hb => (h2 v hv).1 b hb⟩,
        fun v hv => ⟨b2 v hv, fun x hx => (h1 x hx).2 v hv⟩⟩,
    fun ⟨⟨a1, b1⟩, h, a2, b2⟩ =>
      ⟨⟨fun x hx => ⟨fun b hb => hex x b hx hb, fun b hb => (b2 b hb).2 x hx⟩, fun x hx => ⟨fun b hb => (a2 x hx).2 b hb, h x hx⟩⟩,
        ⟨a1, fun v hv => (a2 v hv).1⟩, b1, fun v hv => (b2 v hv).1⟩⟩

/-- the duplicate-coin rule for a list extended in front, against the coins `cc` created so far -/
theorem keys_cons (cc : List NewCoin) (o : Option NewCoin) (l : List NewCoin) :
    ((o.toList ++ l).map (fun nc => (nc.ph, nc.amount))).Nodup ∧
        (∀ nc ∈ o.toList ++ l, cc.any (fun x => x.ph == nc.ph && x.amount == nc.amount) = false) ↔
      (∀ nc, o = some nc → cc.any (fun x => x.ph == nc.ph && x.amount == nc.amount) = false) ∧
      (l.map (fun nc => (nc.ph, nc.amount))).Nodup ∧
      ∀ nc ∈ l, (optApp snoc cc o).any (fun x => x.ph == nc.ph && x.amount == nc.amount) = false := by
  cases o with
  | none => simp
  | some c =>
    simp only [Option.toList_some, List.singleton_append, List.map_cons, List.nodup_cons, List.forall_mem_cons, optApp_some,
      snoc, List.any_append, Bool.or_eq_false_iff, Option.some.injEq, forall_eq']
    simp only [List.mem_map, Prod.mk.injEq, List.any_cons, List.any_nil, Bool.or_false, Bool.and_eq_false_imp, beq_iff_eq, beq_eq_false_iff_ne]
    exact ⟨fun ⟨⟨h1, h2⟩, h3, h4⟩ => ⟨h3, h2, fun nc hnc => ⟨h4 nc hnc, fun e1 e2 => h1 ⟨nc, hnc, e1.symm, e2.symm⟩⟩⟩,
      fun ⟨h3, h2, h4⟩ => ⟨⟨fun ⟨nc, hnc, e1, e2⟩ => (h4 nc hnc).2 e1.symm e2.symm, h2⟩, h3, fun nc hnc => (h4 nc hnc).1⟩⟩

/-- a budget for a list extended in front: the fee is only looked at when one is reserved -/
theorem fee_cons (r : Nat) (o : Option Nat) (l : List Nat) :
    0 + (o.toList ++ l).sum < 2 ^ 64 ∧ (∀ _v ∈ o.toList ++ l, r + (o.toList ++ l).sum < 2 ^ 64) ↔
      (∀ v, o = some v → r + v < 2 ^ 64) ∧ 0 + l.sum < 2 ^ 64 ∧ ∀ _v ∈ l, optApp (· + ·) r o + l.sum < 2 ^ 64 := by
  cases o with
  | none => simp
  | some v =>
    cases l with
    | nil => simp; omega
    | cons w t =>
      simp only [Option.toList_some, List.singleton_append, List.sum_cons, List.forall_mem_cons, Option.some.injEq, forall_eq',
        optApp_some]
      exact ⟨fun h => ⟨by omega, by omega, by omega, fun _ _ => by omega⟩, fun h => ⟨by omega, by omega, by omega, fun _ _ => by omega⟩⟩

theorem announce_cons (cc b : Bool) (cd n : Nat) :
    (cc = false → n + (if b = true then 1 else 0) ≤ cd) ↔
      (b = false ∨ (cc || cd != 0) = true) ∧ (cc = false → n ≤ bif b then (if cc = true then cd else cd - 1) else cd) := by
  cases cc <;> cases b <;> simp <;> omega

theorem rules_cons (env : Env) (s : CSt) (c : Cond) (cs : List Cond) :
    SpendAccepts env (attrsOf s.spend) 0 s.countdown (c :: cs) ∧ Compatible s (c :: cs) ↔
      condOk env s c = true ∧
        SpendAccepts env (attrsOf s.spend) 0 (condUpd env s c).countdown cs ∧ Compatible (condUpd env s c) cs := by
  obtain ⟨xh, xs⟩ := rel_excl c
  have hb := birth_cons s.spend.birthHeight (birthHeightOf c) (birthHeights cs)
  have hbs := birth_cons s.spend.birthSeconds (birthSecondsOf c) (birthSeconds cs)
  have hh := rel_cons s.spend.heightRelative s.spend.beforeHeightRelative _ _ (heightRels cs) (beforeHeightRels cs) xh
  have hs := rel_cons s.spend.secondsRelative s.spend.beforeSecondsRelative _ _ (secondsRels cs) (beforeSecondsRels cs) xs
  have hk := keys_cons s.spend.createCoin (newCoinOf c) (newCoins cs)
  have hf := fee_cons s.ret.reserveFee (feeOf c) (fees cs)
  have ha := announce_cons (hasFlag env.flags Gen.flagCostConditions) (isAnnounceCond c) s.countdown (announceCount cs)
  rw [condOk_iff]
  unfold SpendAccepts Compatible createKeys feeSum
  rw [List.forall_mem_cons, List.forall_mem_cons]
  unfold announceCount fees newCoins birthHeights birthSeconds heightRels beforeHeightRels secondsRels beforeSecondsRels at *
  simp only [filterMap_cons_opt, List.countP_cons]
  -- each group lemma above trades one rule of `SpendAccepts` and its clause(s) of `Compatible` for the guard of `c` and the
  -- same for `cs`; what is left is regrouping, the three conjunctions listing the rules in different orders
  exact ⟨fun ⟨⟨⟨a1, a1'⟩, ⟨a2, a2'⟩, a3, a4, a5, a6, a7, a8, a9⟩, b1, b2, b3, b4, b5, b6, b7, b8⟩ => by
      obtain ⟨f1, f2, f3⟩ := hf.mp ⟨a9, b1⟩
      obtain ⟨k1, k2, k3⟩ := hk.mp ⟨a3, b2⟩
      obtain ⟨⟨s1, s2⟩, s3, s4, s5⟩ := hs.mp ⟨a7, b3, b5⟩
      obtain ⟨⟨h1, h2⟩, h3, h4, h5⟩ := hh.mp ⟨a6, b4, b6⟩
      obtain ⟨t1, t2, t3⟩ := hbs.mp ⟨a5, b7⟩
      obtain ⟨u1, u2, u3⟩ := hb.mp ⟨a4, b8⟩
      obtain ⟨n1, n2⟩ := ha.mp a8
      exact ⟨⟨a1, a2, f1, k1, s1, h1, s2, h2, t1, u1, n1⟩, ⟨a1', a2', k2, u2, t2, h3, s3, n2, f2⟩, f3, k3, s4, h4, s5, h5, t3, u3⟩,
    fun ⟨⟨a1, a2, f1, k1, s1, h1, s2, h2, t1, u1, n1⟩, ⟨a1', a2', k2, u2, t2, h3, s3, n2, f2⟩, f3, k3, s4, h4, s5, h5, t3, u3⟩ => by
      obtain ⟨a9, b1⟩ := hf.mpr ⟨f1, f2, f3⟩
      obtain ⟨a3, b2⟩ := hk.mpr ⟨k1, k2, k3⟩
      obtain ⟨a7, b3, b5⟩ := hs.mpr ⟨⟨s1, s2⟩, s3, s4, s5⟩
      obtain ⟨a6, b4, b6⟩ := hh.mpr ⟨⟨h1, h2⟩, h3, h4, h5⟩
      obtain ⟨a5, b7⟩ := hbs.mpr ⟨t1, t2, t3⟩
      obtain ⟨a4, b8⟩ := hb.mpr ⟨u1, u2, u3⟩
      exact ⟨⟨⟨a1, a1'⟩, ⟨a2, a2'⟩, a3, a4, a5, a6, a7, ha.mpr ⟨n1, n2⟩, a9⟩, b1, b2, b3, b4, b5, b6, b7, b8⟩⟩

/-! ## (A) every summary field is a fold -/

theorem optMax_merge (a m o : Option Nat) : optApp optMax a (optApp optMax m o) = optApp optMax (optApp optMax a m) o := by
  cases a <;> cases m <;> cases o <;> simp [optApp, optMax, Nat.max_assoc]

theorem optMin_merge (a m o : Option Nat) : optApp optMin a (optApp optMin m o) = optApp optMin (optApp optMin a m) o := by
  cases a <;> cases m <;> cases o <;> simp [optApp, optMin, Nat.min_assoc]

theorem markFlags_idem (f : Nat) : markFlags (markFlags f) = markFlags f := by
  rw [markFlags, if_pos (markFlags_and f)]

section foldc
variable {α : Type}

theorem sum_cons_opt (x : Nat) (o : Option Nat) (l : List Nat) : x + (o.toList ++ l).sum = optApp (· + ·) x o + l.sum := by
  cases o <;> simp [optApp, Nat.add_assoc]

theorem sum_map_cons_opt (f : α → Nat) (x : Nat) (o : Option α) (l : List α) :
    x + ((o.toList ++ l).map f).sum = optApp (fun v a => v + f a) x o + (l.map f).sum := by
  cases o <;> simp [optApp, Nat.add_assoc]

theorem maxOpt_cons_opt (a o : Option Nat) (l : List Nat) :
    optApp optMax a (maxOpt (o.toList ++ l)) = optApp optMax (optApp optMax a o) (maxOpt l) := by
  cases o with
  | none => rfl
  | some v => exact (congrArg _ (maxOpt_cons v l)).trans (optMax_merge a (some v) (maxOpt l))

theorem minOpt_cons_opt (a o : Option Nat) (l : List Nat) :
    optApp optMin a (minOpt (o.toList ++ l)) = optApp optMin (optApp optMin a o) (minOpt l) := by
  cases o with
  | none => rfl
  | some v => exact (congrArg _ (minOpt_cons v l)).trans (optMin_merge a (some v) (minOpt l))

theorem maxList_cons_opt (x : Nat) (o : Option Nat) (l : List Nat) :
    max x (maxList (o.toList ++ l)) = max (optApp max x o) (maxList l) := by
  cases o with
  | none => rfl
  | some v => exact (congrArg _ (maxList_cons v l)).trans (Nat.max_assoc ..).symm

theorem append_cons_opt (a : List α) (o : Option α) (l : List α) : a ++ (o.toList ++ l) = optApp snoc a o ++ l := by
  cases o <;> simp [optApp, snoc]

theorem reverse_cons_opt (o : Option α) (l r : List α) : (o.toList ++ l).reverse ++ r = l.reverse ++ optApp consr r o := by
  cases o <;> simp [optApp, consr]

theorem replicate_cons (n : Nat) (b : Bool) (x : α) (r : List α) :
    List.replicate (n + if b = true then 1 else 0) x ++ r = List.replicate n x ++ (bif b then x :: r else r) := by
  cases b <;> simp [List.replicate_succ', List.append_assoc]

theorem pairs_cons_ite (d : Bool) (a : List α) (o : Option α) (l : List α) :
    a ++ (if d = true then [] else o.toList ++ l)
      = optApp (fun l e => bif d then l else snoc l e) a o ++ if d = true then [] else l := by
  cases d <;> cases o <;> simp [optApp, snoc]

theorem countdown_cons (cc : Bool) (n k : Nat) (b : Bool) :
    (if cc = true then n else n - (k + if b = true then 1 else 0))
      = if cc = true then (bif b then (if cc = true then n else n - 1) else n)
        else (bif b then (if cc = true then n else n - 1) else n) - k := by
  cases cc <;> cases b <;> simp <;> omega

end foldc

theorem birth_merge_cons (a o : Option Nat) (l : List Nat)
    (h : ∀ v ∈ l, isSomeNe (optApp (fun _ v => some v) a o) v = false) :
    optApp (fun _ v => some v) a (commonValue (o.toList ++ l))
      = optApp (fun _ v => some v) (optApp (fun _ v => some v) a o) (commonValue l) := by
  cases o with
  | none => rfl
  | some v =>
    cases l with
    | nil => rfl
    | cons w t => simpa [optApp, commonValue, isSomeNe] using h w (List.mem_cons_self ..)

theorem markFlags_cons (f : Nat) (m a : Bool) :
    (bif m || a then markFlags f else f) = bif a then markFlags (bif m then markFlags f else f) else (bif m then markFlags f else f) := by
  cases a <;> cases m <;> simp [markFlags_idem]

theorem markList_cons (f n : Nat) (l : List Nat) (m a : Bool) :
    (bif m || a then markList f n l else l)
      = bif a then markList (bif m then markFlags f else f) n (bif m then markList f n l else l)
        else (bif m then markList f n l else l) := by
  cases a <;> cases m <;> simp [markList, markFlags_and]

theorem stateAfter_cons (env : Env) (s : CSt) (c : Cond) (cs : List Cond) (h : Compatible (condUpd env s c) cs) :
    stateAfter env s (c :: cs) = stateAfter env (condUpd env s c) cs := by
  simp only [stateAfter, mergeSpend, spendResult, enterSummary, spendSummary, condUpd, dec, attrsOf, heightRels, secondsRels,
    beforeHeightRels, beforeSecondsRels, birthHeights, birthSeconds, heightAbss, secondsAbss, beforeHeightAbss, beforeSecondsAbss,
    newCoins, sigsOf, feeSum, fees, additions, announceCount, ephemeralCount, anyNotEphemeral, filterMap_cons_opt, List.countP_cons,
    List.any_cons, minOpt2_eq, sum_cons_opt, sum_map_cons_opt, maxList_cons_opt, maxOpt_cons_opt, minOpt_cons_opt, append_cons_opt,
    reverse_cons_opt, replicate_cons, pairs_cons_ite, countdown_cons, birth_merge_cons s.spend.birthHeight (birthHeightOf c) (cs.filterMap birthHeightOf) h.birthHeights,
    birth_merge_cons s.spend.birthSeconds (birthSecondsOf c) (cs.filterMap birthSecondsOf) h.birthSeconds, markFlags_cons, markList_cons]

theorem stateAfter_nil (env : Env) (s : CSt) : stateAfter env s [] = s := by
  simp [stateAfter, mergeSpend, spendResult, enterSummary, spendSummary, heightRels, secondsRels, beforeHeightRels, beforeSecondsRels,
    birthHeights, birthSeconds, heightAbss, secondsAbss, beforeHeightAbss, beforeSecondsAbss, newCoins, sigsOf, feeSum, fees, additions,
    announceCount, ephemeralCount, anyNotEphemeral, maxOpt, minOpt, maxList, commonValue, minOpt2_eq]

theorem applyAll_ok_iff (env : Env) (s : CSt) (cs : List Cond) (s' : CSt) : applyAll env s cs = .ok s' ↔
    (SpendAccepts env (attrsOf s.spend) 0 s.countdown cs ∧ Compatible s cs) ∧ s' = stateAfter env s cs := by
  induction cs generalizing s with
  | nil =>
    rw [applyAll_nil, stateAfter_nil]
    refine ⟨fun h => ⟨⟨?_, ?_⟩, (Except.ok.inj h).symm⟩, fun h => h.2 ▸ rfl⟩
    · simp [SpendAccepts, createKeys, newCoins, birthHeights, birthSeconds, heightRels, secondsRels, announceCount, feeSum, fees]
    · simp [Compatible, fees, newCoins, birthHeights, birthSeconds, heightRels, secondsRels, beforeHeightRels, beforeSecondsRels]
  | cons c cs ih =>
    rw [applyAll_cons, rules_cons, applyCond_eq]
    by_cases hc : condOk env s c = true
    · rw [if_pos hc, ok_bind, ih]
      exact ⟨fun ⟨h, e⟩ => ⟨⟨hc, h⟩, e.trans (stateAfter_cons env s c cs h.2).symm⟩,
        fun ⟨⟨_, h⟩, e⟩ => ⟨h, e.trans (stateAfter_cons env s c cs h.2)⟩⟩
    · rw [if_neg hc]
      exact ⟨fun h => (by cases h), fun h => absurd h.1.1 hc⟩

theorem optMax_none (m : Option Nat) : optApp optMax none m = m := by cases m <;> rfl
theorem optMin_none (m : Option Nat) : optApp optMin none m = m := by cases m <;> rfl
theorem birth_none (m : Option Nat) : optApp (fun _ v => some v) none m = m := by cases m <;> rfl

theorem stateAfter_fresh (env : Env) (s : CSt) (h : FreshSpend s.spend) (cs : List Cond) :
    stateAfter env s cs = spendResult env s cs := by
  have hf : ¬ s.spend.flags &&& HAS_RELATIVE_CONDITION ≠ 0 := fun hne => hne h.noRelativeFlag
  simp only [stateAfter, mergeSpend, h.heightRelative, h.secondsRelative, h.beforeHeightRelative, h.beforeSecondsRelative,
    h.birthHeight, h.birthSeconds, h.createCoin, h.aggSigMe, h.aggSigParent, h.aggSigPuzzle, h.aggSigAmount,
    h.aggSigPuzzleAmount, h.aggSigParentAmount, h.aggSigParentPuzzle, optMax_none, optMin_none, birth_none, List.nil_append,
    markFlags, markList, if_neg hf]
  rfl

theorem compatible_fresh (s : CSt) (h : FreshSpend s.spend) (cs : List Cond) :
    Compatible s cs ↔ ∀ _v ∈ fees cs, s.ret.reserveFee + feeSum cs < 2 ^ 64 := by
  simp [Compatible, h.createCoin, h.beforeSecondsRelative, h.beforeHeightRelative, h.secondsRelative, h.heightRelative,
    h.birthSeconds, h.birthHeight, optLe, optGe, isSomeNe]

theorem accepts_fee_split (env : Env) (a : Attrs) (f cd : Nat) (cs : List Cond) :
    SpendAccepts env a f cd cs ↔ SpendAccepts env a 0 cd cs ∧ f + feeSum cs < 2 ^ 64 := by
  unfold SpendAccepts
  constructor
  · rintro ⟨a1, a2, a3, a4, a5, a6, a7, a8, a9⟩
    exact ⟨⟨a1, a2, a3, a4, a5, a6, a7, a8, by omega⟩, a9⟩
  · rintro ⟨⟨a1, a2, a3, a4, a5, a6, a7, a8, _⟩, a9⟩
    exact ⟨a1, a2, a3, a4, a5, a6, a7, a8, a9⟩

/-- after a u64, "the fee fits unless the spend reserves none" is "the fee fits" -/
theorem fee_clause_iff {f : Nat} (hf : f < 2 ^ 64) (cs : List Cond) :
    (∀ _v ∈ fees cs, f + feeSum cs < 2 ^ 64) ↔ f + feeSum cs < 2 ^ 64 := by
  cases h : fees cs with
  | nil => simp [feeSum, h, hf]
  | cons v l => exact ⟨fun h => h v (List.mem_cons_self ..), fun h _ _ => h⟩

theorem accepts_fresh (env : Env) (s : CSt) (hs : FreshSpend s.spend) (hfee : s.ret.reserveFee < 2 ^ 64) (cs : List Cond) :
    SpendAccepts env (attrsOf s.spend) 0 s.countdown cs ∧ Compatible s cs ↔
      SpendAccepts env (attrsOf s.spend) s.ret.reserveFee s.countdown cs := by
  rw [compatible_fresh s hs, accepts_fee_split env _ s.ret.reserveFee, fee_clause_iff hfee]

theorem condLoop_ok_iff (env : Env) (t : Sexp) (s : CSt) (m : Nat) (s' : CSt) (m' : Nat) :
    condLoop env t s m = .ok (s', m') ↔
      ∃ cs items, sexpList t = some cs ∧ parseAll env.flags cs = .ok items ∧
        totalCost env.flags items ≤ m ∧ m' = m - totalCost env.flags items ∧
        (SpendAccepts env (attrsOf s.spend) 0 s.countdown (itemConds items) ∧ Compatible s (itemConds items)) ∧
        s' = wrapF (allBits env.mempool s.counter items) (stateAfter env s (itemConds items)) (totalCount items)
              (totalCost env.flags items) := by
  constructor
  · intro h
    obtain ⟨cs, hcs⟩ := condLoop_proper env t s m _ h
    obtain ⟨items, hp, hk, hm, u, hu, hs'⟩ := (condLoop_iff env cs t hcs s m s' m').mp h
    obtain ⟨ha, rfl⟩ := (applyAll_ok_iff env s _ u).mp hu
    exact ⟨cs, items, hcs, hp, hk, hm, ha, hs'⟩
  · rintro ⟨cs, items, hcs, hp, hk, hm, ha, hs'⟩
    exact (condLoop_iff env cs t hcs s m s' m').mpr ⟨items, hp, hk, hm, _, (applyAll_ok_iff env s _ _).mpr ⟨ha, rfl⟩, hs'⟩

end ChiaModel.Rules
