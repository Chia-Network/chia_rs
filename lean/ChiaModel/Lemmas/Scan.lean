import ChiaModel.Model.Generator
import ChiaModel.Lemmas.ArgGrammar
/-
The CREATE_COIN scanner of `additions_and_removals` against `parse_args`: on a condition list every element of which
parses the scanner succeeds and reports exactly the created coins of the parsed conditions, in order, with the same
hints (`scan_items`); that these are the created coins of the spend record is `Rules.spendRec_eq`.  What a CREATE_COIN
scanner meets in a parsed list — this one, and that of `SpendBundle::additions` (BundleAdditions.lean) — is said once, per
element (`parseItem_scan`).
-/
namespace ChiaModel.Gn
open ChiaModel ChiaModel.Cond

theorem parseArgs_not_createCoin {args : Sexp} {op flags : Nat} {c : Cond} (hop : op ≠ Gen.opCreateCoin)
    (h : parseArgs args op flags = .ok c) : Rules.newCoinOf c = none := by
  rw [Grammar.parseArgs_eq_spec] at h
  obtain ⟨vs, hb⟩ := Grammar.specParseArgs_ok h
  have := Grammar.build_inv hb
  cases c <;> first | rfl | exact absurd this hop

/-- the scanner's hint rule: the first memo, if it is a non-empty atom of at most 32 bytes -/
def scanHint : Sexp → Option Bytes
  | .pair (.pair (.atom hb) _) _ => if hb.length ≤ 32 ∧ hb.length > 0 then some hb else none
  | _ => none

section table
open Grammar

theorem tailRule_memos (vals : List Val) (t : Sexp) : ∃ e, tailRule .memos vals t = some ([.hint (scanHint t)], e) := by
  rcases t with x | ⟨x | ⟨h | ⟨_, _⟩, _⟩, r⟩ <;> try exact ⟨_, rfl⟩
  have hc : (1 ≤ h.length ∧ h.length ≤ 32) ↔ (h.length ≤ 32 ∧ h.length > 0) := by omega
  exact ⟨some r, by simp only [tailRule, memoHint, scanHint, hc]⟩

/-- row 51 of the argument table asks for a 32-byte hash, a u64 and the memos; its memo rule is the scanner's hint rule
(`tailRule_memos`) -/
theorem parseArgs_createCoin {args : Sexp} {flags : Nat} {cva : Cond}
    (h : parseArgs args Gen.opCreateCoin flags = .ok cva) :
    ∃ ph ab v hintS, args = .pair (.atom ph) (.pair (.atom ab) hintS) ∧ ph.length = 32 ∧ sanitizeUint ab 8 = .ok v ∧
      cva = .createCoin ph v (scanHint hintS) := by
  rw [parseArgs_eq_spec] at h
  obtain ⟨vals, t, extra, e, hw, ht, hb⟩ :=
    interp_ok (h : interp [.hash32, amountU64] .memos (build 51) args flags = .ok cva)
  obtain ⟨a1, _, v1, _, rfl, h1, hw1, rfl⟩ := walk_cons hw
  obtain ⟨a2, _, v2, _, rfl, h2, hw2, rfl⟩ := walk_cons hw1
  cases hw2
  obtain ⟨ph, rfl, hl, rfl⟩ := argValue_hash32 h1
  obtain ⟨ab, v, rfl, hv, rfl⟩ := argValue_uint h2
  obtain ⟨_, he⟩ := tailRule_memos [.bytes ph, .int v] t
  rw [he] at ht
  cases ht
  cases hb
  exact ⟨ph, ab, v, t, rfl, hl, hv, rfl⟩

end table

theorem parseOpcode_cc (opn : Sexp) : parseOpcode opn = some Gen.opCreateCoin ↔ opn = .atom [51] := by
  refine ⟨fun h => ?_, fun h => by subst h; decide⟩
  have h51 : Gen.opCreateCoin = 51 := rfl
  unfold parseOpcode at h
  split at h
  · cases h
  · -- a two-byte opcode is at least 256
    split at h
    · cases h
    · injection h with h
      omega
  · split at h
    · injection h with h
      rw [h, h51]
    · cases h
  · cases h

/-- the additions a spend reports: its created coins with its coin id as parent -/
def ncAdd (id : Bytes) (nc : NewCoin) : (Bytes × Bytes × Nat) × Option Bytes := ((id, nc.ph, nc.amount), nc.hint)

theorem parseItem_scan {flags : Nat} {c : Sexp} {it : Item} (h : parseItem flags c = .ok it) :
    (∃ ph ab v hintS, c = .pair (.atom [51]) (.pair (.atom ph) (.pair (.atom ab) hintS)) ∧ ph.length = 32 ∧
        sanitizeUint ab 8 = .ok v ∧ it = .known Gen.opCreateCoin (.createCoin ph v (scanHint hintS))) ∨
    (∃ opn args, c = .pair opn args ∧ opn ≠ .atom [51] ∧
        ∀ its, Rules.newCoins (itemConds (it :: its)) = Rules.newCoins (itemConds its)) := by
  obtain ⟨opn, args, rfl, ⟨ho, rfl⟩ | ⟨op, cva, ho, hpa, rfl⟩⟩ := parseItem_ok h
  · exact .inr ⟨opn, args, rfl, fun hc => (by rw [(parseOpcode_cc opn).mpr hc] at ho; cases ho), fun _ => rfl⟩
  · by_cases hop : op = Gen.opCreateCoin
    · subst hop
      obtain ⟨ph, ab, v, hintS, rfl, hl, hv, rfl⟩ := parseArgs_createCoin hpa
      cases (parseOpcode_cc opn).mp ho
      exact .inl ⟨ph, ab, v, hintS, rfl, hl, hv, rfl⟩
    · refine .inr ⟨opn, args, rfl, fun hc => hop ?_, fun its => ?_⟩
      · rw [(parseOpcode_cc opn).mpr hc] at ho; exact (Option.some.inj ho).symm
      · simp only [itemConds, Rules.newCoins, List.filterMap_cons, parseArgs_not_createCoin hop hpa]

theorem scan_items {flags : Nat} (id : Bytes) : ∀ {cs : List Sexp} {items : List Item}, parseAll flags cs = .ok items →
    ∀ {t : Sexp}, sexpList t = some cs → scanCreateCoins id t = some ((Rules.newCoins (itemConds items)).map (ncAdd id)) := by
  intro cs
  induction cs with
  | nil => intro items h t ht; cases h; rw [sexpList_nil ht]; rfl
  | cons c cs ih =>
    intro items h t ht
    obtain ⟨nxt, rfl, hn⟩ := sexpList_cons ht
    obtain ⟨it, its, hit, hits, rfl⟩ := parseAll_cons.mp h
    replace ih := ih hits hn
    rcases parseItem_scan hit with ⟨ph, ab, v, hintS, rfl, hl, hv, rfl⟩ | ⟨opn, args, rfl, hne, hnc⟩
    · simp only [scanCreateCoins, ne_eq, not_true_eq_false, if_false]
      rw [if_neg (by omega), hv]
      simp only [ih, Option.map_some, itemConds, Rules.newCoins, List.filterMap_cons, Rules.newCoinOf, List.map_cons]
      rfl
    · simp only [scanCreateCoins, if_pos hne, hnc]
      exact ih

end ChiaModel.Gn
