import ChiaModel.Model.Conditions
/-
Arithmetic of the three bits of a spend's `flags` word: ELIGIBLE_FOR_DEDUP = 1, HAS_RELATIVE_CONDITION = 2,
ELIGIBLE_FOR_FF = 4.  `&&&` with a bit is rewritten into `/` and `%` (`and_bit`), which `omega` decides.
-/
namespace ChiaModel.Cond

theorem and_bit (x k : Nat) : x &&& 2 ^ k = 2 ^ k * (x / 2 ^ k % 2) := by
  have h := Nat.div_add_mod (x &&& 2 ^ k) (2 ^ k)
  rw [Nat.and_div_two_pow, Nat.and_mod_two_pow, Nat.div_self (Nat.two_pow_pos k), Nat.mod_self, Nat.and_zero,
    Nat.and_one_is_mod, Nat.add_zero] at h
  exact h.symm

theorem and_one (x : Nat) : x &&& ELIGIBLE_FOR_DEDUP = x % 2 := Nat.and_one_is_mod x

theorem and_two (x : Nat) : x &&& HAS_RELATIVE_CONDITION = 2 * (x / 2 % 2) := and_bit x 1

theorem add_two_and (f : Nat) (h : f &&& HAS_RELATIVE_CONDITION = 0) :
    (f + HAS_RELATIVE_CONDITION) &&& HAS_RELATIVE_CONDITION ≠ 0 := by
  rw [and_two] at h ⊢
  show 2 * ((f + 2) / 2 % 2) ≠ 0
  omega

theorem clearFlag_bit (f k : Nat) : clearFlag f (2 ^ k) = f - 2 ^ k * (f / 2 ^ k % 2) := by
  unfold clearFlag
  rw [and_bit]
  rcases Nat.mod_two_eq_zero_or_one (f / 2 ^ k) with h | h <;> simp [h]

theorem clearFlag_one (f : Nat) : clearFlag f ELIGIBLE_FOR_DEDUP = f - f % 2 :=
  (clearFlag_bit f 0).trans (by rw [Nat.pow_zero, Nat.one_mul, Nat.div_one])

theorem clearFlag_four (f : Nat) : clearFlag f ELIGIBLE_FOR_FF = f - 4 * (f / 4 % 2) := clearFlag_bit f 2

theorem clearFlag_dedup (f : Nat) : (clearFlag f ELIGIBLE_FOR_DEDUP) % 2 = 0 := by
  rw [clearFlag_one]; omega

theorem clearFlag_ff (f : Nat) : (clearFlag f ELIGIBLE_FOR_FF) % 2 = f % 2 := by
  rw [clearFlag_four]; omega

theorem clearFlag_dedup_and2 (f : Nat) : clearFlag f ELIGIBLE_FOR_DEDUP &&& HAS_RELATIVE_CONDITION = f &&& HAS_RELATIVE_CONDITION := by
  rw [and_two, and_two, clearFlag_one]; omega

theorem clearFlag_ff_and2 (f : Nat) : clearFlag f ELIGIBLE_FOR_FF &&& HAS_RELATIVE_CONDITION = f &&& HAS_RELATIVE_CONDITION := by
  rw [and_two, and_two, clearFlag_four]; omega

theorem clearDedup_add2 (f : Nat) :
    clearFlag (f + HAS_RELATIVE_CONDITION) ELIGIBLE_FOR_DEDUP = clearFlag f ELIGIBLE_FOR_DEDUP + HAS_RELATIVE_CONDITION := by
  rw [clearFlag_one, clearFlag_one, show HAS_RELATIVE_CONDITION = 2 from rfl]; omega

theorem clearFF_add2 (f : Nat) (h : f &&& HAS_RELATIVE_CONDITION = 0) :
    clearFlag (f + HAS_RELATIVE_CONDITION) ELIGIBLE_FOR_FF = clearFlag f ELIGIBLE_FOR_FF + HAS_RELATIVE_CONDITION := by
  rw [and_two] at h
  rw [clearFlag_four, clearFlag_four, show HAS_RELATIVE_CONDITION = 2 from rfl]; omega

theorem clearDedup_idem (f : Nat) :
    clearFlag (clearFlag f ELIGIBLE_FOR_DEDUP) ELIGIBLE_FOR_DEDUP = clearFlag f ELIGIBLE_FOR_DEDUP := by
  rw [clearFlag_one (clearFlag f _), clearFlag_dedup, Nat.sub_zero]

theorem clearFF_idem (f : Nat) : clearFlag (clearFlag f ELIGIBLE_FOR_FF) ELIGIBLE_FOR_FF = clearFlag f ELIGIBLE_FOR_FF := by
  simp only [clearFlag_four]; omega

theorem clearFlag_comm (f : Nat) :
    clearFlag (clearFlag f ELIGIBLE_FOR_FF) ELIGIBLE_FOR_DEDUP = clearFlag (clearFlag f ELIGIBLE_FOR_DEDUP) ELIGIBLE_FOR_FF := by
  -- clearing bit 2 keeps bit 0, clearing bit 0 keeps bit 2: both sides are `f - 4 * bit2 - bit0` up to the order
  have h : (f - f % 2) / 4 = f / 4 := by omega
  rw [clearFlag_one, clearFlag_ff, clearFlag_four, clearFlag_four, clearFlag_one, h, Nat.sub_right_comm]

end ChiaModel.Cond
