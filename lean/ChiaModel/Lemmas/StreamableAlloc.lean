import ChiaModel.Lemmas.StreamableMain
/-
Bytes reserved ahead of parsing (`Vec::with_capacity`).  `AllocOK b F D` charges an accepting run `F` bytes per byte it
consumed, so that runs compose by `bind` with one `F`; a Vec header adds its element size to `F`, because every element
consumes at least a byte (`allocOK_vec`, which is where `total_decode_minWire` is needed), and one 2 MiB cap to what a rejecting run may have
reserved.
-/
namespace ChiaModel.Streamable
open ChiaModel

namespace Res
variable {α β : Type}

/-- `F`: bytes reserved per consumed byte by an accepting run on input `b`; `D`: additional 2 MiB caps for a
rejecting one -/
def AllocOK (b : Bytes) (F D : Nat) (x : Res (α × Bytes)) : Prop :=
  match x.out with
  | .ok (_, r) => r.length ≤ b.length ∧ x.alloc + F * r.length ≤ F * b.length
  | _ => x.alloc ≤ F * b.length + D * allocCap

theorem AllocOK.ok {b : Bytes} {F D : Nat} {x : Res (α × Bytes)} (h : AllocOK b F D x) {a : α} {r : Bytes}
    (hx : x.out = .ok (a, r)) : r.length ≤ b.length ∧ x.alloc + F * r.length ≤ F * b.length := by
  unfold AllocOK at h; rw [hx] at h; exact h

theorem AllocOK.any {b : Bytes} {F D : Nat} {x : Res (α × Bytes)} (h : AllocOK b F D x) :
    x.alloc ≤ F * b.length + D * allocCap := by
  unfold AllocOK at h
  split at h
  · omega
  · exact h

theorem Plain.allocOK {b : Bytes} {m F D : Nat} {x : Res (α × Bytes)} (h : Plain b m x) : AllocOK b F D x := by
  cases h with
  | fail => exact Nat.zero_le _
  | @pure a p r hb hm =>
    have hl : r.length ≤ b.length := by rw [hb, List.length_append]; exact Nat.le_add_left _ _
    exact ⟨hl, by rw [Res.pure_alloc, Nat.zero_add]; exact Nat.mul_le_mul_left F hl⟩

theorem AllocOK.fail {b : Bytes} {F D : Nat} : AllocOK b F D (.fail : Res (α × Bytes)) := Plain.fail (m := 0).allocOK

theorem AllocOK.here (a : α) (b : Bytes) {F D : Nat} : AllocOK b F D (.pure (a, b)) := (Plain.here a b).allocOK

theorem AllocOK.ite {c : Prop} [Decidable c] {b : Bytes} {F D : Nat} {x y : Res (α × Bytes)}
    (hx : AllocOK b F D x) (hy : AllocOK b F D y) : AllocOK b F D (if c then x else y) := by
  by_cases h : c
  · exact if_pos h ▸ hx
  · exact if_neg h ▸ hy

theorem AllocOK.mono {b : Bytes} {F D F' D' : Nat} {x : Res (α × Bytes)} (h : AllocOK b F D x) (hF : F ≤ F')
    (hD : D ≤ D') : AllocOK b F' D' x := by
  obtain ⟨e, rfl⟩ := Nat.exists_eq_add_of_le hF
  have hc : D * allocCap ≤ D' * allocCap := Nat.mul_le_mul_right _ hD
  obtain ⟨o, al⟩ := x
  cases o with
  | ok p =>
    have h : p.2.length ≤ b.length ∧ al + F * p.2.length ≤ F * b.length := h
    exact ⟨h.1, by have := Nat.mul_le_mul_left e h.1; simp only [Nat.add_mul]; omega⟩
  | _ =>
    have h : al ≤ F * b.length + D * allocCap := h
    show al ≤ (F + e) * b.length + D' * allocCap
    simp only [Nat.add_mul]; omega

/-- what the first step reserved per byte it consumed and the rest per byte it consumed add up per byte consumed -/
theorem AllocOK.bind {b : Bytes} {F D : Nat} {x : Res (α × Bytes)} {k : α × Bytes → Res (β × Bytes)}
    (hx : AllocOK b F D x) (hk : ∀ a r, AllocOK r F D (k (a, r))) : AllocOK b F D (x.bind k) := by
  obtain ⟨o, al⟩ := x
  cases o with
  | ok p =>
    have h1 : p.2.length ≤ b.length ∧ al + F * p.2.length ≤ F * b.length := hx
    have h2 := hk p.1 p.2
    show AllocOK b F D ⟨(k p).out, al + (k p).alloc⟩
    generalize k p = y at h2
    obtain ⟨o2, al2⟩ := y
    cases o2 with
    | ok q =>
      have h2 : q.2.length ≤ p.2.length ∧ al2 + F * q.2.length ≤ F * p.2.length := h2
      exact ⟨Nat.le_trans h2.1 h1.1, by show al + al2 + F * q.2.length ≤ F * b.length; omega⟩
    | _ =>
      have h2 : al2 ≤ F * p.2.length + D * allocCap := h2
      show al + al2 ≤ F * b.length + D * allocCap
      omega
  | _ => exact hx

/-- a `Vec::with_capacity` of `a ≤ n * sz` bytes, at most 2 MiB, before a run that consumes `n` bytes if it accepts -/
theorem AllocOK.reserve {b : Bytes} {F D a n sz : Nat} {y : Res (α × Bytes)} (hy : AllocOK b F D y)
    (hc : a ≤ allocCap) (ha : a ≤ n * sz) (hn : ∀ v r, y.out = .ok (v, r) → r.length + n ≤ b.length) :
    AllocOK b (sz + F) (D + 1) ((Res.reserve a).bind fun _ => y) := by
  obtain ⟨o, al⟩ := y
  cases o with
  | ok p =>
    have h : p.2.length ≤ b.length ∧ al + F * p.2.length ≤ F * b.length := hy
    have h3 := Nat.mul_le_mul_left sz (hn p.1 p.2 rfl)
    rw [Nat.mul_add, Nat.mul_comm sz n] at h3
    refine ⟨h.1, ?_⟩
    show a + al + (sz + F) * p.2.length ≤ (sz + F) * b.length
    rw [Nat.add_mul, Nat.add_mul]
    omega
  | _ =>
    have h : al ≤ F * b.length + D * allocCap := hy
    show a + al ≤ (sz + F) * b.length + (D + 1) * allocCap
    simp only [Nat.add_mul, Nat.one_mul]; omega

end Res

def AllocOK {α : Type} (d : Bytes → Res (α × Bytes)) (F D : Nat) : Prop := ∀ b, Res.AllocOK b F D (d b)

structure AllocOKL (d : Bytes → Res (List V × Bytes)) (F D : Nat) : Prop where
  ok : ∀ b vs r, (d b).out = .ok (vs, r) → r.length ≤ b.length ∧ (d b).alloc + F * r.length ≤ F * b.length
  any : ∀ b, (d b).alloc ≤ F * b.length + D * allocCap

theorem Plain.allocOK {α : Type} {d : Bytes → Res (α × Bytes)} {m : Nat} (h : Plain d m) (F D : Nat) : AllocOK d F D :=
  fun b => (h b).allocOK

theorem allocOK_option {f : Dec} {F D : Nat} (h : AllocOK f F D) : AllocOK (decOption f) F D := fun b =>
  .bind (plain_readByte _ b).allocOK fun _ r =>
    .ite (.here _ _) (.ite (.bind (h r) fun _ _ => .here _ _) .fail)

theorem allocOK_repeat {f : Dec} {F D : Nat} (h : AllocOK f F D) : ∀ n, AllocOK (repeatN f n) F D
  | 0 => fun b => .here _ b
  | n + 1 => fun b => .bind (h b) fun _ r => .bind (allocOK_repeat h n r) fun _ _ => .here _ _

theorem allocOK_array {n : Nat} {f : Dec} {F D : Nat} (h : AllocOK f F D) : AllocOK (decArray n f) F D :=
  fun b => .bind (allocOK_repeat h n b) fun _ _ => .here _ _

theorem reservation_le_cap (sz len : Nat) : reservation sz len ≤ allocCap := by
  unfold reservation
  split
  · exact Nat.zero_le _
  · calc min (allocCap / sz) len * sz ≤ allocCap / sz * sz := Nat.mul_le_mul_right _ (Nat.min_le_left _ _)
      _ ≤ allocCap := Nat.div_mul_le_self _ _

theorem reservation_le_len (sz len : Nat) : reservation sz len ≤ len * sz := by
  unfold reservation
  split
  · exact Nat.zero_le _
  · exact Nat.mul_le_mul_right _ (Nat.min_le_right _ _)

/-- every element consumes at least one byte, so the count is at most the bytes consumed -/
theorem allocOK_vec {sz : Nat} {f : Dec} {F D : Nat} (h : AllocOK f F D) (hc : Total f 1) :
    AllocOK (decVec sz f) (sz + F) (D + 1) := fun b =>
  .bind (plain_readUint 4 b).allocOK fun n r =>
    .reserve (allocOK_array h r) (reservation_le_cap sz n) (reservation_le_len sz n) fun _ _ hv =>
      Nat.mul_one n ▸ (total_array n hc r).len hv

theorem allocOK_tup {d : Bytes → Res (List V × Bytes)} {F D : Nat} (h : AllocOK d F D) : AllocOK (decTup d) F D :=
  fun b => .bind (h b) fun _ _ => .here _ _

theorem allocOK_optpair {f g : Dec} {F1 D1 F2 D2 : Nat} (h1 : AllocOK f F1 D1) (h2 : AllocOK g F2 D2) :
    AllocOK (decOptPair f g) (F1 + F2) (max D1 D2) := by
  have hf := fun b => (h1 b).mono (Nat.le_add_right F1 F2) (Nat.le_max_left D1 D2)
  have hg := fun b => (h2 b).mono (Nat.le_add_left F2 F1) (Nat.le_max_right D1 D2)
  exact fun b => .bind (plain_readUint 1 b).allocOK fun _ r =>
    .ite (.here _ _) (.ite (.bind (hf r) fun _ _ => .here _ _) (.ite (.bind (hg r) fun _ _ => .here _ _)
      (.ite (.bind (hf r) fun _ r1 => .bind (hg r1) fun _ _ => .here _ _) .fail)))

theorem allocOK_refs : AllocOK (decVec 4 (decUint 4)) 4 1 :=
  allocOK_vec (sz := 4) (F := 0) (D := 0) ((plain_uint 4).allocOK 0 0) ((plain_uint 4).total.mono (by decide))

theorem allocOK_gentail (O : Oracles) (tr : Bool) : AllocOK (decGenTail O tr) 4 1 := fun b =>
  .bind (plain_readUint 1 b).allocOK fun _ r => .ite
    (.bind (plain_present (plain_program O tr fun _ _ _ => Nat.zero_le _) r).allocOK fun _ r1 =>
      .bind (allocOK_refs r1) fun _ _ => .here _ _)
    (.ite (.bind (plain_present plain_bytes r).allocOK fun _ _ => .here _ _) .fail)

mutual
theorem allocOK_decode (O : Oracles) (hO : OracleContract O) (tr : Bool) :
    ∀ t : Ty, noZeroWidthVec t = true → AllocOK (decode O tr t) (allocFactor t) (vecDepth t)
  | .uint n, _ => (plain_uint n).allocOK _ _
  | .sint n, _ => (plain_sint n).allocOK _ _
  | .bool, _ => plain_bool.allocOK _ _
  | .unit, _ => plain_unit.allocOK _ _
  | .bytes, _ => plain_bytes.allocOK _ _
  | .bytesN n, _ => (plain_bytesN n).allocOK _ _
  | .str, _ => (plain_lenPrefixed _).allocOK _ _
  | .option t, h => allocOK_option (allocOK_decode O hO tr t h)
  | .vec t, h => by
      simp only [noZeroWidthVec, Bool.and_eq_true, decide_eq_true_eq] at h
      exact allocOK_vec (allocOK_decode O hO tr t h.2) ((total_decode_minWire O hO tr t).mono h.1)
  | .tuple ts, h => allocOK_tup (allocOK_decodeL O hO tr ts h)
  | .array _ t, h => allocOK_array (allocOK_decode O hO tr t h)
  | .struct _ _ ts, h => allocOK_tup (allocOK_decodeL O hO tr ts h)
  | .enum8 _ vals, _ => (plain_enum vals).allocOK _ _
  | .program, _ => (plain_program O tr fun _ _ _ => Nat.zero_le _).allocOK _ _
  | .g1, _ => (plain_g1 O tr).allocOK _ _
  | .g2, _ => (plain_g2 O tr).allocOK _ _
  | .gt, _ => plain_gt.allocOK _ _
  | .secretKey, _ => (plain_sk O).allocOK _ _
  | .optpair t u, h => by
      simp only [noZeroWidthVec, Bool.and_eq_true] at h
      exact allocOK_optpair (allocOK_decode O hO tr t h.1) (allocOK_decode O hO tr u h.2)
  | .genTail _, _ => allocOK_gentail O tr
  | .proofOfSpace, _ => (plain_pos O tr).allocOK _ _
theorem allocOK_decodeL (O : Oracles) (hO : OracleContract O) (tr : Bool) :
    ∀ ts : List Ty, noZeroWidthVecL ts = true → AllocOK (decodeL O tr ts) (allocFactorL ts) (vecDepthL ts)
  | [], _ => fun b => .here _ b
  | t :: ts, h => by
      simp only [noZeroWidthVecL, Bool.and_eq_true] at h
      exact fun b =>
        .bind ((allocOK_decode O hO tr t h.1 b).mono (Nat.le_add_right _ _) (Nat.le_max_left _ _)) fun _ r =>
          .bind ((allocOK_decodeL O hO tr ts h.2 r).mono (Nat.le_add_left _ _) (Nat.le_max_right _ _)) fun _ _ =>
            .here _ _
end

theorem allocOKL_decode (O : Oracles) (hO : OracleContract O) (tr : Bool) :
    ∀ ts : List Ty, noZeroWidthVecL ts = true → AllocOKL (decodeL O tr ts) (allocFactorL ts) (vecDepthL ts) :=
  fun ts h => ⟨fun b _ _ hd => (allocOK_decodeL O hO tr ts h b).ok hd, fun b => (allocOK_decodeL O hO tr ts h b).any⟩

end ChiaModel.Streamable
