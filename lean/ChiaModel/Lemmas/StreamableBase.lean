import ChiaModel.Model.Streamable
import ChiaModel.Lemmas.Ints
/-
A decoding run is a `Res`: an outcome and the bytes reserved so far.  `Res.bind` has one lemma per question asked of
a run (`bind_ok`, `bind_panic`, `bind_alloc`), and the readers have closed forms in which the `unwrap` / index
branches of `read_bytes` do not occur (`readFixed_eq`, `readUint_ok`).
-/
namespace ChiaModel.Streamable
open ChiaModel

theorem Res.ext {α : Type} {x y : Res α} (ho : x.out = y.out) (ha : x.alloc = y.alloc) : x = y := by
  cases x; cases y; cases ho; cases ha; rfl

theorem Res.bind_out {α β : Type} (x : Res α) (f : α → Res β) :
    (x.bind f).out = match x.out with
      | .ok a => (f a).out
      | .err => .err
      | .panic s => .panic s := by
  unfold Res.bind; cases h : x.out <;> simp

theorem Res.bind_alloc {α β : Type} (x : Res α) (f : α → Res β) :
    (x.bind f).alloc = x.alloc + match x.out with
      | .ok a => (f a).alloc
      | _ => 0 := by
  unfold Res.bind; cases h : x.out <;> simp

theorem Res.bind_ok {α β : Type} {x : Res α} {f : α → Res β} {b : β} :
    (x.bind f).out = .ok b ↔ ∃ a, x.out = .ok a ∧ (f a).out = .ok b := by
  rw [Res.bind_out]; cases h : x.out <;> simp

theorem Res.bind_panic {α β : Type} {x : Res α} {f : α → Res β} {s : String} :
    (x.bind f).out = .panic s ↔ x.out = .panic s ∨ ∃ a, x.out = .ok a ∧ (f a).out = .panic s := by
  rw [Res.bind_out]; cases h : x.out <;> simp

theorem Res.bind_of_ok {α β : Type} {x : Res α} {f : α → Res β} {a : α} (h : x.out = .ok a) :
    (x.bind f).out = (f a).out := by
  rw [Res.bind_out, h]

@[simp] theorem Res.pure_out {α : Type} (a : α) : (Res.pure a).out = .ok a := rfl
@[simp] theorem Res.fail_out {α : Type} : (Res.fail : Res α).out = .err := rfl
@[simp] theorem Res.site_out {α : Type} (s : String) : (Res.site s : Res α).out = .panic s := rfl
@[simp] theorem Res.reserve_out (a : Nat) : (Res.reserve a).out = .ok () := rfl
@[simp] theorem Res.pure_alloc {α : Type} (a : α) : (Res.pure a).alloc = 0 := rfl
@[simp] theorem Res.fail_alloc {α : Type} : (Res.fail : Res α).alloc = 0 := rfl
@[simp] theorem Res.site_alloc {α : Type} (s : String) : (Res.site s : Res α).alloc = 0 := rfl
@[simp] theorem Res.reserve_alloc (a : Nat) : (Res.reserve a).alloc = a := rfl

@[simp] theorem Res.pure_bind {α β : Type} (a : α) (f : α → Res β) : (Res.pure a).bind f = f a :=
  Res.ext rfl (Nat.zero_add _)

@[simp] theorem Res.fail_bind {α β : Type} (f : α → Res β) : (Res.fail : Res α).bind f = .fail := rfl

theorem Res.ite_ok {α : Type} {c : Prop} [Decidable c] {x y : Res α} {a : α}
    (h : (if c then x else y).out = .ok a) : c ∧ x.out = .ok a ∨ ¬ c ∧ y.out = .ok a := by
  by_cases hc : c
  · rw [if_pos hc] at h; exact Or.inl ⟨hc, h⟩
  · rw [if_neg hc] at h; exact Or.inr ⟨hc, h⟩

theorem lenGe_iff (b : Bytes) (n : Nat) : ClvmScan.lenGe b n = true ↔ n ≤ b.length := by
  induction b generalizing n with
  | nil => cases n <;> simp [ClvmScan.lenGe]
  | cons x t ih => cases n with
    | zero => simp [ClvmScan.lenGe]
    | succ n => simp [ClvmScan.lenGe, ih]

theorem isBytes_nil : isBytes [] := by unfold isBytes; simp

/-! ### read_bytes: closed forms (the `unwrap` / `[0]` branches are unreachable) -/

theorem readBytes_eq (n : Nat) (b : Bytes) :
    readBytes n b = if n ≤ b.length then .ok (b.take n, b.drop n) else .err := by
  unfold readBytes; simp only [lenGe_iff]

theorem readFixed_eq (s : String) (n : Nat) (b : Bytes) :
    readFixed s n b = if n ≤ b.length then .pure (b.take n, b.drop n) else .fail := by
  unfold readFixed; rw [readBytes_eq]
  by_cases h : n ≤ b.length
  · simp only [if_pos h, List.length_take_of_le h, if_true]
  · simp only [if_neg h]

theorem readFixed_ok {s : String} {n : Nat} {b c r : Bytes} :
    (readFixed s n b).out = .ok (c, r) ↔ b = c ++ r ∧ c.length = n := by
  rw [readFixed_eq]
  constructor
  · intro h
    split at h
    · cases h; exact ⟨(List.take_append_drop n b).symm, List.length_take_of_le ‹_›⟩
    · cases h
  · rintro ⟨rfl, rfl⟩
    simp

theorem readByte_nil (s : String) : readByte s [] = .fail := rfl

theorem readByte_cons (s : String) (x : Nat) (r : Bytes) : readByte s (x :: r) = .pure (x, r) := by
  simp [readByte, readBytes_eq]

theorem readUint_eq (n : Nat) (b : Bytes) :
    readUint n b = if n ≤ b.length then .pure (beVal (b.take n), b.drop n) else .fail := by
  unfold readUint; rw [readFixed_eq]; split <;> simp

theorem readUint_ok {n : Nat} {b r : Bytes} {x : Nat} :
    (readUint n b).out = .ok (x, r) ↔ ∃ c, b = c ++ r ∧ c.length = n ∧ x = beVal c := by
  unfold readUint
  rw [Res.bind_ok]
  constructor
  · rintro ⟨⟨c, r'⟩, h1, h2⟩
    cases h2
    obtain ⟨hb, hl⟩ := readFixed_ok.mp h1
    exact ⟨c, hb, hl, rfl⟩
  · rintro ⟨c, hb, hl, rfl⟩
    exact ⟨(c, r), readFixed_ok.mpr ⟨hb, hl⟩, rfl⟩

theorem readUint_be {n x : Nat} (hx : x < 256 ^ n) (r : Bytes) :
    (readUint n (be n x ++ r)).out = .ok (x, r) :=
  readUint_ok.mpr ⟨be n x, rfl, be_length n x, (beVal_be n x hx).symm⟩

theorem readUint_one_cons (x : Nat) (r : Bytes) : readUint 1 (x :: r) = .pure (x, r) := by
  simp [readUint_eq, beVal]

theorem readUint_one_nil : readUint 1 [] = .fail := rfl

end ChiaModel.Streamable
