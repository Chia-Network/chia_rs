import ChiaModel.Lemmas.StreamableLeaf
/-
The combinators (Option, the Option behind a caller's flag, array, Vec, tuple, packed Option pair): each of `Codec`,
`Total`, `Plain`, `Agree` passes from the element decoders to the combined decoder.  The step of `repeatN` and of a
field list is the same, `CodecL.cons`; a Vec is a count, the reservation, then an array.
-/
namespace ChiaModel.Streamable
open ChiaModel

theorem decOption_cons (f : Dec) (k : Nat) (r : Bytes) :
    decOption f (k :: r) = if k = 0 then .pure (.none, r)
      else if k = 1 then (f r).bind fun vr => .pure (.some vr.1, vr.2) else .fail := by
  rw [decOption, readByte_cons, Res.pure_bind]

theorem wfOption_iff {w : Wf} {v : V} : wfOption w v = true ↔ v = .none ∨ ∃ x, v = .some x ∧ w x = true := by
  cases v <;> simp [wfOption]

theorem codec_option {f : Dec} {e : Enc} {w : Wf} (h : Codec f e w) :
    Codec (decOption f) (encOption e) (wfOption w) where
  rt := by
    intro v hv
    rcases wfOption_iff.mp hv with rfl | ⟨x, rfl, hx⟩
    · exact ⟨[0], rfl, fun r => congrArg Res.out (decOption_cons f 0 r)⟩
    · obtain ⟨bs, he, hd⟩ := h.rt x hx
      refine ⟨1 :: bs, by simp [encOption, he], fun r => ?_⟩
      rw [List.cons_append, decOption_cons, if_neg (by decide), if_pos rfl, Res.bind_of_ok (hd r)]
      rfl
  cn := by
    intro b v r hb hd
    cases b with
    | nil => cases hd
    | cons k b' =>
      rw [decOption_cons] at hd
      rcases Res.ite_ok hd with ⟨rfl, hd⟩ | ⟨_, hd⟩
      · cases hd; exact ⟨[0], rfl, rfl, rfl⟩
      rcases Res.ite_ok hd with ⟨rfl, hd⟩ | ⟨_, hd⟩
      · obtain ⟨x, r1, p, he, rfl, hw, _, hy⟩ := h.cn_bind (isBytes_cons.mp hb).2 hd
        cases hy
        exact ⟨1 :: p, by simp [encOption, he], rfl, hw⟩
      · cases hd

theorem total_option {f : Dec} {m : Nat} (h : Total f m) : Total (decOption f) 1 := fun b =>
  .bind (plain_readByte _ b).total
    (fun _ r => .ite (.here _ _) (.ite (.bind (h r) (fun _ _ => .here _ _) (Nat.zero_le _)) .fail))
    (Nat.le_add_right _ _)

theorem plain_option {f : Dec} {m : Nat} (h : Plain f m) : Plain (decOption f) 1 := fun b =>
  .bind (plain_readByte _ b)
    (fun _ r => .ite (.here _ _) (.ite (.bind (h r) (fun _ _ => .here _ _) (Nat.zero_le _)) .fail))
    (Nat.le_add_right _ _)

theorem agree_option {f g : Dec} (h : Agree f g) : Agree (decOption f) (decOption g) :=
  agree_of fun _ => .bind (.refl _) fun _ => .ite (.refl _) (.ite (.bind (h _) fun _ => .refl _) (.refl _))

theorem total_present {p : Bool} {f : Dec} {m : Nat} (h : Total f m) : Total (decPresent p f) 0 :=
  fun b => .ite (.bind (h b) (fun _ _ => .here _ _) (Nat.zero_le _)) (.here _ _)

theorem plain_present {p : Bool} {f : Dec} {m : Nat} (h : Plain f m) : Plain (decPresent p f) 0 :=
  fun b => .ite (.bind (h b) (fun _ _ => .here _ _) (Nat.zero_le _)) (.here _ _)

theorem agree_present {p : Bool} {f g : Dec} (h : Agree f g) : Agree (decPresent p f) (decPresent p g) :=
  agree_of fun _ => .ite (.bind (h _) fun _ => .refl _) (.refl _)

structure CodecL (d : Bytes → Res (List V × Bytes)) (e : List V → Option Bytes) (w : List V → Bool) : Prop where
  rt : ∀ vs, w vs = true → ∃ bs, e vs = some bs ∧ ∀ r, (d (bs ++ r)).out = .ok (vs, r)
  cn : ∀ b vs r, isBytes b → (d b).out = .ok (vs, r) → ∃ p, e vs = some p ∧ p ++ r = b ∧ w vs = true

theorem CodecL.nil {d : Bytes → Res (List V × Bytes)} {e : List V → Option Bytes} {w : List V → Bool}
    (hd : ∀ b, d b = .pure ([], b)) (he : e [] = some []) (hw : ∀ l, w l = true ↔ l = []) : CodecL d e w where
  rt := by
    intro vs hv
    cases (hw vs).mp hv
    exact ⟨[], he, fun r => congrArg Res.out (hd r)⟩
  cn := by
    intro b vs r _ h
    rw [hd] at h
    cases h
    exact ⟨[], he, rfl, (hw []).mpr rfl⟩

/-- first `f`, then `g` on the rest: the step of `repeatN` and of `decodeL` -/
theorem CodecL.cons {f : Dec} {e : Enc} {w : Wf} {g : Bytes → Res (List V × Bytes)} {eL : List V → Option Bytes}
    {wL : List V → Bool} (h1 : Codec f e w) (h2 : CodecL g eL wL)
    {d : Bytes → Res (List V × Bytes)} {e' : List V → Option Bytes} {w' : List V → Bool}
    (hd : ∀ b, d b = (f b).bind fun vr => (g vr.2).bind fun lr => .pure (vr.1 :: lr.1, lr.2))
    (he : ∀ v vs, e' (v :: vs) = optAppend (e v) (eL vs)) (hw : ∀ v vs, w' (v :: vs) = (w v && wL vs))
    (hn : w' [] = false) : CodecL d e' w' where
  rt := by
    intro vs hv
    cases vs with
    | nil => rw [hn] at hv; cases hv
    | cons v vs =>
      rw [hw, Bool.and_eq_true] at hv
      obtain ⟨b1, he1, hd1⟩ := h1.rt v hv.1
      obtain ⟨b2, he2, hd2⟩ := h2.rt vs hv.2
      refine ⟨b1 ++ b2, by rw [he, he1, he2]; rfl, fun r => ?_⟩
      rw [hd, List.append_assoc, Res.bind_of_ok (hd1 _), Res.bind_of_ok (hd2 r)]
      rfl
  cn := by
    intro b vs r hb h
    rw [hd] at h
    obtain ⟨v, r1, p1, he1, rfl, hw1, hr1, h⟩ := h1.cn_bind hb h
    obtain ⟨⟨l, r2⟩, hl, h⟩ := Res.bind_ok.mp h
    cases h
    obtain ⟨p2, he2, rfl, hw2⟩ := h2.cn r1 l r2 hr1 hl
    exact ⟨p1 ++ p2, by rw [he, he1, he2]; rfl, List.append_assoc _ _ _, by rw [hw, hw1, hw2]; rfl⟩

theorem codecL_repeat {f : Dec} {e : Enc} {w : Wf} (h : Codec f e w) :
    ∀ n, CodecL (repeatN f n) (encAll e) (fun l => decide (l.length = n) && l.all w)
  | 0 => .nil (fun _ => rfl) rfl (fun l => by cases l <;> simp)
  | n + 1 => .cons h (codecL_repeat h n) (fun _ => rfl) (fun _ _ => rfl)
      (fun v vs => by simp [Bool.and_left_comm]) rfl

theorem total_repeat {f : Dec} {m : Nat} (h : Total f m) : ∀ n, Total (repeatN f n) (n * m)
  | 0 => fun b => (Res.Total.here _ b).mono (Nat.le_of_eq (Nat.zero_mul m))
  | n + 1 => fun b => .bind (h b) (fun _ r => .bind (total_repeat h n r) (fun _ _ => .here _ _) (Nat.le_add_right _ _))
      (Nat.le_of_eq (by rw [Nat.succ_mul, Nat.add_comm]))

theorem repeatN_length {f : Dec} : ∀ n b vs r, (repeatN f n b).out = .ok (vs, r) → vs.length = n
  | 0, _, _, _, h => by cases h; rfl
  | n + 1, _, vs, r, h => by
    obtain ⟨vr, _, h⟩ := Res.bind_ok.mp h
    obtain ⟨lr, hl, h⟩ := Res.bind_ok.mp h
    cases h
    exact congrArg (· + 1) (repeatN_length n _ _ _ hl)

theorem agree_repeat {f g : Dec} (h : Agree f g) : ∀ n b, (repeatN f n b).Agrees (repeatN g n b)
  | 0, _ => .refl _
  | n + 1, b => .bind (h b) fun vr => .bind (agree_repeat h n vr.2) fun _ => .refl _

theorem wfArray_iff {n : Nat} {w : Wf} {v : V} :
    wfArray n w v = true ↔ ∃ l, v = .list l ∧ l.length = n ∧ l.all w = true := by
  cases v <;> simp [wfArray]

theorem codec_array (n : Nat) {f : Dec} {e : Enc} {w : Wf} (h : Codec f e w) :
    Codec (decArray n f) (encArray n e) (wfArray n w) where
  rt := by
    intro v hv
    obtain ⟨l, rfl, hlen, hall⟩ := wfArray_iff.mp hv
    obtain ⟨bs, he, hd⟩ := (codecL_repeat h n).rt l (by simp [hlen, hall])
    refine ⟨bs, by simp [encArray, hlen, he], fun r => ?_⟩
    rw [decArray, Res.bind_of_ok (hd r)]
    rfl
  cn := by
    intro b v r hb hd
    obtain ⟨⟨vs, r'⟩, hrep, hv⟩ := Res.bind_ok.mp hd
    cases hv
    obtain ⟨p, he, hp, hw⟩ := (codecL_repeat h n).cn b vs r' hb hrep
    simp only [Bool.and_eq_true, decide_eq_true_eq] at hw
    exact ⟨p, by simp [encArray, hw.1, he], hp, wfArray_iff.mpr ⟨vs, rfl, hw⟩⟩

theorem total_array (n : Nat) {f : Dec} {m : Nat} (h : Total f m) : Total (decArray n f) (n * m) :=
  fun b => .bind (total_repeat h n b) (fun _ _ => .here _ _) (Nat.le_add_right _ _)

theorem agree_array (n : Nat) {f g : Dec} (h : Agree f g) : Agree (decArray n f) (decArray n g) :=
  agree_of fun b => .bind (agree_repeat h n b) fun _ => .refl _

/-! ### Vec: a `u32` count, the reservation, then an array of that many elements -/

theorem wfVec_iff {w : Wf} {v : V} :
    wfVec w v = true ↔ ∃ l, v = .list l ∧ l.length < u32Max ∧ l.all w = true := by
  cases v <;> simp [wfVec]

theorem codec_vec (sz : Nat) {f : Dec} {e : Enc} {w : Wf} (h : Codec f e w) :
    Codec (decVec sz f) (encVec e) (wfVec w) where
  rt := by
    intro v hv
    obtain ⟨l, rfl, hlen, hall⟩ := wfVec_iff.mp hv
    obtain ⟨bs, he, hd⟩ := (codec_array l.length h).rt (.list l) (wfArray_iff.mpr ⟨l, rfl, rfl, hall⟩)
    refine ⟨be 4 l.length ++ bs, ?_, fun r => ?_⟩
    · simp only [encArray, if_true] at he
      simp [encVec, hlen, he]
    · rw [List.append_assoc, decVec, Res.bind_of_ok (readUint_be (u32Max_eq ▸ hlen) _),
        Res.bind_of_ok (Res.reserve_out _)]
      exact hd r
  cn := by
    intro b v r hb hd
    obtain ⟨⟨n, r1⟩, h1, h2⟩ := Res.bind_ok.mp hd
    obtain ⟨c, rfl, hc, rfl⟩ := readUint_ok.mp h1
    obtain ⟨_, _, h3⟩ := Res.bind_ok.mp h2
    obtain ⟨p, he, rfl, hw⟩ := (codec_array (beVal c) h).cn r1 v r (isBytes_append.mp hb).2 h3
    obtain ⟨vs, rfl, hlen, hall⟩ := wfArray_iff.mp hw
    have hcb : isBytes c := (isBytes_append.mp hb).1
    have hlt : vs.length < u32Max := by
      rw [hlen, u32Max_eq, ← hc]; exact beVal_lt c hcb
    refine ⟨c ++ p, ?_, List.append_assoc _ _ _, wfVec_iff.mpr ⟨vs, rfl, hlt, hall⟩⟩
    simp only [encArray, hlen, if_true] at he
    simp only [encVec, hlt, if_true, he, Option.map_some]
    rw [hlen, be_beVal c hcb hc]

theorem total_vec (sz : Nat) {f : Dec} {m : Nat} (h : Total f m) : Total (decVec sz f) 4 := fun b =>
  .bind (plain_readUint 4 b).total (fun n r => .reserve _ ((total_array n h r).mono (Nat.zero_le _)))
    (Nat.le_add_right _ _)

theorem agree_vec (sz : Nat) {f g : Dec} (h : Agree f g) : Agree (decVec sz f) (decVec sz g) :=
  agree_of fun _ => .bind (.refl _) fun lr => .bind (.refl _) fun _ => agree_array lr.1 h lr.2

theorem decVec_elements {sz : Nat} {f : Dec} {m : Nat} (h : Total f m) {b r : Bytes} {v : V}
    (hd : (decVec sz f b).out = .ok (v, r)) : ∃ vs, v = .list vs ∧ r.length + 4 + vs.length * m ≤ b.length := by
  obtain ⟨⟨n, r1⟩, h1, h2⟩ := Res.bind_ok.mp hd
  obtain ⟨c, rfl, hc, rfl⟩ := readUint_ok.mp h1
  obtain ⟨_, _, h3⟩ := Res.bind_ok.mp h2
  obtain ⟨⟨vs, r2⟩, hrep, hv⟩ := Res.bind_ok.mp h3
  cases hv
  have hl := (total_repeat h _ r1).len hrep
  rw [← repeatN_length _ _ _ _ hrep] at hl
  refine ⟨vs, rfl, ?_⟩
  show r2.length + 4 + vs.length * m ≤ (c ++ r1).length
  rw [List.length_append, hc]
  omega

theorem codec_tup {d : Bytes → Res (List V × Bytes)} {e : List V → Option Bytes} {w : List V → Bool}
    (h : CodecL d e w) : Codec (decTup d) (encTup e) (wfTup w) where
  rt := by
    intro v hv
    cases v <;> simp [wfTup] at hv
    rename_i l
    obtain ⟨bs, he, hd⟩ := h.rt l hv
    refine ⟨bs, he, fun r => ?_⟩
    rw [decTup, Res.bind_of_ok (hd r)]
    rfl
  cn := by
    intro b v r hb hd
    obtain ⟨⟨vs, r'⟩, hd', hv⟩ := Res.bind_ok.mp hd
    cases hv
    exact h.cn b vs r' hb hd'

theorem total_tup {d : Bytes → Res (List V × Bytes)} {m : Nat} (h : Total d m) : Total (decTup d) m :=
  fun b => .bind (h b) (fun _ _ => .here _ _) (Nat.le_add_right _ _)

theorem decOptPair_cons (f g : Dec) (k : Nat) (r : Bytes) :
    decOptPair f g (k :: r) =
      if k = 0 then .pure (.tup [.none, .none], r)
      else if k = 1 then (f r).bind fun vr => .pure (.tup [.some vr.1, .none], vr.2)
      else if k = 2 then (g r).bind fun wr => .pure (.tup [.none, .some wr.1], wr.2)
      else if k = 3 then (f r).bind fun vr => (g vr.2).bind fun wr => .pure (.tup [.some vr.1, .some wr.1], wr.2)
      else .fail := by
  rw [decOptPair, readUint_one_cons, Res.pure_bind]

theorem wfOptPair_iff {w x : Wf} {v : V} :
    wfOptPair w x v = true ↔ ∃ a b, v = .tup [a, b] ∧ wfOption w a = true ∧ wfOption x b = true := by
  constructor
  · intro h
    unfold wfOptPair at h
    split at h
    · exact ⟨_, _, rfl, Bool.and_eq_true_iff.mp h⟩
    · cases h
  · rintro ⟨a, b, rfl, h1, h2⟩
    simp [wfOptPair, h1, h2]

theorem codec_optpair {f g : Dec} {e1 e2 : Enc} {w1 w2 : Wf} (h1 : Codec f e1 w1) (h2 : Codec g e2 w2) :
    Codec (decOptPair f g) (encOptPair e1 e2) (wfOptPair w1 w2) where
  rt := by
    intro v hv
    obtain ⟨a, b, rfl, ha, hb⟩ := wfOptPair_iff.mp hv
    rcases wfOption_iff.mp ha with rfl | ⟨x, rfl, hx⟩ <;> rcases wfOption_iff.mp hb with rfl | ⟨y, rfl, hy⟩
    · exact ⟨[0], rfl, fun r => congrArg Res.out (decOptPair_cons f g 0 r)⟩
    · obtain ⟨bs, he, hd⟩ := h2.rt y hy
      refine ⟨2 :: bs, by simp [encOptPair, he], fun r => ?_⟩
      rw [List.cons_append, decOptPair_cons, if_neg (by decide), if_neg (by decide), if_pos rfl,
        Res.bind_of_ok (hd r)]
      rfl
    · obtain ⟨bs, he, hd⟩ := h1.rt x hx
      refine ⟨1 :: bs, by simp [encOptPair, he], fun r => ?_⟩
      rw [List.cons_append, decOptPair_cons, if_neg (by decide), if_pos rfl, Res.bind_of_ok (hd r)]
      rfl
    · obtain ⟨bs1, he1, hd1⟩ := h1.rt x hx
      obtain ⟨bs2, he2, hd2⟩ := h2.rt y hy
      refine ⟨3 :: (bs1 ++ bs2), by simp [encOptPair, he1, he2], fun r => ?_⟩
      rw [List.cons_append, List.append_assoc, decOptPair_cons, if_neg (by decide), if_neg (by decide),
        if_neg (by decide), if_pos rfl, Res.bind_of_ok (hd1 _), Res.bind_of_ok (hd2 r)]
      rfl
  cn := by
    intro b v r hb hd
    cases b with
    | nil => cases hd
    | cons k b' =>
      have hb' : isBytes b' := (isBytes_cons.mp hb).2
      rw [decOptPair_cons] at hd
      rcases Res.ite_ok hd with ⟨rfl, hd⟩ | ⟨_, hd⟩
      · cases hd; exact ⟨[0], rfl, rfl, rfl⟩
      rcases Res.ite_ok hd with ⟨rfl, hd⟩ | ⟨_, hd⟩
      · obtain ⟨x, r1, p, he, rfl, hw, _, hy⟩ := h1.cn_bind hb' hd
        cases hy
        exact ⟨1 :: p, by simp [encOptPair, he], rfl, by simp [wfOptPair, wfOption, hw]⟩
      rcases Res.ite_ok hd with ⟨rfl, hd⟩ | ⟨_, hd⟩
      · obtain ⟨y, r1, p, he, rfl, hw, _, hy⟩ := h2.cn_bind hb' hd
        cases hy
        exact ⟨2 :: p, by simp [encOptPair, he], rfl, by simp [wfOptPair, wfOption, hw]⟩
      rcases Res.ite_ok hd with ⟨rfl, hd⟩ | ⟨_, hd⟩
      · obtain ⟨x, r1, p1, he1, rfl, hw1, hr1, hd⟩ := h1.cn_bind hb' hd
        obtain ⟨y, r2, p2, he2, rfl, hw2, _, hy⟩ := h2.cn_bind hr1 hd
        cases hy
        exact ⟨3 :: (p1 ++ p2), by simp [encOptPair, he1, he2], by simp,
          by simp [wfOptPair, wfOption, hw1, hw2]⟩
      · cases hd

theorem total_optpair {f g : Dec} {m m' : Nat} (h1 : Total f m) (h2 : Total g m') : Total (decOptPair f g) 1 :=
  fun b => .bind (plain_readUint 1 b).total
    (fun _ r => .ite (.here _ _) (.ite (.bind (h1 r) (fun _ _ => .here _ _) (Nat.zero_le _))
      (.ite (.bind (h2 r) (fun _ _ => .here _ _) (Nat.zero_le _))
        (.ite (.bind (h1 r) (fun _ r1 => .bind (h2 r1) (fun _ _ => .here _ _) (Nat.zero_le _)) (Nat.zero_le _))
          .fail))))
    (Nat.le_add_right _ _)

theorem agree_optpair {f g f' g' : Dec} (h1 : Agree f f') (h2 : Agree g g') :
    Agree (decOptPair f g) (decOptPair f' g') :=
  agree_of fun _ => .bind (.refl _) fun _ =>
    .ite (.refl _) (.ite (.bind (h1 _) fun _ => .refl _) (.ite (.bind (h2 _) fun _ => .refl _)
      (.ite (.bind (h1 _) fun _ => .bind (h2 _) fun _ => .refl _) (.refl _))))

end ChiaModel.Streamable
