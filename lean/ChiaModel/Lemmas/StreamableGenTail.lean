import ChiaModel.Lemmas.StreamableComb
/-!
The generator tail of `FullBlock` / `UnfinishedBlock`: one prefix byte `version << 1 | present`, then an Option
body whose own prefix byte is that `present` bit.
-/
namespace ChiaModel.Streamable
open ChiaModel

theorem present_eq_option (f : Dec) (k : Nat) (b : Bytes) :
    decPresent (k % 2 != 0) f b = decOption f (k % 2 :: b) := by
  rw [decOption_cons]
  have : k % 2 = 0 ∨ k % 2 = 1 := by omega
  rcases this with h | h <;> rw [h] <;> rfl

theorem encOption_shape {e : Enc} {a : V} {bs : Bytes} (h : encOption e a = some bs) :
    ∃ k rest, bs = k :: rest ∧ k < 2 := by
  cases a <;> simp [encOption] at h
  · exact ⟨0, [], h.symm, by decide⟩
  · obtain ⟨rest, _, rfl⟩ := h
    exact ⟨1, rest, rfl, by decide⟩

theorem decGenTail_cons (O : Oracles) (tr : Bool) (k : Nat) (r : Bytes) :
    decGenTail O tr (k :: r) =
      if k / 2 = 0 then
        (decPresent (k % 2 != 0) (decProgram O tr) r).bind fun gr =>
          (decVec 4 (decUint 4) gr.2).bind fun lr => .pure (.tup [gr.1, lr.1, .none, .n 0], lr.2)
      else if k / 2 = 1 then
        (decPresent (k % 2 != 0) decBytes r).bind fun br => .pure (.tup [.none, .list [], br.1, .n 1], br.2)
      else .fail := by
  rw [decGenTail, readUint_one_cons, Res.pure_bind]

theorem wfGenTail_iff {O : Oracles} {tr : Bool} {v : V} :
    wfGenTail O tr v = true ↔ ∃ gen refs buf version, v = .tup [gen, refs, buf, .n version] ∧
      ((version = 0 ∧ wfOption (wfProgram O tr) gen = true ∧ wfVec (wfUint 4) refs = true ∧ buf = .none) ∨
       (version = 1 ∧ gen = .none ∧ refs = .list [] ∧ wfOption wfBytes buf = true)) := by
  constructor
  · intro h
    unfold wfGenTail at h
    split at h
    · rename_i gen refs buf version
      refine ⟨gen, refs, buf, version, rfl, ?_⟩
      split at h
      · simp only [Bool.and_eq_true] at h
        refine Or.inl ⟨‹_›, h.1.1, h.1.2, ?_⟩
        cases buf <;> first | rfl | exact absurd h.2 Bool.false_ne_true
      split at h
      · simp only [Bool.and_eq_true] at h
        refine Or.inr ⟨‹_›, ?_, ?_, h.2⟩
        · cases gen <;> first | rfl | exact absurd h.1.1 Bool.false_ne_true
        · obtain ⟨⟨_, h2⟩, _⟩ := h
          cases refs <;> first | exact absurd h2 Bool.false_ne_true | skip
          rename_i l
          cases l <;> first | rfl | exact absurd h2 Bool.false_ne_true
      · cases h
    · cases h
  · rintro ⟨gen, refs, buf, version, rfl, h⟩
    rcases h with ⟨rfl, h1, h2, rfl⟩ | ⟨rfl, rfl, rfl, h3⟩
    · simp [wfGenTail, h1, h2]
    · simp [wfGenTail, h3]

theorem encGenTail_v1 {buf : V} {t : Nat} {q : Bytes} (h : encOption encBytes buf = some (t :: q)) :
    encGenTail (.tup [.none, .list [], buf, .n 1]) = some ((t + 2) :: q) := by
  cases buf <;> simp [encOption] at h
  · obtain ⟨rfl, rfl⟩ := h; rfl
  · rename_i x
    obtain ⟨hx, rfl⟩ := h
    cases x <;> simp [encBytes] at hx
    obtain ⟨_, rfl⟩ := hx
    simp [encGenTail]

theorem prefix_v0 {k : Nat} (h : k / 2 = 0) : k % 2 = k := by omega

theorem prefix_v1 {k : Nat} (h : k / 2 = 1) : k % 2 + 2 = k := by omega

theorem tag_v1 {t : Nat} (ht : t < 2) : (t + 2) / 2 = 1 ∧ (t + 2) % 2 = t := by omega

theorem decGenTail_v0 (O : Oracles) (tr : Bool) {k : Nat} (h : k / 2 = 0) (r : Bytes) :
    decGenTail O tr (k :: r) = (decOption (decProgram O tr) (k :: r)).bind fun gr =>
      (decVec 4 (decUint 4) gr.2).bind fun lr => .pure (.tup [gr.1, lr.1, .none, .n 0], lr.2) := by
  rw [decGenTail_cons, if_pos h, present_eq_option, prefix_v0 h]

theorem decGenTail_v1 (O : Oracles) (tr : Bool) {k : Nat} (h : k / 2 = 1) (r : Bytes) :
    decGenTail O tr (k :: r) =
      (decOption decBytes (k % 2 :: r)).bind fun br => .pure (.tup [.none, .list [], br.1, .n 1], br.2) := by
  rw [decGenTail_cons, if_neg (by rw [h]; decide), if_pos h, present_eq_option]

theorem codec_gentail (O : Oracles) (hO : OracleContract O) (tr : Bool) :
    Codec (decGenTail O tr) encGenTail (wfGenTail O tr) where
  rt := by
    intro v hv
    obtain ⟨gen, refs, buf, version, rfl, h⟩ := wfGenTail_iff.mp hv
    rcases h with ⟨rfl, hg, hr, rfl⟩ | ⟨rfl, rfl, rfl, hb⟩
    · obtain ⟨bs1, he1, hd1⟩ := (codec_option (codec_program O hO tr)).rt gen hg
      obtain ⟨bs2, he2, hd2⟩ := (codec_vec 4 (codec_uint 4)).rt refs hr
      obtain ⟨t, q, rfl, ht⟩ := encOption_shape he1
      refine ⟨t :: q ++ bs2, by simp [encGenTail, he1, he2], fun r => ?_⟩
      rw [List.append_assoc, List.cons_append, decGenTail_v0 O tr (Nat.div_eq_of_lt ht), ← List.cons_append,
        Res.bind_of_ok (hd1 _), Res.bind_of_ok (hd2 r)]
      rfl
    · obtain ⟨bs1, he1, hd1⟩ := (codec_option codec_bytes).rt buf hb
      obtain ⟨t, q, rfl, ht⟩ := encOption_shape he1
      refine ⟨(t + 2) :: q, encGenTail_v1 he1, fun r => ?_⟩
      rw [List.cons_append, decGenTail_v1 O tr (tag_v1 ht).1, (tag_v1 ht).2, ← List.cons_append,
        Res.bind_of_ok (hd1 r)]
      rfl
  cn := by
    intro b v r hb hd
    cases b with
    | nil => cases hd
    | cons k b' =>
      rw [decGenTail_cons] at hd
      rcases Res.ite_ok hd with ⟨h0, hd⟩ | ⟨_, hd⟩
      · rw [present_eq_option, prefix_v0 h0] at hd
        obtain ⟨g, r1, p1, he1, hp1, hw1, hr1, hd⟩ := (codec_option (codec_program O hO tr)).cn_bind hb hd
        obtain ⟨l, r2, p2, he2, rfl, hw2, _, hy⟩ := (codec_vec 4 (codec_uint 4)).cn_bind hr1 hd
        cases hy
        exact ⟨p1 ++ p2, by simp [encGenTail, he1, he2], by rw [List.append_assoc, hp1],
          wfGenTail_iff.mpr ⟨g, l, .none, 0, rfl, Or.inl ⟨rfl, hw1, hw2, rfl⟩⟩⟩
      rcases Res.ite_ok hd with ⟨h1, hd⟩ | ⟨_, hd⟩
      · rw [present_eq_option] at hd
        have hb' : isBytes (k % 2 :: b') :=
          isBytes_cons.mpr ⟨Nat.lt_trans (Nat.mod_lt k (by decide)) (by decide), (isBytes_cons.mp hb).2⟩
        obtain ⟨bf, r1, p, he, hp, hw, _, hy⟩ := (codec_option codec_bytes).cn_bind hb' hd
        cases hy
        obtain ⟨t, q, rfl, _⟩ := encOption_shape he
        injection hp with ht hq
        exact ⟨(t + 2) :: q, encGenTail_v1 he, by rw [ht, prefix_v1 h1, ← hq]; rfl,
          wfGenTail_iff.mpr ⟨.none, .list [], bf, 1, rfl, Or.inr ⟨rfl, rfl, rfl, hw⟩⟩⟩
      · cases hd

theorem total_gentail (O : Oracles) (tr : Bool) : Total (decGenTail O tr) 1 := fun b =>
  .bind (plain_readUint 1 b).total
    (fun _ r => .ite
      (.bind (total_present (plain_program O tr fun _ _ _ => Nat.zero_le _).total r)
        (fun _ r1 => .bind (total_vec 4 (plain_uint 4).total r1) (fun _ _ => .here _ _) (Nat.zero_le _))
        (Nat.le_refl 0))
      (.ite (.bind (total_present plain_bytes.total r) (fun _ _ => .here _ _) (Nat.zero_le _)) .fail))
    (Nat.le_add_right _ _)

theorem agree_gentail (O : Oracles) (hO : OracleContract O) : Agree (decGenTail O false) (decGenTail O true) :=
  agree_of fun _ => .bind (.refl _) fun _ =>
    .ite (.bind (agree_present (agree_program O hO) _) fun _ => .refl _) (.refl _)

end ChiaModel.Streamable
