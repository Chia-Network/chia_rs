import ChiaModel.Lemmas.StreamableMain
/-!
`update_digest` feeds the hasher exactly the prescribed pre-image (`encodeForHash`), and panics exactly when
that pre-image does not exist (version-2 proof of space without a quality string).
-/
namespace ChiaModel.Streamable
open ChiaModel

def HashRel (d : Outcome (List Bytes)) (e : Option Bytes) : Prop :=
  match d with
  | .ok cs => e = some cs.flatten
  | .panic s => e = none ∧ s = sitePosQuality
  | .err => False

def HashOK (dg : Dig) (eh : Enc) (w : Wf) : Prop := ∀ v, w v = true → HashRel (dg v) (eh v)

theorem Outcome.bind_assoc {α β γ : Type} (x : Outcome α) (f : α → Outcome β) (g : β → Outcome γ) :
    (x.bind f).bind g = x.bind fun a => (f a).bind g := by
  cases x <;> rfl

theorem hashRel_some {d : Outcome (List Bytes)} {e : Option Bytes} (h : HashRel d e) {b : Bytes} (hb : e = some b) :
    ∃ cs, d = .ok cs ∧ cs.flatten = b := by
  cases d with
  | err => exact h.elim
  | panic s => rw [h.1] at hb; cases hb
  | ok cs => exact ⟨cs, rfl, Option.some.inj ((h : e = _).symm.trans hb)⟩

theorem HashRel.chunk {d : Outcome (List Bytes)} {e : Option Bytes} (h : HashRel d e) (p : Bytes) :
    HashRel (d.bind fun cs => .ok (p :: cs)) (e.map (p ++ ·)) := by
  cases d with
  | ok cs => rw [show e = some cs.flatten from h]; rfl
  | err => exact h.elim
  | panic s => rw [show e = none from h.1]; exact ⟨rfl, h.2⟩

theorem hashRel_seq {d1 d2 : Outcome (List Bytes)} {e1 e2 : Option Bytes}
    (h1 : HashRel d1 e1) (h2 : HashRel d2 e2) :
    HashRel (d1.bind fun a => d2.bind fun b => .ok (a ++ b))
      (optAppend e1 e2) := by
  cases d1 with
  | ok cs =>
    rw [show e1 = some cs.flatten from h1]
    cases d2 with
    | ok cs2 => rw [show e2 = some cs2.flatten from h2]; exact congrArg some List.flatten_append.symm
    | err => exact h2.elim
    | panic s => rw [show e2 = none from h2.1]; exact ⟨rfl, h2.2⟩
  | err => exact h1.elim
  | panic s => rw [show e1 = none from h1.1]; exact ⟨rfl, h1.2⟩

theorem hash_ofEnc {e : Enc} {w : Wf} (h : ∀ v, w v = true → ∃ b, e v = some b) : HashOK (digOfEnc e) e w := by
  intro v hv
  obtain ⟨b, hb⟩ := h v hv
  simp [digOfEnc, hb, HashRel]

theorem hash_ofCodec {d : Dec} {e : Enc} {w : Wf} (h : Codec d e w) : HashOK (digOfEnc e) e w :=
  hash_ofEnc fun v hv => let ⟨b, hb, _⟩ := h.rt v hv; ⟨b, hb⟩

theorem hash_unit : HashOK digUnit encUnit wfUnit := by
  intro v hv
  cases v <;> simp [wfUnit] at hv
  rfl

theorem hash_bytes : HashOK digBytes encBytes wfBytes := by
  intro v hv
  cases v <;> simp [wfBytes] at hv
  simp [digBytes, encBytes, HashRel, hv]

theorem hash_str : HashOK digStr encStr wfStr := by
  intro v hv
  cases v <;> simp [wfStr] at hv
  simp [digStr, encStr, HashRel, hv.1, hv.2]

theorem hash_option {d : Dig} {e : Enc} {w : Wf} (h : HashOK d e w) : HashOK (digOption d) (encOption e) (wfOption w) := by
  intro v hv
  rcases wfOption_iff.mp hv with rfl | ⟨x, rfl, hx⟩
  · rfl
  · exact (h x hx).chunk [1]

theorem hash_all {d : Dig} {e : Enc} {w : Wf} (h : HashOK d e w) :
    ∀ l : List V, l.all w = true → HashRel (digAll d l) (encAll e l)
  | [], _ => rfl
  | v :: vs, hall => by
    rw [List.all_cons, Bool.and_eq_true] at hall
    exact hashRel_seq (h v hall.1) (hash_all h vs hall.2)

theorem hash_vec {d : Dig} {e : Enc} {w : Wf} (h : HashOK d e w) : HashOK (digVec d) (encVec e) (wfVec w) := by
  intro v hv
  obtain ⟨l, rfl, hlen, hall⟩ := wfVec_iff.mp hv
  simp only [digVec, encVec, hlen, if_true]
  exact (hash_all h l hall).chunk _

theorem hash_array {n : Nat} {d : Dig} {e : Enc} {w : Wf} (h : HashOK d e w) :
    HashOK (digArray d) (encArray n e) (wfArray n w) := by
  intro v hv
  obtain ⟨l, rfl, hlen, hall⟩ := wfArray_iff.mp hv
  simp only [digArray, encArray, hlen, if_true]
  exact hash_all h l hall

theorem hash_optpair {d1 d2 : Dig} {e1 e2 : Enc} {w1 w2 : Wf} (h1 : HashOK d1 e1 w1) (h2 : HashOK d2 e2 w2) :
    HashOK (digOptPair d1 d2) (encOptPair e1 e2) (wfOptPair w1 w2) := by
  intro v hv
  obtain ⟨a, b, rfl, ha, hb⟩ := wfOptPair_iff.mp hv
  rcases wfOption_iff.mp ha with rfl | ⟨x, rfl, hx⟩ <;> rcases wfOption_iff.mp hb with rfl | ⟨y, rfl, hy⟩
  · rfl
  · exact (h2 y hy).chunk [2]
  · exact (h1 x hx).chunk [1]
  · have := (hashRel_seq (h1 x hx) (h2 y hy)).chunk [3]
    simp only [Outcome.bind_assoc] at this
    exact this

theorem hash_tup {d : List V → Outcome (List Bytes)} {e : List V → Option Bytes} {w : List V → Bool}
    (h : ∀ l, w l = true → HashRel (d l) (e l)) : HashOK (digTup d) (encTup e) (wfTup w) := by
  intro v hv
  cases v <;> simp [wfTup] at hv
  exact h _ hv

theorem hash_gentail (O : Oracles) (hO : OracleContract O) (tr p : Bool) :
    HashOK (digGenTail p) encGenTail (wfGenTail O tr) := by
  intro v hv
  obtain ⟨gen, refs, buf, version, rfl, h⟩ := wfGenTail_iff.mp hv
  rcases h with ⟨rfl, hg, hr, rfl⟩ | ⟨rfl, rfl, rfl, hb⟩
  · exact hashRel_seq (hash_option (hash_ofCodec (codec_program O hO tr)) gen hg)
      (hash_vec (hash_ofCodec (codec_uint 4)) refs hr)
  · rcases wfOption_iff.mp hb with rfl | ⟨x, rfl, hx⟩
    · rfl
    · cases x <;> simp [wfBytes] at hx
      simp [digGenTail, encGenTail, HashRel]

theorem hash_contract2 {ct : V} (h : wfOption (wfBytesN 32) ct = true) :
    HashRel (digContract2 ct) (encContract2 ct) := by
  rcases wfOption_iff.mp h with rfl | ⟨x, rfl, hx⟩
  · rfl
  · exact (hash_ofCodec (codec_bytesN 32) x hx).chunk [3]

theorem hash_pos (O : Oracles) (tr : Bool) : HashOK (digPos O) (encPos O true) (wfPos O tr) := by
  -- Each field's `HashRel` gives its chunks and that their concatenation is the field's encoding (`hashRel_some`).
  -- Version 0 concatenates the six parts; version 1 hashes the quality string in the place of the proof and panics
  -- where there is none.
  intro v hv
  obtain ⟨ch, pp, ct, pk, version, pi, mg, st, sz, pf, rfl, h1, h2, h3, h4, h5, h6⟩ := wfPos_iff.mp hv
  obtain ⟨A, heA, _⟩ := (codec_bytesN 32).rt ch h1
  obtain ⟨B, heB, _⟩ := (codec_option (codec_g1 O tr)).rt pp h2
  obtain ⟨C, heC, _⟩ := (codec_option (codec_bytesN 32)).rt ct h3
  obtain ⟨D, heD, _⟩ := (codec_g1 O tr).rt pk h4
  obtain ⟨F, heF, _⟩ := codec_bytes.rt pf h5
  obtain ⟨csA, hdA, hfA⟩ := hashRel_some (hash_ofCodec (codec_bytesN 32) ch h1) heA
  obtain ⟨csB, hdB, hfB⟩ := hashRel_some (hash_option (hash_ofCodec (codec_g1 O tr)) pp h2) heB
  obtain ⟨csD, hdD, hfD⟩ := hashRel_some (hash_ofCodec (codec_g1 O tr) pk h4) heD
  obtain ⟨csF, hdF, hfF⟩ := hashRel_some (hash_bytes pf h5) heF
  rcases h6 with ⟨rfl, rfl, rfl, rfl, hsz⟩ | ⟨rfl, hpi, hmg, hst, rfl, hs⟩
  · obtain ⟨csC, hdC, hfC⟩ := hashRel_some (hash_option (hash_ofCodec (codec_bytesN 32)) ct h3) heC
    rw [encPos_v0 heA heB heC heD (encUint_of_lt (n := 1) hsz) heF]
    simp only [digPos, hdA, hdB, hdC, hdD, hdF, Outcome.bind, if_true, HashRel]
    simp [hfA, hfB, hfC, hfD, hfF]
  · obtain ⟨t, q, rfl, _⟩ := encOption_shape heC
    have heC := encContract2_of heC
    obtain ⟨csC, hdC, hfC⟩ := hashRel_some (hash_contract2 h3) heC
    have hnn : (!isSomeV pp && !isSomeV ct) = false := by
      cases hA : isSomeV pp <;> cases hB : isSomeV ct <;> simp [hA, hB] at hs ⊢
    have hflat : (csA ++ csB ++ csC ++ csD ++ [be 2 pi, be 1 mg, be 1 st]).flatten =
        A ++ B ++ ((t + 2) :: q) ++ D ++ be 2 pi ++ be 1 mg ++ be 1 st := by
      simp [hfA, hfB, hfC, hfD]
    rw [encPos_v1 heA heB heC heD (encUint_of_lt (n := 2) hpi) (encUint_of_lt (n := 1) hmg)
      (encUint_of_lt (n := 1) hst) heF]
    simp only [digPos, hdA, hdB, hdC, hdD, heF, Outcome.bind, if_neg (by decide : ¬ (1 : Nat) = 0), if_true, hnn,
      Bool.false_eq_true, if_false, hflat]
    cases hq : O.quality (A ++ B ++ ((t + 2) :: q) ++ D ++ be 2 pi ++ be 1 mg ++ be 1 st ++ F) with
    | none => simp [HashRel]
    | some qs => simp [HashRel, hfA, hfB, hfC, hfD]

mutual
theorem hash_decode (O : Oracles) (hO : OracleContract O) (tr : Bool) :
    ∀ t : Ty, HashOK (digestChunks O t) (encodeH O true t) (WF O tr t)
  | .uint n => hash_ofCodec (codec_uint n)
  | .sint n => hash_ofCodec (codec_sint n)
  | .bool => hash_ofCodec codec_bool
  | .unit => hash_unit
  | .bytes => hash_bytes
  | .bytesN n => hash_ofCodec (codec_bytesN n)
  | .str => hash_str
  | .option t => hash_option (hash_decode O hO tr t)
  | .vec t => hash_vec (hash_decode O hO tr t)
  | .tuple ts => hash_tup (hashL_decode O hO tr ts)
  | .array _ t => hash_array (hash_decode O hO tr t)
  | .struct _ _ ts => hash_tup (hashL_decode O hO tr ts)
  | .enum8 _ vals => hash_ofCodec (codec_enum vals)
  | .program => hash_ofCodec (codec_program O hO tr)
  | .g1 => hash_ofCodec (codec_g1 O tr)
  | .g2 => hash_ofCodec (codec_g2 O tr)
  | .gt => hash_ofCodec (codec_opaque siteGt 576 fun _ => true)
  | .secretKey => hash_ofCodec (codec_opaque siteSk 32 O.sk)
  | .optpair t u => hash_optpair (hash_decode O hO tr t) (hash_decode O hO tr u)
  | .genTail p => hash_gentail O hO tr p
  | .proofOfSpace => hash_pos O tr
theorem hashL_decode (O : Oracles) (hO : OracleContract O) (tr : Bool) :
    ∀ (ts : List Ty) (l : List V), WFL O tr ts l = true → HashRel (digestL O ts l) (encodeLH O true ts l)
  | [], [], _ => rfl
  | [], _ :: _, h => by simp [WFL] at h
  | _ :: _, [], h => by simp [WFL] at h
  | t :: ts, v :: vs, h => by
    rw [WFL, Bool.and_eq_true] at h
    exact hashRel_seq (hash_decode O hO tr t v h.1) (hashL_decode O hO tr ts vs h.2)
end

end ChiaModel.Streamable

/-! Where no proof of space occurs the hash pre-image is the encoding (C13; C14 uses it). -/
namespace ChiaModel.C13
open ChiaModel ChiaModel.Streamable

mutual
def posFree : Ty → Bool
  | .option t => posFree t
  | .vec t => posFree t
  | .tuple ts => posFreeL ts
  | .array _ t => posFree t
  | .struct _ _ ts => posFreeL ts
  | .optpair t u => posFree t && posFree u
  | .proofOfSpace => false
  | _ => true
def posFreeL : List Ty → Bool
  | [] => true
  | t :: ts => posFree t && posFreeL ts
end

mutual
theorem encodeH_posFree (O : Oracles) : ∀ t : Ty, posFree t = true → encodeH O true t = encodeH O false t
  | .option t, h => congrArg encOption (encodeH_posFree O t h)
  | .vec t, h => congrArg encVec (encodeH_posFree O t h)
  | .tuple ts, h => congrArg encTup (encodeLH_posFree O ts h)
  | .array n t, h => congrArg (encArray n) (encodeH_posFree O t h)
  | .struct _ _ ts, h => congrArg encTup (encodeLH_posFree O ts h)
  | .optpair t u, h => by
      simp only [posFree, Bool.and_eq_true] at h
      simp only [encodeH]; rw [encodeH_posFree O t h.1, encodeH_posFree O u h.2]
  | .proofOfSpace, h => by cases h
  | .uint _, _ | .sint _, _ | .bool, _ | .unit, _ | .bytes, _ | .bytesN _, _ | .str, _ | .enum8 _ _, _ | .program, _
  | .g1, _ | .g2, _ | .gt, _ | .secretKey, _ | .genTail _, _ => rfl
theorem encodeLH_posFree (O : Oracles) : ∀ ts : List Ty, posFreeL ts = true → encodeLH O true ts = encodeLH O false ts
  | [], _ => by funext l; cases l <;> rfl
  | t :: ts, h => by
      simp only [posFreeL, Bool.and_eq_true] at h
      funext l
      cases l with
      | nil => rfl
      | cons v vs => simp only [encodeLH]; rw [encodeH_posFree O t h.1, encodeLH_posFree O ts h.2]
end

theorem encodeForHash_eq_encode (O : Oracles) (t : Ty) (h : posFree t = true) (v : V) :
    encodeForHash O t v = encode O t v := by
  unfold encodeForHash encode; rw [encodeH_posFree O t h]

end ChiaModel.C13
