import ChiaModel.Lemmas.StreamableBase
/-!
A decoder is a chain of `Res.bind`s.  `Total`, `Plain` and `Agrees` are therefore stated of one run (a `Res` and the input
it was given) and have a lemma for `bind`; `Codec` and `Agree` quantify over the input (`Codec.cn_bind`).
-/
namespace ChiaModel.Streamable
open ChiaModel

/-- round trip + canonicity of one decoder/encoder/well-formedness triple -/
structure Codec (d : Dec) (e : Enc) (w : Wf) : Prop where
  rt : ∀ v, w v = true → ∃ bs, e v = some bs ∧ ∀ r, (d (bs ++ r)).out = .ok (v, r)
  cn : ∀ b v r, isBytes b → (d b).out = .ok (v, r) → ∃ p, e v = some p ∧ p ++ r = b ∧ w v = true

def Agree (du dt : Dec) : Prop := ∀ b x, (du b).out = .ok x → (dt b).out = .ok x

theorem Agree.refl (d : Dec) : Agree d d := fun _ _ h => h

theorem u32Max_eq : u32Max = 256 ^ 4 := by decide

theorem Codec.cn_bind {d : Dec} {e : Enc} {w : Wf} (h : Codec d e w) {β : Type} {k : V × Bytes → Res β}
    {b : Bytes} {y : β} (hb : isBytes b) (hk : ((d b).bind k).out = .ok y) :
    ∃ v r p, e v = some p ∧ p ++ r = b ∧ w v = true ∧ isBytes r ∧ (k (v, r)).out = .ok y := by
  obtain ⟨⟨v, r⟩, hd, hy⟩ := Res.bind_ok.mp hk
  obtain ⟨p, he, hp, hw⟩ := h.cn b v r hb hd
  exact ⟨v, r, p, he, hp, hw, (isBytes_append.mp (hp ▸ hb)).2, hy⟩

namespace Res
variable {α β : Type}

/-- the run on input `b` reserved nothing, and either rejected or returned after consuming a prefix of at least
`m` bytes -/
inductive Plain (b : Bytes) (m : Nat) : Res (α × Bytes) → Prop
  | fail : Plain b m .fail
  | pure (a : α) {p r : Bytes} (hb : b = p ++ r) (hm : m ≤ p.length) : Plain b m (.pure (a, r))

theorem Plain.here (a : α) (b : Bytes) : Plain b 0 (.pure (a, b)) :=
  .pure a (p := []) rfl (Nat.le_refl 0)

theorem Plain.mono {b : Bytes} {m m' : Nat} {x : Res (α × Bytes)} (h : Plain b m x) (hm : m' ≤ m) : Plain b m' x := by
  cases h with
  | fail => exact .fail
  | pure a hb h1 => exact .pure a hb (Nat.le_trans hm h1)

theorem Plain.bind {b : Bytes} {m1 m2 m : Nat} {x : Res (α × Bytes)} {k : α × Bytes → Res (β × Bytes)}
    (hx : Plain b m1 x) (hk : ∀ a r, Plain r m2 (k (a, r))) (hm : m ≤ m1 + m2) : Plain b m (x.bind k) := by
  cases hx with
  | fail => exact .fail
  | @pure a p r hb h1 =>
    rw [Res.pure_bind]
    have h := hk a r
    generalize k (a, r) = y at h
    cases h with
    | fail => exact .fail
    | @pure c p' r' hr h2 =>
      exact .pure c (p := p ++ p') (by rw [hb, hr, List.append_assoc]) (by rw [List.length_append]; omega)

theorem Plain.ite {c : Prop} [Decidable c] {b : Bytes} {m : Nat} {x y : Res (α × Bytes)}
    (hx : Plain b m x) (hy : Plain b m y) : Plain b m (if c then x else y) := by
  by_cases h : c
  · exact if_pos h ▸ hx
  · exact if_neg h ▸ hy

structure Total (b : Bytes) (m : Nat) (x : Res (α × Bytes)) : Prop where
  np : ∀ s, x.out ≠ .panic s
  pre : ∀ a r, x.out = .ok (a, r) → ∃ p, b = p ++ r ∧ m ≤ p.length

theorem Plain.total {b : Bytes} {m : Nat} {x : Res (α × Bytes)} (h : Plain b m x) : Total b m x := by
  cases h with
  | fail => exact ⟨nofun, nofun⟩
  | pure a hb hm => exact ⟨nofun, fun a' r' h => by cases h; exact ⟨_, hb, hm⟩⟩

theorem Total.fail {b : Bytes} {m : Nat} : Total b m (.fail : Res (α × Bytes)) := Plain.fail.total

theorem Total.here (a : α) (b : Bytes) : Total b 0 (.pure (a, b)) := (Plain.here a b).total

theorem Total.mono {b : Bytes} {m m' : Nat} {x : Res (α × Bytes)} (h : Total b m x) (hm : m' ≤ m) : Total b m' x :=
  ⟨h.np, fun a r hx => let ⟨p, hp, hl⟩ := h.pre a r hx; ⟨p, hp, Nat.le_trans hm hl⟩⟩

theorem Total.len {b : Bytes} {m : Nat} {x : Res (α × Bytes)} (h : Total b m x) {a : α} {r : Bytes}
    (hx : x.out = .ok (a, r)) : r.length + m ≤ b.length := by
  obtain ⟨p, rfl, hp⟩ := h.pre a r hx
  rw [List.length_append]
  omega

theorem Total.reserve {b : Bytes} {m : Nat} {y : Res (α × Bytes)} (a : Nat) (hy : Total b m y) :
    Total b m ((Res.reserve a).bind fun _ => y) :=
  ⟨hy.np, hy.pre⟩

theorem Total.bind {b : Bytes} {m1 m2 m : Nat} {x : Res (α × Bytes)} {k : α × Bytes → Res (β × Bytes)}
    (hx : Total b m1 x) (hk : ∀ a r, Total r m2 (k (a, r))) (hm : m ≤ m1 + m2) : Total b m (x.bind k) where
  np := by
    intro s h
    rcases Res.bind_panic.mp h with h | ⟨⟨a, r⟩, _, h⟩
    · exact hx.np s h
    · exact (hk a r).np s h
  pre := by
    intro c r h
    obtain ⟨⟨a, r1⟩, h1, h2⟩ := Res.bind_ok.mp h
    obtain ⟨p1, rfl, l1⟩ := hx.pre a r1 h1
    obtain ⟨p2, rfl, l2⟩ := (hk a r1).pre c r h2
    exact ⟨p1 ++ p2, (List.append_assoc _ _ _).symm, by rw [List.length_append]; omega⟩

theorem Total.ite {c : Prop} [Decidable c] {b : Bytes} {m : Nat} {x y : Res (α × Bytes)}
    (hx : Total b m x) (hy : Total b m y) : Total b m (if c then x else y) := by
  by_cases h : c
  · exact if_pos h ▸ hx
  · exact if_neg h ▸ hy

def Agrees (x y : Res α) : Prop := ∀ a, x.out = .ok a → y.out = .ok a

theorem Agrees.refl (x : Res α) : Agrees x x := fun _ h => h

theorem Agrees.bind {x x' : Res α} {k k' : α → Res β} (hx : Agrees x x') (hk : ∀ a, Agrees (k a) (k' a)) :
    Agrees (x.bind k) (x'.bind k') := by
  intro y h
  obtain ⟨a, h1, h2⟩ := Res.bind_ok.mp h
  exact Res.bind_ok.mpr ⟨a, hx a h1, hk a y h2⟩

theorem Agrees.ite {c : Prop} [Decidable c] {x x' y y' : Res α} (hx : Agrees x x') (hy : Agrees y y') :
    Agrees (if c then x else y) (if c then x' else y') := by
  by_cases h : c
  · rw [if_pos h, if_pos h]; exact hx
  · rw [if_neg h, if_neg h]; exact hy

end Res

def Plain {α : Type} (d : Bytes → Res (α × Bytes)) (m : Nat) : Prop := ∀ b, Res.Plain b m (d b)

def Total {α : Type} (d : Bytes → Res (α × Bytes)) (m : Nat) : Prop := ∀ b, Res.Total b m (d b)

theorem Plain.total {α : Type} {d : Bytes → Res (α × Bytes)} {m : Nat} (h : Plain d m) : Total d m :=
  fun b => (h b).total

theorem Total.mono {α : Type} {d : Bytes → Res (α × Bytes)} {m m' : Nat} (h : Total d m) (hm : m' ≤ m) : Total d m' :=
  fun b => (h b).mono hm

theorem Total.zero {α : Type} {d : Bytes → Res (α × Bytes)} {m : Nat} (h : Total d m) : Total d 0 :=
  h.mono (Nat.zero_le m)

/-- `Agree du dt`, and `AgreeL` for field lists, are by definition `(du b).Agrees (dt b)` for every input `b`.
This identity only supplies the expected type under which `.bind`, `.ite`, `.refl` mean `Res.Agrees.bind` etc. -/
theorem agree_of {α : Type} {du dt : Bytes → Res α} (h : ∀ b, (du b).Agrees (dt b)) :
    ∀ b x, (du b).out = .ok x → (dt b).out = .ok x := h

theorem plain_readFixed (s : String) (n : Nat) : Plain (readFixed s n) n := by
  intro b
  rw [readFixed_eq]
  split
  · exact .pure _ (List.take_append_drop n b).symm (Nat.le_of_eq (List.length_take_of_le ‹_›).symm)
  · exact .fail

theorem plain_readByte (s : String) : Plain (readByte s) 1 := by
  intro b
  cases b with
  | nil => exact .fail
  | cons x r => rw [readByte_cons]; exact .pure x (p := [x]) rfl (Nat.le_refl 1)

theorem plain_readUint (n : Nat) : Plain (readUint n) n :=
  fun b => .bind (plain_readFixed _ n b) (fun _ _ => .here _ _) (Nat.le_add_right _ _)

theorem wfUint_iff {n : Nat} {v : V} : wfUint n v = true ↔ ∃ x, v = .n x ∧ x < 256 ^ n := by
  cases v <;> simp [wfUint]

theorem encUint_of_lt {n x : Nat} (h : x < 256 ^ n) : encUint n (.n x) = some (be n x) := by
  simp [encUint, h]

theorem codec_uint (n : Nat) : Codec (decUint n) (encUint n) (wfUint n) where
  rt := by
    intro v hv
    obtain ⟨x, rfl, hx⟩ := wfUint_iff.mp hv
    refine ⟨be n x, encUint_of_lt hx, fun r => ?_⟩
    unfold decUint
    rw [Res.bind_of_ok (readUint_be hx r)]
    rfl
  cn := by
    intro b v r hb h
    obtain ⟨⟨x, r'⟩, h1, h2⟩ := Res.bind_ok.mp h
    cases h2
    obtain ⟨c, rfl, hl, rfl⟩ := readUint_ok.mp h1
    have hc : isBytes c := (isBytes_append.mp hb).1
    have hlt : beVal c < 256 ^ n := hl ▸ beVal_lt c hc
    refine ⟨c, ?_, rfl, wfUint_iff.mpr ⟨_, rfl, hlt⟩⟩
    rw [encUint_of_lt hlt, be_beVal c hc hl]

theorem plain_uint (n : Nat) : Plain (decUint n) n :=
  fun b => .bind (plain_readUint n b) (fun _ _ => .here _ _) (Nat.le_add_right _ _)

theorem wfSint_iff {n : Nat} {v : V} : wfSint n v = true ↔ ∃ x, v = .i x ∧ sintOk n x = true := by
  cases v <;> simp [wfSint]

theorem toSigned_ofSigned {n : Nat} {x : Int} (h : sintOk n x = true) :
    ofSigned n x < 256 ^ n ∧ toSigned n (ofSigned n x) = x := by
  simp only [sintOk, Bool.and_eq_true, decide_eq_true_eq] at h
  unfold toSigned ofSigned
  generalize 256 ^ n = P at h ⊢
  split <;> (refine ⟨by omega, ?_⟩; split <;> omega)

theorem ofSigned_toSigned {n u : Nat} (h : u < 256 ^ n) :
    sintOk n (toSigned n u) = true ∧ ofSigned n (toSigned n u) = u := by
  simp only [sintOk, Bool.and_eq_true, decide_eq_true_eq]
  unfold toSigned ofSigned
  generalize 256 ^ n = P at h ⊢
  split <;> (refine ⟨by omega, ?_⟩; split <;> omega)

theorem codec_sint (n : Nat) : Codec (decSint n) (encSint n) (wfSint n) where
  rt := by
    intro v hv
    obtain ⟨x, rfl, hx⟩ := wfSint_iff.mp hv
    obtain ⟨hu, hback⟩ := toSigned_ofSigned hx
    refine ⟨be n (ofSigned n x), by simp [encSint, hx], fun r => ?_⟩
    unfold decSint
    rw [Res.bind_of_ok (readUint_be hu r)]
    exact congrArg (fun y => Outcome.ok (V.i y, r)) hback
  cn := by
    intro b v r hb h
    obtain ⟨⟨x, r'⟩, h1, h2⟩ := Res.bind_ok.mp h
    cases h2
    obtain ⟨c, rfl, hl, rfl⟩ := readUint_ok.mp h1
    have hc : isBytes c := (isBytes_append.mp hb).1
    obtain ⟨hok, hback⟩ := ofSigned_toSigned (hl ▸ beVal_lt c hc)
    refine ⟨c, ?_, rfl, wfSint_iff.mpr ⟨_, rfl, hok⟩⟩
    simp only [encSint, hok, if_true]
    rw [hback, be_beVal c hc hl]

theorem plain_sint (n : Nat) : Plain (decSint n) n :=
  fun b => .bind (plain_readUint n b) (fun _ _ => .here _ _) (Nat.le_add_right _ _)

theorem decBool_cons (k : Nat) (r : Bytes) :
    decBool (k :: r) = if k = 0 then .pure (.b false, r) else if k = 1 then .pure (.b true, r) else .fail := by
  rw [decBool, readByte_cons, Res.pure_bind]

theorem codec_bool : Codec decBool encBool wfBool where
  rt := by
    intro v hv
    cases v <;> simp [wfBool] at hv
    rename_i x
    cases x
    · exact ⟨[0], rfl, fun r => congrArg Res.out (decBool_cons 0 r)⟩
    · exact ⟨[1], rfl, fun r => congrArg Res.out (decBool_cons 1 r)⟩
  cn := by
    intro b v r _ h
    cases b with
    | nil => cases h
    | cons k b' =>
      rw [decBool_cons] at h
      split at h
      · cases h; subst k; exact ⟨[0], rfl, rfl, rfl⟩
      split at h
      · cases h; subst k; exact ⟨[1], rfl, rfl, rfl⟩
      · cases h

theorem plain_bool : Plain decBool 1 := fun b =>
  .bind (plain_readByte _ b) (fun _ _ => .ite (.here _ _) (.ite (.here _ _) .fail)) (Nat.le_add_right _ _)

theorem codec_unit : Codec decUnit encUnit wfUnit where
  rt := by
    intro v hv
    cases v <;> simp [wfUnit] at hv
    exact ⟨[], rfl, fun r => rfl⟩
  cn := by
    intro b v r _ h
    cases h
    exact ⟨[], rfl, rfl, rfl⟩

theorem plain_unit : Plain decUnit 0 := fun b => .here _ b

/-! ### fixed-width opaque elements (BytesImpl<N>, G1, G2, GT, secret key) -/

theorem decOpaque_ok {s : String} {n : Nat} {valid : Bytes → Bool} {b r : Bytes} {v : V} :
    (decOpaque s n valid b).out = .ok (v, r) ↔ ∃ c, b = c ++ r ∧ c.length = n ∧ valid c = true ∧ v = .bytes c := by
  unfold decOpaque
  rw [Res.bind_ok]
  constructor
  · rintro ⟨⟨c, r'⟩, h1, h2⟩
    obtain ⟨rfl, hl⟩ := readFixed_ok.mp h1
    dsimp only at h2
    split at h2
    · cases h2; exact ⟨c, rfl, hl, ‹_›, rfl⟩
    · cases h2
  · rintro ⟨c, rfl, hl, hv, rfl⟩
    exact ⟨(c, r), readFixed_ok.mpr ⟨rfl, hl⟩, by simp [hv]⟩

theorem wfOpaque_iff {n : Nat} {valid : Bytes → Bool} {v : V} :
    wfOpaque n valid v = true ↔ ∃ c, v = .bytes c ∧ c.length = n ∧ valid c = true := by
  cases v <;> simp [wfOpaque]

theorem codec_opaque (s : String) (n : Nat) (valid : Bytes → Bool) :
    Codec (decOpaque s n valid) (encBytesN n) (wfOpaque n valid) where
  rt := by
    intro v hv
    obtain ⟨c, rfl, hl, hval⟩ := wfOpaque_iff.mp hv
    exact ⟨c, by simp [encBytesN, hl], fun r => decOpaque_ok.mpr ⟨c, rfl, hl, hval, rfl⟩⟩
  cn := by
    intro b v r _ h
    obtain ⟨c, rfl, hl, hval, rfl⟩ := decOpaque_ok.mp h
    exact ⟨c, by simp [encBytesN, hl], rfl, wfOpaque_iff.mpr ⟨c, rfl, hl, hval⟩⟩

theorem plain_opaque (s : String) (n : Nat) (valid : Bytes → Bool) : Plain (decOpaque s n valid) n := fun b =>
  .bind (plain_readFixed s n b) (fun _ _ => .ite (.here _ _) .fail) (Nat.le_add_right _ _)

theorem agree_opaque (s : String) (n : Nat) (v1 v2 : Bytes → Bool) (h : ∀ c, v1 c = true → v2 c = true) :
    Agree (decOpaque s n v1) (decOpaque s n v2) := by
  intro b x hx
  obtain ⟨v, r⟩ := x
  obtain ⟨c, rfl, hl, hv, rfl⟩ := decOpaque_ok.mp hx
  exact decOpaque_ok.mpr ⟨c, rfl, hl, h c hv, rfl⟩

theorem decBytesN_eq (n : Nat) : decBytesN n = decOpaque siteBytesN n fun _ => true := by
  funext b; simp [decBytesN, decOpaque]

theorem wfBytesN_eq (n : Nat) : wfBytesN n = wfOpaque n fun _ => true := by
  funext v; cases v <;> simp [wfBytesN, wfOpaque]

theorem wfBytesN_enc {n : Nat} {x : V} (h : wfBytesN n x = true) : ∃ c, x = .bytes c ∧ c.length = n := by
  cases x <;> simp [wfBytesN] at h
  exact ⟨_, rfl, h⟩

theorem codec_bytesN (n : Nat) : Codec (decBytesN n) (encBytesN n) (wfBytesN n) := by
  rw [decBytesN_eq, wfBytesN_eq]; exact codec_opaque _ _ _

theorem plain_bytesN (n : Nat) : Plain (decBytesN n) n := by
  rw [decBytesN_eq]; exact plain_opaque _ _ _

theorem pointOk_trusted {st : Nat} (h : pointOk false st = true) : pointOk true st = true := by
  simp [pointOk] at *; omega

theorem codec_g1 (O : Oracles) (tr : Bool) : Codec (decG1 O tr) (encBytesN 48) (wfG1 O tr) := codec_opaque _ _ _

theorem codec_g2 (O : Oracles) (tr : Bool) : Codec (decG2 O tr) (encBytesN 96) (wfG2 O tr) := codec_opaque _ _ _

theorem plain_g1 (O : Oracles) (tr : Bool) : Plain (decG1 O tr) 48 := plain_opaque _ _ _

theorem plain_g2 (O : Oracles) (tr : Bool) : Plain (decG2 O tr) 96 := plain_opaque _ _ _

theorem plain_gt : Plain decGt 576 := plain_opaque _ _ _

theorem plain_sk (O : Oracles) : Plain (decSk O) 32 := plain_opaque _ _ _

theorem agree_g1 (O : Oracles) : Agree (decG1 O false) (decG1 O true) :=
  agree_opaque _ _ _ _ fun _ h => pointOk_trusted h

theorem agree_g2 (O : Oracles) : Agree (decG2 O false) (decG2 O true) :=
  agree_opaque _ _ _ _ fun _ h => pointOk_trusted h

theorem decLenPrefixed_eq (ok : Bytes → Bool) (b : Bytes) :
    decLenPrefixed ok b = (readUint 4 b).bind fun lr => decOpaque siteBytesN lr.1 ok lr.2 := by
  unfold decLenPrefixed decOpaque
  congr 1
  funext lr
  rw [readBytes_eq, readFixed_eq]
  by_cases h : lr.1 ≤ lr.2.length
  · simp only [if_pos h, Res.pure_bind]
  · simp only [if_neg h, Res.fail_bind]

theorem codec_lenPrefixed {ok : Bytes → Bool} {e : Enc} {w : Wf}
    (he : ∀ c, c.length < u32Max → ok c = true → e (.bytes c) = some (be 4 c.length ++ c))
    (hw : ∀ v, w v = true ↔ ∃ c, v = .bytes c ∧ c.length < u32Max ∧ ok c = true) :
    Codec (decLenPrefixed ok) e w where
  rt := by
    intro v hv
    obtain ⟨c, rfl, hlen, hok⟩ := (hw _).mp hv
    refine ⟨be 4 c.length ++ c, he c hlen hok, fun r => ?_⟩
    rw [List.append_assoc, decLenPrefixed_eq, Res.bind_of_ok (readUint_be (u32Max_eq ▸ hlen) _)]
    exact decOpaque_ok.mpr ⟨c, rfl, rfl, hok, rfl⟩
  cn := by
    intro b v r hb h
    rw [decLenPrefixed_eq] at h
    obtain ⟨⟨n, r1⟩, h1, h2⟩ := Res.bind_ok.mp h
    obtain ⟨l, rfl, hl, rfl⟩ := readUint_ok.mp h1
    obtain ⟨c, rfl, hc, hok, rfl⟩ := decOpaque_ok.mp h2
    have hlb : isBytes l := (isBytes_append.mp hb).1
    have hlt : c.length < u32Max := by
      rw [hc, u32Max_eq, ← hl]; exact beVal_lt l hlb
    refine ⟨l ++ c, ?_, List.append_assoc _ _ _, (hw _).mpr ⟨c, rfl, hlt, hok⟩⟩
    rw [he c hlt hok, hc, be_beVal l hlb hl]

theorem plain_lenPrefixed (ok : Bytes → Bool) : Plain (decLenPrefixed ok) 4 := by
  intro b
  rw [decLenPrefixed_eq]
  exact .bind (plain_readUint 4 b) (fun n r => (plain_opaque _ n ok r).mono (Nat.zero_le n)) (Nat.le_add_right _ _)

theorem plain_bytes : Plain decBytes 4 := plain_lenPrefixed _

theorem codec_bytes : Codec decBytes encBytes wfBytes :=
  codec_lenPrefixed (fun c h _ => by simp [encBytes, h]) (fun v => by cases v <;> simp [wfBytes])

theorem codec_str : Codec decStr encStr wfStr :=
  codec_lenPrefixed (fun c h hc => by simp [encStr, h, hc]) (fun v => by cases v <;> simp [wfStr])

theorem codec_enum (vals : List Nat) : Codec (decEnum vals) (encEnum vals) (wfEnum vals) where
  rt := by
    intro v hv
    cases v <;> simp [wfEnum] at hv
    rename_i x
    refine ⟨[x], by simp [encEnum, hv], fun r => ?_⟩
    rw [List.cons_append, List.nil_append, decEnum, readUint_one_cons, Res.pure_bind]
    simp [hv]
  cn := by
    intro b v r _ h
    cases b with
    | nil => cases h
    | cons x b' =>
      rw [decEnum, readUint_one_cons, Res.pure_bind] at h
      dsimp only at h
      split at h
      next hc => cases h; exact ⟨[x], by simp only [encEnum, hc, if_true], rfl, hc⟩
      next => cases h

theorem plain_enum (vals : List Nat) : Plain (decEnum vals) 1 := fun b =>
  .bind (plain_readUint 1 b) (fun _ _ => .ite (.here _ _) .fail) (Nat.le_add_right _ _)

theorem decProgram_eq (O : Oracles) (tr : Bool) (b : Bytes) :
    decProgram O tr b = match O.serLen tr b with
      | none => .fail
      | some n => if n ≤ b.length then .pure (.bytes (b.take n), b.drop n) else .fail := by
  unfold decProgram
  cases O.serLen tr b with
  | none => rfl
  | some n =>
    by_cases h : n ≤ b.length
    · simp [(lenGe_iff b n).mpr h, h]
    · simp [mt (lenGe_iff b n).mp h, h]

theorem decProgram_ok {O : Oracles} {tr : Bool} {b r : Bytes} {v : V} :
    (decProgram O tr b).out = .ok (v, r) ↔
      ∃ n, O.serLen tr b = some n ∧ n ≤ b.length ∧ v = .bytes (b.take n) ∧ r = b.drop n := by
  rw [decProgram_eq]
  cases O.serLen tr b with
  | none => simp
  | some n =>
    dsimp only
    split
    · simp only [Res.pure_out, Outcome.ok.injEq, Prod.mk.injEq, Option.some.injEq, exists_eq_left']
      exact ⟨fun ⟨h1, h2⟩ => ⟨‹_›, h1.symm, h2.symm⟩, fun ⟨_, h1, h2⟩ => ⟨h1.symm, h2.symm⟩⟩
    · simp only [Res.fail_out, Option.some.injEq, exists_eq_left']
      exact ⟨nofun, fun ⟨h, _⟩ => absurd h ‹_›⟩

theorem codec_program (O : Oracles) (hO : OracleContract O) (tr : Bool) :
    Codec (decProgram O tr) encProgram (wfProgram O tr) where
  rt := by
    intro v hv
    cases v <;> simp [wfProgram] at hv
    rename_i c
    have hs : O.serLen tr c = some c.length := hv
    refine ⟨c, rfl, fun r => ?_⟩
    have := hO.serLen_prefix tr c c.length hs (Nat.le_refl _) r
    rw [List.take_length] at this
    exact decProgram_ok.mpr ⟨c.length, this, by simp, by simp, by simp⟩
  cn := by
    intro b v r _ h
    obtain ⟨n, hs, hle, rfl, rfl⟩ := decProgram_ok.mp h
    refine ⟨b.take n, rfl, List.take_append_drop n b, ?_⟩
    have := hO.serLen_prefix tr b n hs hle []
    simp only [List.append_nil] at this
    simp [wfProgram, this, List.length_take_of_le hle]

/-- `c` = what is known of the lengths the scan reports: 0 without the contract, 1 with it -/
theorem plain_program (O : Oracles) (tr : Bool) {c : Nat} (hc : ∀ b n, O.serLen tr b = some n → c ≤ n) :
    Plain (decProgram O tr) c := by
  intro b
  rw [decProgram_eq]
  cases hs : O.serLen tr b with
  | none => exact .fail
  | some n =>
    dsimp only
    split
    · exact .pure _ (List.take_append_drop n b).symm (by rw [List.length_take_of_le ‹_›]; exact hc b n hs)
    · exact .fail

theorem agree_program (O : Oracles) (hO : OracleContract O) : Agree (decProgram O false) (decProgram O true) := by
  intro b x hx
  obtain ⟨v, r⟩ := x
  obtain ⟨n, hs, hle, rfl, rfl⟩ := decProgram_ok.mp hx
  exact decProgram_ok.mpr ⟨n, hO.serLen_trusted b n hs, hle, rfl, rfl⟩

end ChiaModel.Streamable
