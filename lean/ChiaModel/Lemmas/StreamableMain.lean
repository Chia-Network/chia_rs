import ChiaModel.Lemmas.StreamablePos
/-
The inductions over descriptors, mutually with field lists: one block per relation (`Codec`, `Total`, `Agree`), each
arm naming the lemma of its constructor.  `Total` needs the oracle at `.program` only, so one block serves with and
without the contract (`total_decode_scaled`).  At the end, in namespace `C13`, the statements C14 and C20 build on.
-/
namespace ChiaModel.Streamable
open ChiaModel

structure TotalL (d : Bytes → Res (List V × Bytes)) : Prop where
  np : ∀ b s, (d b).out ≠ .panic s
  pre : ∀ b vs r, (d b).out = .ok (vs, r) → ∃ p, b = p ++ r

def AgreeL (du dt : Bytes → Res (List V × Bytes)) : Prop := ∀ b x, (du b).out = .ok x → (dt b).out = .ok x

def ConsumesL (d : Bytes → Res (List V × Bytes)) (m : Nat) : Prop :=
  ∀ b vs r, (d b).out = .ok (vs, r) → r.length + m ≤ b.length

mutual
theorem codec_decode (O : Oracles) (hO : OracleContract O) (tr : Bool) :
    ∀ t : Ty, Codec (decode O tr t) (encodeH O false t) (WF O tr t)
  | .uint n => codec_uint n
  | .sint n => codec_sint n
  | .bool => codec_bool
  | .unit => codec_unit
  | .bytes => codec_bytes
  | .bytesN n => codec_bytesN n
  | .str => codec_str
  | .option t => codec_option (codec_decode O hO tr t)
  | .vec t => codec_vec _ (codec_decode O hO tr t)
  | .tuple ts => codec_tup (codecL_decode O hO tr ts)
  | .array n t => codec_array n (codec_decode O hO tr t)
  | .struct _ _ ts => codec_tup (codecL_decode O hO tr ts)
  | .enum8 _ vals => codec_enum vals
  | .program => codec_program O hO tr
  | .g1 => codec_g1 O tr
  | .g2 => codec_g2 O tr
  | .gt => codec_opaque siteGt 576 fun _ => true
  | .secretKey => codec_opaque siteSk 32 O.sk
  | .optpair t u => codec_optpair (codec_decode O hO tr t) (codec_decode O hO tr u)
  | .genTail _ => codec_gentail O hO tr
  | .proofOfSpace => codec_pos O tr
theorem codecL_decode (O : Oracles) (hO : OracleContract O) (tr : Bool) :
    ∀ ts : List Ty, CodecL (decodeL O tr ts) (encodeLH O false ts) (WFL O tr ts)
  | [] => .nil (fun _ => rfl) rfl (fun l => by cases l <;> simp [WFL])
  | t :: ts => .cons (codec_decode O hO tr t) (codecL_decode O hO tr ts) (fun _ => rfl) (fun _ _ => rfl)
      (fun _ _ => rfl) rfl
end

theorem scaled_le {c : Nat} (hc : c ≤ 1) (m : Nat) : c * m ≤ m :=
  Nat.le_trans (Nat.mul_le_mul_right m hc) (Nat.le_of_eq (Nat.one_mul m))

mutual
/-- The oracle enters only through `c`, what is known of the lengths the scan reports for a `Program` (`plain_program`):
0 for any oracle, 1 under the contract.  The bound `c * minWire t` is then no bound (`total_decode`) or `minWire t`
(`total_decode_minWire`). -/
theorem total_decode_scaled (O : Oracles) (tr : Bool) {c : Nat} (hc : c ≤ 1)
    (hp : ∀ b n, O.serLen tr b = some n → c ≤ n) : ∀ t : Ty, Total (decode O tr t) (c * minWire t)
  | .uint n => (plain_uint n).total.mono (scaled_le hc _)
  | .sint n => (plain_sint n).total.mono (scaled_le hc _)
  | .bool => plain_bool.total.mono (scaled_le hc _)
  | .unit => plain_unit.total
  | .bytes => plain_bytes.total.mono (scaled_le hc _)
  | .bytesN n => (plain_bytesN n).total.mono (scaled_le hc _)
  | .str => (plain_lenPrefixed _).total.mono (scaled_le hc _)
  | .option t => (total_option (total_decode_scaled O tr hc hp t)).mono (scaled_le hc _)
  | .vec t => (total_vec _ (total_decode_scaled O tr hc hp t)).mono (scaled_le hc _)
  | .tuple ts => total_tup (total_decodeL_scaled O tr hc hp ts)
  | .array n t => (total_array n (total_decode_scaled O tr hc hp t)).mono (Nat.le_of_eq (Nat.mul_left_comm c n _))
  | .struct _ _ ts => total_tup (total_decodeL_scaled O tr hc hp ts)
  | .enum8 _ vals => (plain_enum vals).total.mono (scaled_le hc _)
  | .program => (plain_program O tr hp).total.mono (Nat.le_of_eq (Nat.mul_one c))
  | .g1 => (plain_g1 O tr).total.mono (scaled_le hc _)
  | .g2 => (plain_g2 O tr).total.mono (scaled_le hc _)
  | .gt => plain_gt.total.mono (scaled_le hc _)
  | .secretKey => (plain_sk O).total.mono (scaled_le hc _)
  | .optpair t u =>
    (total_optpair (total_decode_scaled O tr hc hp t) (total_decode_scaled O tr hc hp u)).mono (scaled_le hc _)
  | .genTail _ => (total_gentail O tr).mono (scaled_le hc _)
  | .proofOfSpace => (plain_pos O tr).total.mono (scaled_le hc _)
theorem total_decodeL_scaled (O : Oracles) (tr : Bool) {c : Nat} (hc : c ≤ 1)
    (hp : ∀ b n, O.serLen tr b = some n → c ≤ n) : ∀ ts : List Ty, Total (decodeL O tr ts) (c * minWireL ts)
  | [] => fun b => .here _ b
  | t :: ts => fun b => .bind (total_decode_scaled O tr hc hp t b)
      (fun _ r => .bind (total_decodeL_scaled O tr hc hp ts r) (fun _ _ => .here _ _) (Nat.le_add_right _ _))
      (Nat.le_of_eq (Nat.mul_add c _ _))
end

theorem total_decode (O : Oracles) (tr : Bool) (t : Ty) : Total (decode O tr t) 0 :=
  (total_decode_scaled O tr (Nat.zero_le 1) (fun _ _ _ => Nat.zero_le _) t).zero

theorem total_decodeL (O : Oracles) (tr : Bool) (ts : List Ty) : Total (decodeL O tr ts) 0 :=
  (total_decodeL_scaled O tr (Nat.zero_le 1) (fun _ _ _ => Nat.zero_le _) ts).zero

theorem totalL_decode (O : Oracles) (tr : Bool) : ∀ ts : List Ty, TotalL (decodeL O tr ts) := fun ts =>
  ⟨fun b => (total_decodeL O tr ts b).np, fun b vs r h => let ⟨p, hp, _⟩ := (total_decodeL O tr ts b).pre vs r h; ⟨p, hp⟩⟩

theorem total_decode_minWire (O : Oracles) (hO : OracleContract O) (tr : Bool) (t : Ty) :
    Total (decode O tr t) (minWire t) :=
  (total_decode_scaled O tr (Nat.le_refl 1) (hO.serLen_pos tr) t).mono (Nat.le_of_eq (Nat.one_mul _).symm)

theorem total_decodeL_minWire (O : Oracles) (hO : OracleContract O) (tr : Bool) (ts : List Ty) :
    Total (decodeL O tr ts) (minWireL ts) :=
  (total_decodeL_scaled O tr (Nat.le_refl 1) (hO.serLen_pos tr) ts).mono (Nat.le_of_eq (Nat.one_mul _).symm)

theorem consumesL_decode (O : Oracles) (hO : OracleContract O) (tr : Bool) :
    ∀ ts : List Ty, ConsumesL (decodeL O tr ts) (minWireL ts) :=
  fun ts b _ _ h => (total_decodeL_minWire O hO tr ts b).len h

mutual
theorem agree_decode (O : Oracles) (hO : OracleContract O) : ∀ t : Ty, Agree (decode O false t) (decode O true t)
  | .uint _ => Agree.refl _
  | .sint _ => Agree.refl _
  | .bool => Agree.refl _
  | .unit => Agree.refl _
  | .bytes => Agree.refl _
  | .bytesN _ => Agree.refl _
  | .str => Agree.refl _
  | .option t => agree_option (agree_decode O hO t)
  | .vec t => agree_vec _ (agree_decode O hO t)
  | .tuple ts => agree_of fun b => .bind (agreeL_decode O hO ts b) fun _ => .refl _
  | .array n t => agree_array n (agree_decode O hO t)
  | .struct _ _ ts => agree_of fun b => .bind (agreeL_decode O hO ts b) fun _ => .refl _
  | .enum8 _ _ => Agree.refl _
  | .program => agree_program O hO
  | .g1 => agree_g1 O
  | .g2 => agree_g2 O
  | .gt => Agree.refl _
  | .secretKey => Agree.refl _
  | .optpair t u => agree_optpair (agree_decode O hO t) (agree_decode O hO u)
  | .genTail _ => agree_gentail O hO
  | .proofOfSpace => agree_pos O
theorem agreeL_decode (O : Oracles) (hO : OracleContract O) :
    ∀ ts : List Ty, AgreeL (decodeL O false ts) (decodeL O true ts)
  | [] => fun _ _ h => h
  | t :: ts => agree_of fun b => .bind (agree_decode O hO t b) fun vr =>
      .bind (agreeL_decode O hO ts vr.2) fun _ => .refl _
end

end ChiaModel.Streamable

/-! The statements of C13 that C14 and C20 build on, for every descriptor (the others are in `Props/C13.lean`). -/
namespace ChiaModel.C13
open ChiaModel ChiaModel.Streamable

/-- **Round trip.** Decoding the encoding of a well-formed value, followed by any bytes `r`, returns that value
and leaves exactly `r`. -/
theorem roundtrip (O : Oracles) (hO : OracleContract O) (t : Ty) (v : V) (h : WF O false t v = true) :
    ∃ bs, encode O t v = some bs ∧ ∀ r, (decode O false t (bs ++ r)).out = .ok (v, r) :=
  (codec_decode O hO false t).rt v h

/-- **Canonicity.** Whatever the (untrusted) decoder accepts re-encodes to exactly the bytes it consumed, and the
decoded value is well-formed: one encoding per value; strict bool / Option / enum / packed-prefix bytes. -/
theorem canonical (O : Oracles) (hO : OracleContract O) (t : Ty) (b : Bytes) (hb : isBytes b) (v : V) (r : Bytes)
    (h : (decode O false t b).out = .ok (v, r)) :
    ∃ p, encode O t v = some p ∧ p ++ r = b ∧ WF O false t v = true :=
  (codec_decode O hO false t).cn b v r hb h

/-- **`from_bytes`** succeeds exactly when `parse` succeeds and consumed the whole input. -/
theorem from_bytes_iff (O : Oracles) (tr : Bool) (t : Ty) (b : Bytes) (v : V) :
    (fromBytes O tr t b).out = .ok v ↔ (decode O tr t b).out = .ok (v, []) := by
  unfold fromBytes
  rw [Res.bind_ok]
  constructor
  · rintro ⟨⟨v', r⟩, hd, h2⟩
    cases r with
    | nil => cases h2; exact hd
    | cons x xs => cases h2
  · intro hd
    exact ⟨(v, []), hd, rfl⟩

theorem from_bytes_to_bytes (O : Oracles) (hO : OracleContract O) (t : Ty) (b : Bytes) (hb : isBytes b) (v : V)
    (h : (fromBytes O false t b).out = .ok v) : encode O t v = some b ∧ WF O false t v = true := by
  obtain ⟨p, he, hp, hw⟩ := canonical O hO t b hb v [] ((from_bytes_iff O false t b v).mp h)
  rw [List.append_nil] at hp
  exact ⟨hp ▸ he, hw⟩

/-- oracles under which everything is valid and a program is its first byte: for the non-vacuity `example`s of C13 and C20 -/
def trivialOracles : Oracles where
  g1 := fun _ => 2
  g2 := fun _ => 2
  sk := fun _ => true
  serLen := fun _ b => if b.isEmpty then none else some 1
  quality := fun _ => none

end ChiaModel.C13
