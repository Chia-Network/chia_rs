import ChiaModel.Lemmas.StreamableGenTail
/-!
`ProofOfSpace::parse` / `stream`.  The prefix byte of `pool_contract_puzzle_hash` is `version << 1 | present`; as in
the generator tail, what follows it is an Option body whose own prefix byte is the `present` bit.
-/
namespace ChiaModel.Streamable
open ChiaModel

theorem plain_pos (O : Oracles) (tr : Bool) : Plain (decPos O tr) 87 := fun b =>
  .bind (plain_bytesN 32 b) (fun _ r1 =>
  .bind (plain_option (plain_g1 O tr) r1) (fun _ r2 =>
  .bind (plain_readUint 1 r2) (fun _ r3 =>
  .bind (plain_present (plain_bytesN 32) r3) (fun _ r4 =>
  .bind (plain_g1 O tr r4) (fun _ r5 =>
    .ite
      (.bind (plain_uint 1 r5) (fun _ r6 => .bind (plain_bytes r6) (fun _ _ => .here _ _) (Nat.le_refl _))
        (Nat.le_refl _))
      (.ite
        (.bind (plain_uint 2 r5) (fun _ r6 => .bind (plain_uint 1 r6) (fun _ r7 =>
          .bind (plain_uint 1 r7) (fun _ r8 => .bind (plain_bytes r8) (fun _ _ => .ite .fail (.here _ _))
            (Nat.le_refl _)) (Nat.le_refl _)) (Nat.le_refl _)) (by decide))
        .fail))
    (Nat.le_refl _)) (Nat.le_refl _)) (Nat.le_refl _)) (Nat.le_refl _)) (by decide)

theorem agree_pos (O : Oracles) : Agree (decPos O false) (decPos O true) :=
  agree_of fun _ => .bind (.refl _) fun _ => .bind (agree_option (agree_g1 O) _) fun _ => .bind (.refl _) fun _ =>
    .bind (.refl _) fun _ => .bind (agree_g1 O _) fun _ => .refl _

theorem wfPos_iff {O : Oracles} {tr : Bool} {v : V} :
    wfPos O tr v = true ↔ ∃ ch pp ct pk version pi mg st sz pf,
      v = .tup [ch, pp, ct, pk, .n version, .n pi, .n mg, .n st, .n sz, pf] ∧
      wfBytesN 32 ch = true ∧ wfOption (wfG1 O tr) pp = true ∧ wfOption (wfBytesN 32) ct = true ∧
      wfG1 O tr pk = true ∧ wfBytes pf = true ∧
      ((version = 0 ∧ pi = 0 ∧ mg = 0 ∧ st = 0 ∧ sz < 256) ∨
       (version = 1 ∧ pi < 65536 ∧ mg < 256 ∧ st < 256 ∧ sz = 0 ∧ (isSomeV pp == isSomeV ct) = false)) := by
  constructor
  · intro h
    unfold wfPos at h
    split at h
    · rename_i ch pp ct pk version pi mg st sz pf
      refine ⟨ch, pp, ct, pk, version, pi, mg, st, sz, pf, rfl, ?_⟩
      simp only [Bool.and_eq_true] at h
      obtain ⟨⟨⟨⟨⟨h1, h2⟩, h3⟩, h4⟩, h5⟩, h6⟩ := h
      refine ⟨h1, h2, h3, h4, h5, ?_⟩
      split at h6
      · simp only [Bool.and_eq_true, beq_iff_eq, decide_eq_true_eq] at h6
        exact Or.inl ⟨‹_›, h6.1.1.1, h6.1.1.2, h6.1.2, h6.2⟩
      split at h6
      · simp only [Bool.and_eq_true, beq_iff_eq, decide_eq_true_eq] at h6
        refine Or.inr ⟨‹_›, h6.1.1.1.1, h6.1.1.1.2, h6.1.1.2, h6.1.2, ?_⟩
        have := h6.2
        cases hA : isSomeV pp <;> cases hB : isSomeV ct <;> simp [hA, hB] at this ⊢
      · cases h6
    · cases h
  · rintro ⟨ch, pp, ct, pk, version, pi, mg, st, sz, pf, rfl, h1, h2, h3, h4, h5, h6⟩
    simp only [wfPos, h1, h2, h3, h4, h5, Bool.and_self, Bool.true_and]
    rcases h6 with ⟨rfl, rfl, rfl, rfl, hsz⟩ | ⟨rfl, hpi, hmg, hst, rfl, hs⟩
    · simp [hsz]
    · simp only [if_neg (by decide : ¬ (1 : Nat) = 0), if_true, hpi, hmg, hst, decide_true, Bool.and_self, Bool.true_and,
        beq_self_eq_true]
      cases hA : isSomeV pp <;> cases hB : isSomeV ct <;> simp [hA, hB] at hs ⊢

theorem encPos_v0 {O : Oracles} {fh : Bool} {ch pp ct pk pf : V} {sz : Nat} {A B C D E F : Bytes}
    (hA : encBytesN 32 ch = some A) (hB : encOption (encBytesN 48) pp = some B)
    (hC : encOption (encBytesN 32) ct = some C) (hD : encBytesN 48 pk = some D)
    (hE : encUint 1 (.n sz) = some E) (hF : encBytes pf = some F) :
    encPos O fh (.tup [ch, pp, ct, pk, .n 0, .n 0, .n 0, .n 0, .n sz, pf]) = some (A ++ B ++ C ++ D ++ E ++ F) := by
  simp only [encPos, hA, hB, hC, hD, hE, hF, if_true]

theorem encPos_v1 {O : Oracles} {fh : Bool} {ch pp ct pk pf : V} {pi mg st : Nat} {A B C D E1 E2 E3 F : Bytes}
    (hA : encBytesN 32 ch = some A) (hB : encOption (encBytesN 48) pp = some B)
    (hC : encContract2 ct = some C) (hD : encBytesN 48 pk = some D) (hE1 : encUint 2 (.n pi) = some E1)
    (hE2 : encUint 1 (.n mg) = some E2) (hE3 : encUint 1 (.n st) = some E3) (hF : encBytes pf = some F) :
    encPos O fh (.tup [ch, pp, ct, pk, .n 1, .n pi, .n mg, .n st, .n 0, pf]) =
      if fh then (O.quality (A ++ B ++ C ++ D ++ E1 ++ E2 ++ E3 ++ F)).map (A ++ B ++ C ++ D ++ E1 ++ E2 ++ E3 ++ ·)
      else some (A ++ B ++ C ++ D ++ E1 ++ E2 ++ E3 ++ F) := by
  simp only [encPos, hA, hB, hC, hD, hE1, hE2, hE3, hF, if_neg (by decide : ¬ (1 : Nat) = 0), if_true]

theorem encContract2_of {ct : V} {t : Nat} {q : Bytes} (h : encOption (encBytesN 32) ct = some (t :: q)) :
    encContract2 ct = some ((t + 2) :: q) := by
  cases ct <;> simp [encOption] at h
  · obtain ⟨rfl, rfl⟩ := h; rfl
  · obtain ⟨hx, rfl⟩ := h
    simp [encContract2, hx]

theorem codec_pos (O : Oracles) (tr : Bool) : Codec (decPos O tr) (encPos O false) (wfPos O tr) where
  rt := by
    intro v hv
    obtain ⟨ch, pp, ct, pk, version, pi, mg, st, sz, pf, rfl, h1, h2, h3, h4, h5, h6⟩ := wfPos_iff.mp hv
    obtain ⟨A, heA, hdA⟩ := (codec_bytesN 32).rt ch h1
    obtain ⟨B, heB, hdB⟩ := (codec_option (codec_g1 O tr)).rt pp h2
    obtain ⟨C, heC, hdC⟩ := (codec_option (codec_bytesN 32)).rt ct h3
    obtain ⟨D, heD, hdD⟩ := (codec_g1 O tr).rt pk h4
    obtain ⟨F, heF, hdF⟩ := codec_bytes.rt pf h5
    obtain ⟨t, q, rfl, ht⟩ := encOption_shape heC
    -- the prefix byte is `t + 2 * version`; the Option body behind it is read as on `t :: q`
    have hdC : ∀ k r, k % 2 = t → (decPresent (k % 2 != 0) (decBytesN 32) (q ++ r)).out = .ok (ct, r) := by
      intro k r hk
      rw [present_eq_option, hk]
      exact hdC r
    rcases h6 with ⟨rfl, rfl, rfl, rfl, hsz⟩ | ⟨rfl, hpi, hmg, hst, rfl, hs⟩
    · have hE := encUint_of_lt (n := 1) hsz
      refine ⟨A ++ B ++ (t :: q) ++ D ++ be 1 sz ++ F, encPos_v0 heA heB heC heD hE heF, fun r => ?_⟩
      simp only [List.append_assoc, List.cons_append]
      unfold decPos
      rw [Res.bind_of_ok (hdA _), Res.bind_of_ok (hdB _), readUint_one_cons, Res.pure_bind,
        Res.bind_of_ok (hdC t _ (Nat.mod_eq_of_lt ht)), Res.bind_of_ok (hdD _), if_pos (Nat.div_eq_of_lt ht)]
      unfold decUint
      rw [Res.bind_of_ok (Res.bind_of_ok (readUint_be hsz _)), Res.bind_of_ok (hdF r)]
      rfl
    · have hE1 := encUint_of_lt (n := 2) hpi
      have hE2 := encUint_of_lt (n := 1) hmg
      have hE3 := encUint_of_lt (n := 1) hst
      refine ⟨A ++ B ++ ((t + 2) :: q) ++ D ++ be 2 pi ++ be 1 mg ++ be 1 st ++ F,
        encPos_v1 heA heB (encContract2_of heC) heD hE1 hE2 hE3 heF, fun r => ?_⟩
      simp only [List.append_assoc, List.cons_append]
      unfold decPos
      rw [Res.bind_of_ok (hdA _), Res.bind_of_ok (hdB _), readUint_one_cons, Res.pure_bind,
        Res.bind_of_ok (hdC (t + 2) _ (tag_v1 ht).2), Res.bind_of_ok (hdD _),
        if_neg (by rw [(tag_v1 ht).1]; decide), if_pos (tag_v1 ht).1]
      unfold decUint
      rw [Res.bind_of_ok (Res.bind_of_ok (readUint_be hpi _)), Res.bind_of_ok (Res.bind_of_ok (readUint_be hmg _)),
        Res.bind_of_ok (Res.bind_of_ok (readUint_be hst _)), Res.bind_of_ok (hdF r)]
      dsimp only
      rw [if_neg (by rw [hs]; decide)]
      rfl
  cn := by
    intro b v r hb hd
    unfold decPos at hd
    obtain ⟨ch, r1, A, heA, rfl, hwA, hb1, hd⟩ := (codec_bytesN 32).cn_bind hb hd
    obtain ⟨pp, r2, B, heB, rfl, hwB, hb2, hd⟩ := (codec_option (codec_g1 O tr)).cn_bind hb1 hd
    cases r2 with
    | nil => cases hd
    | cons k r3 =>
      rw [readUint_one_cons, Res.pure_bind, present_eq_option] at hd
      have hb3 : isBytes (k % 2 :: r3) :=
        isBytes_cons.mpr ⟨Nat.lt_trans (Nat.mod_lt k (by decide)) (by decide), (isBytes_cons.mp hb2).2⟩
      obtain ⟨ct, r4, C, heC, hpC, hwC, hb4, hd⟩ := (codec_option (codec_bytesN 32)).cn_bind hb3 hd
      obtain ⟨pk, r5, D, heD, rfl, hwD, hb5, hd⟩ := (codec_g1 O tr).cn_bind hb4 hd
      obtain ⟨t, q, rfl, _⟩ := encOption_shape heC
      injection hpC with ht hq
      rcases Res.ite_ok hd with ⟨h0, hd⟩ | ⟨_, hd⟩
      · obtain ⟨sz, r6, E, heE, rfl, hwE, hb6, hd⟩ := (codec_uint 1).cn_bind hb5 hd
        obtain ⟨pf, r7, F, heF, rfl, hwF, _, hd⟩ := codec_bytes.cn_bind hb6 hd
        cases hd
        obtain ⟨x, rfl, hx⟩ := wfUint_iff.mp hwE
        refine ⟨A ++ B ++ (t :: q) ++ D ++ E ++ F, encPos_v0 heA heB heC heD heE heF, ?_, ?_⟩
        · rw [← hq, ht, prefix_v0 h0]; simp only [List.append_assoc, List.cons_append]; rfl
        · exact wfPos_iff.mpr ⟨ch, pp, ct, pk, 0, 0, 0, 0, x, pf, rfl, hwA, hwB, hwC, hwD, hwF,
            Or.inl ⟨rfl, rfl, rfl, rfl, hx⟩⟩
      rcases Res.ite_ok hd with ⟨h1, hd⟩ | ⟨_, hd⟩
      · obtain ⟨pi, r6, E1, heE1, rfl, hwE1, hb6, hd⟩ := (codec_uint 2).cn_bind hb5 hd
        obtain ⟨mg, r7, E2, heE2, rfl, hwE2, hb7, hd⟩ := (codec_uint 1).cn_bind hb6 hd
        obtain ⟨st, r8, E3, heE3, rfl, hwE3, hb8, hd⟩ := (codec_uint 1).cn_bind hb7 hd
        obtain ⟨pf, r9, F, heF, rfl, hwF, _, hd⟩ := codec_bytes.cn_bind hb8 hd
        rcases Res.ite_ok hd with ⟨_, hd⟩ | ⟨hs, hd⟩
        · cases hd
        cases hd
        obtain ⟨x1, rfl, hx1⟩ := wfUint_iff.mp hwE1
        obtain ⟨x2, rfl, hx2⟩ := wfUint_iff.mp hwE2
        obtain ⟨x3, rfl, hx3⟩ := wfUint_iff.mp hwE3
        refine ⟨A ++ B ++ ((t + 2) :: q) ++ D ++ E1 ++ E2 ++ E3 ++ F,
          encPos_v1 heA heB (encContract2_of heC) heD heE1 heE2 heE3 heF, ?_, ?_⟩
        · rw [← hq, ht, prefix_v1 h1]; simp only [List.append_assoc, List.cons_append]; rfl
        · exact wfPos_iff.mpr ⟨ch, pp, ct, pk, 1, x1, x2, x3, 0, pf, rfl, hwA, hwB, hwC, hwD, hwF,
            Or.inr ⟨rfl, hx1, hx2, hx3, rfl, (Bool.not_eq_true _).mp hs⟩⟩
      · cases hd

end ChiaModel.Streamable
