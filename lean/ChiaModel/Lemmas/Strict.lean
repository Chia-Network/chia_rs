import ChiaModel.Lemmas.CondInv
import ChiaModel.Lemmas.ArgGrammar
/-
C06, first half: the strictness flags (NO_UNKNOWN_CONDS, STRICT_ARGS_COUNT, LIMIT_SPENDS) only
restrict.  The tool is the relation `Le x y` on `Except` computations ("if `x` accepts with result
`a` then `y` accepts with the same result"), which is a congruence for `>>=` and is established at each guard the flags add
(`Le.guard`, `Le.rejectGuard`).  For `parse_args` the guards are read off its table-driven form (`parseArgs_eq_spec`).
-/
namespace ChiaModel.Cond

structure Le {α : Type} (x y : R α) : Prop where
  imp : ∀ a, x = .ok a → y = .ok a

theorem Le.refl {α : Type} (x : R α) : Le x x := ⟨fun _ h => h⟩

theorem Le.of_eq {α : Type} {x y : R α} (h : x = y) : Le x y := ⟨fun _ hx => h ▸ hx⟩

theorem Le.error {α : Type} (e : Err) (y : R α) : Le (Except.error e) y := ⟨fun _ h => by cases h⟩

theorem Le.trans {α : Type} {x y z : R α} (h1 : Le x y) (h2 : Le y z) : Le x z := ⟨fun a h => h2.imp a (h1.imp a h)⟩

theorem Le.bind {α β : Type} {x y : R α} {f g : α → R β} (h : Le x y) (hf : ∀ a, Le (f a) (g a)) :
    Le (x >>= f) (y >>= g) := by
  refine ⟨fun b hb => ?_⟩
  obtain ⟨a, ha, hfa⟩ := bind_ok hb
  rw [h.imp a ha]
  exact (hf a).imp b hfa

theorem Le.drop {α β : Type} (x : R α) {f : α → R β} {z : R β} (hf : ∀ a, Le (f a) z) : Le (x >>= f) z := by
  refine ⟨fun b hb => ?_⟩
  obtain ⟨a, _, hfa⟩ := bind_ok hb
  exact (hf a).imp b hfa

/-- a guard that is on in the stricter run and possibly off in the laxer run -/
theorem Le.guard {α : Type} {s1 s2 : Bool} (h : s2 = true → s1 = true) {A1 A2 B1 B2 : R α}
    (hA : Le A1 A2) (hAB : Le A1 B2) (hB : Le B1 B2) :
    Le (if s1 = true then A1 else B1) (if s2 = true then A2 else B2) := by
  cases s2 with
  | true => rw [h rfl]; simpa using hA
  | false =>
    cases s1 with
    | true => simpa using hAB
    | false => simpa using hB

theorem Le.rejectGuard {α : Type} {s1 s2 : Bool} (h : s2 = true → s1 = true) (e : Err) {B1 B2 : R α}
    (hB : Le B1 B2) :
    Le (if s1 = true then Except.error e else B1) (if s2 = true then Except.error e else B2) :=
  Le.guard h (Le.refl _) (Le.error _ _) hB

/-- flag word `f1` is at least as strict as `f2`, as far as `parse_args` is concerned -/
structure ArgsStricter (f1 f2 : Nat) : Prop where
  strict : strict f2 = true → strict f1 = true
  nu : hasFlag f2 Gen.flagNoUnknownConds = true → hasFlag f1 Gen.flagNoUnknownConds = true

/-- `if strict f then (checks; k) else k`: the checks can only fail -/
theorem strictCheck_mono {α : Type} {f1 f2 : Nat} (h : ArgsStricter f1 f2) (x : R Unit) (k : Unit → R α) :
    Le (if strict f1 = true then x >>= k else k ()) (if strict f2 = true then x >>= k else k ()) :=
  Le.guard h.strict (Le.refl _) (Le.drop x (fun u => by cases u; exact Le.refl _)) (Le.refl _)

open Grammar in
theorem terminatorOk_mono {f1 f2 : Nat} (h : ArgsStricter f1 f2) (e : Option Sexp) (h1 : terminatorOk f1 e = true) :
    terminatorOk f2 e = true := by
  cases e with
  | none => rfl
  | some t =>
    change (!strict f1 || t.isNil) = true at h1
    show (!strict f2 || t.isNil) = true
    cases hs : strict f2 with
    | false => rfl
    | true => rw [h.strict hs] at h1; exact h1

open Grammar in
theorem parseArgs_mono {f1 f2 : Nat} (h : ArgsStricter f1 f2) (c : Sexp) (op : Nat) :
    Le (parseArgs c op f1) (parseArgs c op f2) := by
  -- in the table-driven form of `parse_args` the flags are read at two places: NO_UNKNOWN_CONDS before the row of an
  -- unknown-class opcode is interpreted, STRICT_ARGS_COUNT at the terminator
  rw [parseArgs_eq_spec, parseArgs_eq_spec]
  unfold specParseArgs
  cases grammar op with
  | none => exact Le.refl _
  | some p =>
    have hi : Le (interp p.1 p.2 (build op) c f1) (interp p.1 p.2 (build op) c f2) := by
      unfold interp
      cases walk p.1 c with
      | none => exact Le.refl _
      | some q =>
        obtain ⟨vals, t⟩ := q
        dsimp only
        cases tailRule p.2 vals t with
        | none => exact Le.refl _
        | some r =>
          obtain ⟨extra, e⟩ := r
          dsimp only
          by_cases h1 : terminatorOk f1 e = true
          · rw [if_pos h1, if_pos (terminatorOk_mono h _ h1)]; exact Le.refl _
          · rw [if_neg h1]; exact Le.error _ _
    cases unknownClass op with
    | false => exact hi
    | true => simpa only [Bool.true_and] using Le.rejectGuard h.nu _ hi

/-- `e1` is at least as strict as `e2` and otherwise reads the same -/
structure StricterThan (e1 e2 : Env) : Prop where
  mempool : e1.mempool = e2.mempool
  pkOk : e1.pkOk = e2.pkOk
  cc : hasFlag e1.flags Gen.flagCostConditions = hasFlag e2.flags Gen.flagCostConditions
  dvs : hasFlag e1.flags Gen.flagDontValidateSignature = hasFlag e2.flags Gen.flagDontValidateSignature
  nu : hasFlag e2.flags Gen.flagNoUnknownConds = true → hasFlag e1.flags Gen.flagNoUnknownConds = true
  sac : hasFlag e2.flags Gen.flagStrictArgsCount = true → hasFlag e1.flags Gen.flagStrictArgsCount = true
  ls : hasFlag e2.flags Gen.flagLimitSpends = true → hasFlag e1.flags Gen.flagLimitSpends = true

theorem StricterThan.refl (e : Env) : StricterThan e e := ⟨rfl, rfl, rfl, rfl, id, id, id⟩

theorem StricterThan.args {e1 e2 : Env} (h : StricterThan e1 e2) : ArgsStricter e1.flags e2.flags :=
  ⟨h.sac, h.nu⟩

variable {e1 e2 : Env}

theorem applyCond_env (h : StricterThan e1 e2) (s : CSt) (c : Cond) : applyCond e1 s c = applyCond e2 s c :=
  applyCond_env_eq h.pkOk h.cc h.dvs s c

theorem visitCondition_env (h : StricterThan e1 e2) (n f : Nat) (c : Cond) :
    visitCondition e1 n f c = visitCondition e2 n f c := by
  unfold visitCondition; rw [h.mempool]

theorem preCharge_env (h : StricterThan e1 e2) (op : Nat) : preCharge e1.flags op = preCharge e2.flags op := by
  simp only [preCharge, h.cc]

theorem spendCharge_env (h : StricterThan e1 e2) : spendCharge e1.flags = spendCharge e2.flags := by
  simp only [spendCharge, h.cc]

theorem newSpendVisit_env (h : StricterThan e1 e2) (s : CSt) : newSpendVisit e1 s = newSpendVisit e2 s := by
  simp only [newSpendVisit, h.mempool]

theorem finishSpend_env (h : StricterThan e1 e2) (s : CSt) : finishSpend e1 s = finishSpend e2 s := by
  unfold finishSpend postSpend; rw [h.mempool]

theorem postProcess_env (h : StricterThan e1 e2) (ret : Bundle) (st : PState) :
    postProcess e1 ret st = postProcess e2 ret st := by
  unfold postProcess; rw [h.mempool]

theorem finishBundle_env (h : StricterThan e1 e2) (sigOk : List (Bytes × Bytes) → Bool) (ret : Bundle) (st : PState) :
    finishBundle e1 sigOk ret st = finishBundle e2 sigOk ret st := by
  unfold finishBundle
  rw [postProcess_env h, h.dvs]

theorem spendLimit_le (h : StricterThan e1 e2) : spendLimit e1.flags ≤ spendLimit e2.flags := by
  unfold spendLimit
  cases h2 : hasFlag e2.flags Gen.flagLimitSpends with
  | true => rw [h.ls h2]; exact Nat.le_refl _
  | false =>
    cases hasFlag e1.flags Gen.flagLimitSpends with
    | true => simp [MAX_SPENDS_PER_BLOCK]
    | false => exact Nat.le_refl _

theorem pureCond_mono (h : StricterThan e1 e2) (s : CSt) (c : Sexp) (op : Nat) :
    Le (pureCond e1 s c op) (pureCond e2 s c op) := by
  unfold pureCond
  refine Le.bind (Le.refl _) (fun args => Le.bind (parseArgs_mono h.args _ _) (fun cva => ?_))
  dsimp only
  rw [visitCondition_env h, applyCond_env h]
  exact Le.refl _

theorem stepCond_mono (h : StricterThan e1 e2) (s : CSt) (m : Nat) (c : Sexp) :
    Le (stepCond e1 s m c) (stepCond e2 s m c) := by
  unfold stepCond
  refine Le.bind (Le.refl _) (fun opn => ?_)
  cases parseOpcode opn with
  | none =>
    dsimp only
    rw [h.cc]
    exact Le.rejectGuard h.nu _ (Le.refl _)
  | some op =>
    dsimp only
    rw [preCharge_env h]
    exact Le.bind (Le.refl _) (fun ⟨s, m⟩ => Le.bind (pureCond_mono h _ _ _) (fun _ => Le.refl _))

theorem condLoop_mono (h : StricterThan e1 e2) : ∀ (t : Sexp) (s : CSt) (m : Nat),
    Le (condLoop e1 t s m) (condLoop e2 t s m) := by
  intro t
  induction t with
  | atom b => intro s m; cases b <;> simp only [condLoop] <;> exact Le.refl _
  | pair c nxt _ ih =>
    intro s m
    simp only [condLoop]
    exact Le.bind (stepCond_mono h _ _ _) (fun ⟨s, m⟩ => ih s m)

theorem processSingleSpend_mono (h : StricterThan e1 e2) (ret : Bundle) (st : PState) (parent ph amount conds : Sexp)
    (cc m : Nat) :
    Le (processSingleSpend e1 ret st parent ph amount conds cc m)
       (processSingleSpend e2 ret st parent ph amount conds cc m) := by
  unfold processSingleSpend
  cases spendHeader ret st parent ph amount cc with
  | error e => exact Le.refl _
  | ok s0 =>
    dsimp only
    rw [spendCharge_env h]
    refine Le.bind (Le.refl _) (fun ⟨s0, m⟩ => ?_)
    dsimp only
    rw [newSpendVisit_env h]
    refine Le.bind (condLoop_mono h _ _ _) (fun ⟨s, m⟩ => ?_)
    dsimp only
    rw [finishSpend_env h]
    exact Le.refl _

theorem spendLoop_mono (h : StricterThan e1 e2) (cc : Nat) : ∀ (t : Sexp) (ret : Bundle) (st : PState) (n n' m : Nat),
    n ≤ n' → Le (spendLoop e1 cc t ret st n m) (spendLoop e2 cc t ret st n' m) := by
  intro t
  induction t with
  | atom b => intro ret st n n' m _; cases b <;> simp only [spendLoop] <;> exact Le.refl _
  | pair sp nxt _ ih =>
    intro ret st n n' m hn
    simp only [spendLoop]
    by_cases h0 : n = 0
    · rw [if_pos h0]; exact Le.error _ _
    · rw [if_neg h0, if_neg (by omega : ¬ n' = 0)]
      cases parseSingleSpend sp with
      | error e => exact Le.refl _
      | ok q =>
        obtain ⟨parent, ph, amount, conds⟩ := q
        dsimp only
        exact Le.bind (processSingleSpend_mono h _ _ _ _ _ _ _ _)
          (fun ⟨⟨ret, st⟩, m⟩ => ih _ _ _ _ _ (by omega))

theorem parseSpends_mono (h : StricterThan e1 e2) (sigOk : List (Bytes × Bytes) → Bool) (t : Sexp) (L cc : Nat) :
    Le (parseSpends e1 sigOk t L cc) (parseSpends e2 sigOk t L cc) := by
  unfold parseSpends
  cases first t with
  | error e => exact Le.refl _
  | ok iter =>
    dsimp only
    cases hl : spendLoop e1 cc iter {} {} (spendLimit e1.flags) L with
    | error e => exact Le.error _ _
    | ok p =>
      obtain ⟨⟨ret, st⟩, left⟩ := p
      rw [(spendLoop_mono h cc iter {} {} _ _ L (spendLimit_le h)).imp _ hl]
      dsimp only
      rw [finishBundle_env h]
      exact Le.refl _

theorem hasFlag_or (a S f : Nat) : hasFlag (a ||| S) f = (hasFlag a f || hasFlag S f) := by
  simp [hasFlag, Nat.and_or_distrib_right, Nat.or_eq_zero_iff]

theorem hasFlag_or_disjoint (a S f : Nat) (h : S &&& f = 0) : hasFlag (a ||| S) f = hasFlag a f := by
  rw [hasFlag_or, show hasFlag S f = false from by simp [hasFlag, h], Bool.or_false]

theorem hasFlag_or_mono (a S f : Nat) (h : hasFlag a f = true) : hasFlag (a ||| S) f = true := by
  rw [hasFlag_or, h, Bool.true_or]

theorem stricterThan_or (env : Env) (S : Nat) (h1 : S &&& Gen.flagCostConditions = 0)
    (h2 : S &&& Gen.flagDontValidateSignature = 0) :
    StricterThan { env with flags := env.flags ||| S } env :=
  ⟨rfl, rfl, hasFlag_or_disjoint _ _ _ h1, hasFlag_or_disjoint _ _ _ h2,
   hasFlag_or_mono _ _ _, hasFlag_or_mono _ _ _, hasFlag_or_mono _ _ _⟩

def strictMask (nu sac ls : Bool) : Nat :=
  (if nu then Gen.flagNoUnknownConds else 0) ||| (if sac then Gen.flagStrictArgsCount else 0)
    ||| (if ls then Gen.flagLimitSpends else 0)

theorem strictMask_disjoint (nu sac ls : Bool) :
    strictMask nu sac ls &&& Gen.flagCostConditions = 0 ∧ strictMask nu sac ls &&& Gen.flagDontValidateSignature = 0 := by
  cases nu <;> cases sac <;> cases ls <;> decide

end ChiaModel.Cond
