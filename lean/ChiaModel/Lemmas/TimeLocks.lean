import ChiaModel.Model.TimeLocks
import ChiaModel.Lemmas.CondNF
/-
C03: what it means for a lock field to summarise a list of individual assertions (`MaxSpec`, `MinSpec`, `SameSpec`,
`AbsMaxSpec`, collected in `SpendSum` / `BundleSum`; each is kept by the field's combining function, `*_append`, the first
three by one argument about their common shape `SelSpec`), the value a
condition carries for each field through `lockOf`, and the pairing of two lists `All2`.  That the model's fields are such
summaries is in Lemmas/LockSummary.lean.
-/
namespace ChiaModel.TL
open ChiaModel ChiaModel.Cond

def hrOf : Lock → Option Nat | .heightRel v => some v | _ => none
def srOf : Lock → Option Nat | .secondsRel v => some v | _ => none
def bhrOf : Lock → Option Nat | .beforeHeightRel v => some v | _ => none
def bsrOf : Lock → Option Nat | .beforeSecondsRel v => some v | _ => none
def bhOf : Lock → Option Nat | .birthHeight v => some v | _ => none
def bsOf : Lock → Option Nat | .birthSeconds v => some v | _ => none
def haOf : Lock → Option Nat | .heightAbs v => some v | _ => none
def saOf : Lock → Option Nat | .secondsAbs v => some v | _ => none
def bhaOf : Lock → Option Nat | .beforeHeightAbs v => some v | _ => none
def bsaOf : Lock → Option Nat | .beforeSecondsAbs v => some v | _ => none

def MaxSpec (o : Option Nat) (vs : List Nat) : Prop :=
  match o with | none => vs = [] | some m => m ∈ vs ∧ ∀ v ∈ vs, v ≤ m
def MinSpec (o : Option Nat) (vs : List Nat) : Prop :=
  match o with | none => vs = [] | some m => m ∈ vs ∧ ∀ v ∈ vs, m ≤ v
def SameSpec (o : Option Nat) (vs : List Nat) : Prop :=
  match o with | none => vs = [] | some m => m ∈ vs ∧ ∀ v ∈ vs, v = m
/-- `m` is the maximum of `vs` with 0 as the neutral "no constraint" value -/
def AbsMaxSpec (m : Nat) (vs : List Nat) : Prop := (∀ v ∈ vs, v ≤ m) ∧ (m = 0 ∨ m ∈ vs)

/-! a field that summarises `vs`, combined with a summary of `ws`, summarises `vs ++ ws`; `optApp optMax` / `optApp optMin` /
`max` are the combining functions of the lock fields (`condUpd`, `stateAfter`, `enterSpend`) -/

/-- the common shape of `MaxSpec`, `MinSpec`, `SameSpec`: the field is absent for the empty list, and otherwise an element
to which every element stands in the relation `R` -/
def SelSpec (R : Nat → Nat → Prop) (o : Option Nat) (vs : List Nat) : Prop :=
  match o with | none => vs = [] | some m => m ∈ vs ∧ ∀ v ∈ vs, R v m

/-- `g` combines a field with a value by `f`, which selects one of its arguments, both of which stand in `R` to the selected
one (`hsel`, asked only of the values at hand); `R` is transitive -/
theorem SelSpec_append {R : Nat → Nat → Prop} {g : Option Nat → Nat → Option Nat} {f : Nat → Nat → Nat}
    (hg0 : ∀ v, g none v = some v) (hg1 : ∀ e v, g (some e) v = some (f e v)) (htr : ∀ {a b c}, R a b → R b c → R a c)
    {a b : Option Nat} {vs ws : List Nat}
    (hsel : ∀ x y, a = some x → b = some y → (f x y = x ∨ f x y = y) ∧ R x (f x y) ∧ R y (f x y))
    (h1 : SelSpec R a vs) (h2 : SelSpec R b ws) : SelSpec R (optApp g a b) (vs ++ ws) := by
  cases b with
  | none => cases h2; simpa using h1
  | some y =>
    cases a with
    | none => cases h1; simpa [hg0] using h2
    | some x =>
      obtain ⟨hs, hx, hy⟩ := hsel x y rfl rfl
      obtain ⟨m1, l1⟩ := h1
      obtain ⟨m2, l2⟩ := h2
      show SelSpec R (g (some x) y) _
      rw [hg1]
      refine ⟨?_, fun v hv => ?_⟩
      · rcases hs with e | e <;> rw [e]
        · exact List.mem_append_left _ m1
        · exact List.mem_append_right _ m2
      · rcases List.mem_append.mp hv with hv | hv
        · exact htr (l1 v hv) hx
        · exact htr (l2 v hv) hy

/-- a property that `R` carries from the selected element to every element holds of the field iff of all elements -/
theorem SelSpec_bound {R : Nat → Nat → Prop} {o : Option Nat} {vs : List Nat} (h : SelSpec R o vs) (P : Nat → Prop)
    (hP : ∀ v m, R v m → P m → P v) : (∀ m, o = some m → P m) ↔ ∀ v ∈ vs, P v := by
  cases o with
  | none => cases h; simp
  | some m => exact ⟨fun hm v hv => hP v m (h.2 v hv) (hm m rfl), fun hv m' e => Option.some.inj e ▸ hv m h.1⟩

theorem MaxSpec_append {a b : Option Nat} {vs ws : List Nat} (h1 : MaxSpec a vs) (h2 : MaxSpec b ws) :
    MaxSpec (optApp optMax a b) (vs ++ ws) :=
  SelSpec_append (R := (· ≤ ·)) (f := max) (fun _ => rfl) (fun _ _ => rfl) Nat.le_trans
    (fun x y _ _ => ⟨by omega, Nat.le_max_left .., Nat.le_max_right ..⟩) h1 h2

theorem MinSpec_append {a b : Option Nat} {vs ws : List Nat} (h1 : MinSpec a vs) (h2 : MinSpec b ws) :
    MinSpec (optApp optMin a b) (vs ++ ws) :=
  SelSpec_append (R := fun v m => m ≤ v) (f := min) (fun _ => rfl) (fun _ _ => rfl) (fun h h' => Nat.le_trans h' h)
    (fun x y _ _ => ⟨by omega, Nat.min_le_left .., Nat.min_le_right ..⟩) h1 h2

/-- `hne`: the value `ws` agree on is the one `vs` agree on -/
theorem SameSpec_append {a b : Option Nat} {vs ws : List Nat} (h1 : SameSpec a vs) (h2 : SameSpec b ws)
    (hne : ∀ v, b = some v → isSomeNe a v = false) : SameSpec (optApp (fun _ v => some v) a b) (vs ++ ws) :=
  SelSpec_append (R := (· = ·)) (f := fun _ y => y) (fun _ => rfl) (fun _ _ => rfl) Eq.trans
    (fun x y ha hb => ⟨Or.inr rfl, by simpa [isSomeNe, ha] using hne y hb, rfl⟩) h1 h2

theorem AbsMaxSpec_append {a b : Nat} {vs ws : List Nat} (h1 : AbsMaxSpec a vs) (h2 : AbsMaxSpec b ws) :
    AbsMaxSpec (max a b) (vs ++ ws) := by
  refine ⟨fun v hv => ?_, ?_⟩
  · rcases List.mem_append.mp hv with hv | hv
    · have := h1.1 v hv; omega
    · have := h2.1 v hv; omega
  · rcases Nat.le_total a b with hab | hab
    · rw [Nat.max_eq_right hab]
      exact h2.2.imp id (List.mem_append_right _)
    · rw [Nat.max_eq_left hab]
      exact h1.2.imp id (List.mem_append_left _)

theorem MaxSpec_single (v : Nat) : MaxSpec (some v) [v] := by simp [MaxSpec]
theorem MinSpec_single (v : Nat) : MinSpec (some v) [v] := by simp [MinSpec]
theorem AbsMaxSpec_single (v : Nat) : AbsMaxSpec v [v] := by simp [AbsMaxSpec]

structure SpendSum (sp : Spend) (ls : List Lock) : Prop where
  hr : MaxSpec sp.heightRelative (ls.filterMap hrOf)
  sr : MaxSpec sp.secondsRelative (ls.filterMap srOf)
  bhr : MinSpec sp.beforeHeightRelative (ls.filterMap bhrOf)
  bsr : MinSpec sp.beforeSecondsRelative (ls.filterMap bsrOf)
  bh : SameSpec sp.birthHeight (ls.filterMap bhOf)
  bs : SameSpec sp.birthSeconds (ls.filterMap bsOf)

structure BundleSum (b : Bundle) (ls : List Lock) : Prop where
  ha : AbsMaxSpec b.heightAbsolute (ls.filterMap haOf)
  sa : AbsMaxSpec b.secondsAbsolute (ls.filterMap saOf)
  bha : MinSpec b.beforeHeightAbsolute (ls.filterMap bhaOf)
  bsa : MinSpec b.beforeSecondsAbsolute (ls.filterMap bsaOf)

theorem BundleSum_init : BundleSum {} [] := by
  constructor <;> simp [AbsMaxSpec, MinSpec]

section lockOf
variable (c : Cond)
theorem lockOf_hr : (lockOf c).bind hrOf = Rules.heightRelOf c := by cases c <;> rfl
theorem lockOf_sr : (lockOf c).bind srOf = Rules.secondsRelOf c := by cases c <;> rfl
theorem lockOf_bhr : (lockOf c).bind bhrOf = Rules.beforeHeightRelOf c := by cases c <;> rfl
theorem lockOf_bsr : (lockOf c).bind bsrOf = Rules.beforeSecondsRelOf c := by cases c <;> rfl
theorem lockOf_bh : (lockOf c).bind bhOf = Rules.birthHeightOf c := by cases c <;> rfl
theorem lockOf_bs : (lockOf c).bind bsOf = Rules.birthSecondsOf c := by cases c <;> rfl
theorem lockOf_ha : (lockOf c).bind haOf = Rules.heightAbsOf c := by cases c <;> rfl
theorem lockOf_sa : (lockOf c).bind saOf = Rules.secondsAbsOf c := by cases c <;> rfl
theorem lockOf_bha : (lockOf c).bind bhaOf = Rules.beforeHeightAbsOf c := by cases c <;> rfl
theorem lockOf_bsa : (lockOf c).bind bsaOf = Rules.beforeSecondsAbsOf c := by cases c <;> rfl
end lockOf

theorem filterMap_lockOf {p : Lock → Option Nat} {q : Cond → Option Nat} (h : ∀ c, (lockOf c).bind p = q c)
    (cs : List Cond) : (cs.filterMap lockOf).filterMap p = cs.filterMap q := by
  rw [List.filterMap_filterMap]
  exact congrArg (List.filterMap · cs) (funext h)

inductive All2 {α β : Type} (R : α → β → Prop) : List α → List β → Prop where
  | nil : All2 R [] []
  | cons {a b l1 l2} : R a b → All2 R l1 l2 → All2 R (a :: l1) (b :: l2)

theorem All2.snoc {α β : Type} {R : α → β → Prop} {l1 : List α} {l2 : List β} {a : α} {b : β}
    (h : All2 R l1 l2) (hab : R a b) : All2 R (l1 ++ [a]) (l2 ++ [b]) := by
  induction h with
  | nil => exact .cons hab .nil
  | cons h1 _ ih => exact .cons h1 ih

theorem All2.map_left {α β γ : Type} {R : α → β → Prop} {S : γ → β → Prop} {l1 : List α} {l2 : List β} (f : α → γ)
    (h : All2 R l1 l2) (hf : ∀ a b, R a b → S (f a) b) : All2 S (l1.map f) l2 := by
  induction h with
  | nil => exact .nil
  | cons h1 _ ih => exact .cons (hf _ _ h1) ih

theorem All2.zip_mem {α β : Type} {R : α → β → Prop} {l1 : List α} {l2 : List β} (h : All2 R l1 l2) :
    ∀ p ∈ l1.zip l2, R p.1 p.2 := by
  induction h with
  | nil => nofun
  | cons h1 _ ih =>
    intro p hp
    simp only [List.zip_cons_cons, List.mem_cons] at hp
    rcases hp with rfl | hp
    · exact h1
    · exact ih p hp

/-- the lock fields of a finished spend are the max / min / common value of the locks its conditions carry -/
def SpendOk (flags : Nat) (sp : Spend) (tree : Sexp) : Prop := SpendSum sp (spendLocks flags tree)

theorem mem_filterMap_proj {p : Lock → Option Nat} {k : Nat → Lock} (hp : ∀ l v, p l = some v ↔ l = k v)
    (ls : List Lock) (v : Nat) : v ∈ ls.filterMap p ↔ k v ∈ ls := by
  simp only [List.mem_filterMap]
  constructor
  · rintro ⟨l, hl, h⟩
    exact (hp l v).mp h ▸ hl
  · intro h; exact ⟨_, h, (hp _ v).mpr rfl⟩

theorem mem_hrOf (ls : List Lock) (v : Nat) : v ∈ ls.filterMap hrOf ↔ Lock.heightRel v ∈ ls :=
  mem_filterMap_proj (fun l v => by cases l <;> simp [hrOf]) ls v

theorem mem_srOf (ls : List Lock) (v : Nat) : v ∈ ls.filterMap srOf ↔ Lock.secondsRel v ∈ ls :=
  mem_filterMap_proj (fun l v => by cases l <;> simp [srOf]) ls v

theorem mem_bhrOf (ls : List Lock) (v : Nat) : v ∈ ls.filterMap bhrOf ↔ Lock.beforeHeightRel v ∈ ls :=
  mem_filterMap_proj (fun l v => by cases l <;> simp [bhrOf]) ls v

theorem mem_bsrOf (ls : List Lock) (v : Nat) : v ∈ ls.filterMap bsrOf ↔ Lock.beforeSecondsRel v ∈ ls :=
  mem_filterMap_proj (fun l v => by cases l <;> simp [bsrOf]) ls v

theorem mem_bhOf (ls : List Lock) (v : Nat) : v ∈ ls.filterMap bhOf ↔ Lock.birthHeight v ∈ ls :=
  mem_filterMap_proj (fun l v => by cases l <;> simp [bhOf]) ls v

theorem mem_bsOf (ls : List Lock) (v : Nat) : v ∈ ls.filterMap bsOf ↔ Lock.birthSeconds v ∈ ls :=
  mem_filterMap_proj (fun l v => by cases l <;> simp [bsOf]) ls v

theorem mem_haOf (ls : List Lock) (v : Nat) : v ∈ ls.filterMap haOf ↔ Lock.heightAbs v ∈ ls :=
  mem_filterMap_proj (fun l v => by cases l <;> simp [haOf]) ls v

theorem mem_saOf (ls : List Lock) (v : Nat) : v ∈ ls.filterMap saOf ↔ Lock.secondsAbs v ∈ ls :=
  mem_filterMap_proj (fun l v => by cases l <;> simp [saOf]) ls v

theorem mem_bhaOf (ls : List Lock) (v : Nat) : v ∈ ls.filterMap bhaOf ↔ Lock.beforeHeightAbs v ∈ ls :=
  mem_filterMap_proj (fun l v => by cases l <;> simp [bhaOf]) ls v

theorem mem_bsaOf (ls : List Lock) (v : Nat) : v ∈ ls.filterMap bsaOf ↔ Lock.beforeSecondsAbs v ∈ ls :=
  mem_filterMap_proj (fun l v => by cases l <;> simp [bsaOf]) ls v

theorem All2.exists_right {α β : Type} {R : α → β → Prop} {l1 : List α} {l2 : List β} (h : All2 R l1 l2) {a : α} (ha : a ∈ l1) :
    ∃ b, (a, b) ∈ l1.zip l2 := by
  induction h with
  | nil => cases ha
  | cons h1 _ ih =>
    simp only [List.mem_cons] at ha
    rcases ha with rfl | ha
    · rename_i b0 _ _ _; exact ⟨b0, by simp⟩
    · obtain ⟨b, hb⟩ := ih ha; exact ⟨b, by simp [hb]⟩

theorem All2.exists_left {α β : Type} {R : α → β → Prop} {l1 : List α} {l2 : List β} (h : All2 R l1 l2) {b : β} (hb : b ∈ l2) :
    ∃ a, (a, b) ∈ l1.zip l2 := by
  induction h with
  | nil => cases hb
  | cons h1 _ ih =>
    simp only [List.mem_cons] at hb
    rcases hb with rfl | hb
    · rename_i a0 _ _ _; exact ⟨a0, by simp⟩
    · obtain ⟨a, ha⟩ := ih hb; exact ⟨a, by simp [ha]⟩

theorem sat32_mono {a b : Nat} (h : a ≤ b) : sat32 a ≤ sat32 b := by unfold sat32; omega
theorem sat64_mono {a b : Nat} (h : a ≤ b) : sat64 a ≤ sat64 b := by unfold sat64; omega

end ChiaModel.TL
