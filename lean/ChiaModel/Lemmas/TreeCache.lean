import ChiaModel.Lemmas.TreeHash
/-
C17: the `TreeCache` invariant and the cached two-stack machine.
-/
namespace ChiaModel.TreeHash
open ChiaModel

/-- What a `TreeCache` may hold for the heap `h`: where the state of a pair is a slot number (below `SEEN_MULTIPLE`; the
three values from there on are the visit counters), that slot has the tree hash of what the pair denotes.  The size
bounds keep new slot numbers below the counters and `pairs` within the heap, so that the cache stays valid when the
heap grows (`cacheOK_extends`). -/
structure CacheOK (h : Heap) (c : Cache) : Prop where
  size_le : c.hashes.size ≤ SEEN_MULTIPLE
  pairs_le : c.pairs.size ≤ h.size
  slot_ok : ∀ n s, c.pairs[n]? = some s → s < SEEN_MULTIPLE → isPair h n = true →
    c.hashes[s]? = some (Sexp.treeHash (denote h n))

theorem isPair_iff {h : Heap} {n : Nat} : isPair h n = true ↔ ∃ l r, h[n]? = some (Node.pair l r) := by
  unfold isPair
  cases hn : h[n]? with
  | none => simp
  | some nd => cases nd <;> simp

theorem isPair_lt {h : Heap} {n : Nat} (hp : isPair h n = true) : n < h.size := by
  obtain ⟨l, r, hn⟩ := isPair_iff.mp hp
  exact (Array.getElem?_eq_some_iff.mp hn).1

theorem growPairs_getElem? (p : Array Nat) (n m : Nat) :
    (growPairs p n)[m]? = if m < p.size then p[m]? else if m ≤ n then some NOT_VISITED else none := by
  unfold growPairs
  by_cases hm : m < p.size
  · rw [if_pos hm]
    split
    · exact Array.getElem?_append_left hm
    · rfl
  · rw [if_neg hm]
    split
    · rw [Array.getElem?_append_right (Nat.le_of_not_lt hm), Array.getElem?_replicate]
      by_cases hmn : m ≤ n
      · rw [if_pos (by omega), if_pos hmn]
      · rw [if_neg (by omega), if_neg hmn]
    · rw [if_neg (by omega)]
      exact Array.getElem?_eq_none_iff.mpr (Nat.le_of_not_lt hm)

theorem growPairs_size (p : Array Nat) (n : Nat) : (growPairs p n).size = max p.size (n + 1) := by
  unfold growPairs
  by_cases hg : n ≥ p.size
  · rw [if_pos hg, Array.size_append, Array.size_replicate]; omega
  · rw [if_neg hg]; omega

/-- state of a pair as `visit` reads it -/
def stOf (c : Cache) (i : Nat) : Nat := c.pairs.getD i NOT_VISITED

/-- the padding of `resize` is what an index beyond the vector reads as anyway -/
theorem growPairs_getD (p : Array Nat) (n m : Nat) :
    (growPairs p n).getD m NOT_VISITED = p.getD m NOT_VISITED := by
  rw [Array.getD_eq_getD_getElem?, Array.getD_eq_getD_getElem?, growPairs_getElem?]
  by_cases hm : m < p.size
  · rw [if_pos hm]
  · rw [if_neg hm, (Array.getElem?_eq_none_iff.mpr (by omega) : p[m]? = none)]
    split <;> rfl

theorem grow_set_getD (p : Array Nat) (n v i : Nat) :
    ((growPairs p n).setIfInBounds n v).getD i NOT_VISITED = if i = n then v else p.getD i NOT_VISITED := by
  rw [Array.getD_eq_getD_getElem?, Array.getElem?_setIfInBounds, growPairs_size]
  by_cases hin : i = n
  · subst hin; rw [if_pos rfl, if_pos (by omega), if_pos rfl]; rfl
  · rw [if_neg (fun e => hin e.symm), if_neg hin, ← Array.getD_eq_getD_getElem?, growPairs_getD]

/-- `slot_ok` read through `stOf`: an index beyond `pairs` reads as `NOT_VISITED`, which is no slot -/
theorem CacheOK.slot {h : Heap} {c : Cache} (hc : CacheOK h c) {n : Nat} (hs : stOf c n < SEEN_MULTIPLE)
    (hp : isPair h n = true) : c.hashes[stOf c n]? = some (Sexp.treeHash (denote h n)) := by
  refine hc.slot_ok n _ ?_ hs hp
  unfold stOf at hs ⊢
  rw [Array.getD_eq_getD_getElem?] at hs ⊢
  cases hn : c.pairs[n]? with
  | some s => rfl
  | none => rw [hn] at hs; exact absurd hs (by decide)

theorem cacheOK_of_stOf {h : Heap} {c : Cache} (h1 : c.hashes.size ≤ SEEN_MULTIPLE) (h2 : c.pairs.size ≤ h.size)
    (h3 : ∀ n, stOf c n < SEEN_MULTIPLE → isPair h n = true →
      c.hashes[stOf c n]? = some (Sexp.treeHash (denote h n))) : CacheOK h c := by
  refine ⟨h1, h2, fun n s hs hlt hp => ?_⟩
  have e : stOf c n = s := by rw [stOf, Array.getD_eq_getD_getElem?, hs]; rfl
  rw [← e] at hlt ⊢
  exact h3 n hlt hp

theorem get_some {h : Heap} {c : Cache} (hc : CacheOK h c) {n : Nat} {x : Bytes} :
    c.get h n = some x → x = Sexp.treeHash (denote h n) := by
  fun_cases Cache.get h c n with
  | case4 hp slot hs hge =>
    -- a pair whose state is a slot number
    intro hg
    rw [hc.slot_ok n slot hs (by omega) (by simpa using hp)] at hg
    exact (Option.some.inj hg).symm
  | _ => intro hg; cases hg

/-- what `insert` and `visit` have in common: the state of one pair is set, and the memo keeps what it
holds; the new state, if it is a slot, must hold the hash of that pair -/
theorem set_ok {h : Heap} {c : Cache} (hc : CacheOK h c) {n : Nat} (hp : isPair h n = true) (hashes : Array Bytes)
    (v : Nat) (hsz : hashes.size ≤ SEEN_MULTIPLE) (hext : ∀ (s : Nat) x, c.hashes[s]? = some x → hashes[s]? = some x)
    (hv : v < SEEN_MULTIPLE → hashes[v]? = some (Sexp.treeHash (denote h n))) :
    CacheOK h { hashes := hashes, pairs := (growPairs c.pairs n).setIfInBounds n v } := by
  refine cacheOK_of_stOf hsz ?_ (fun m hs hpm => ?_)
  · have := hc.pairs_le
    have := isPair_lt hp
    simp only [Array.size_setIfInBounds, growPairs_size]; omega
  · simp only [stOf, grow_set_getD] at hs ⊢
    by_cases hm : m = n
    · rw [if_pos hm] at hs ⊢; rw [hm]; exact hv hs
    · rw [if_neg hm] at hs ⊢; exact hext _ _ (hc.slot hs hpm)

theorem insert_ok {h : Heap} {c : Cache} (hc : CacheOK h c) (n : Nat) :
    CacheOK h (c.insert h n (Sexp.treeHash (denote h n))) := by
  fun_cases Cache.insert h c n (Sexp.treeHash (denote h n)) with
  | case3 h1 hp =>
    -- a pair, and room in the memo: the new slot is the size of `hashes`
    have := hc.size_le
    refine set_ok hc (by simpa using hp) _ _ (by rw [Array.size_push]; omega) (fun s x hs => ?_) (fun _ => by simp)
    rw [Array.getElem?_push, if_neg (Nat.ne_of_lt (Array.getElem?_eq_some_iff.mp hs).1)]; exact hs
  | _ => exact hc

theorem visit_ok {h : Heap} {c : Cache} (hc : CacheOK h c) (n : Nat) : CacheOK h (c.visit h n).1 := by
  unfold Cache.visit
  by_cases hp : isPair h n = true
  · simp only [hp, Bool.not_true, Bool.false_eq_true, if_false]
    refine set_ok hc hp _ _ hc.size_le (fun _ _ hs => hs) (fun hlt => ?_)
    -- the stored value is a slot only if it was one before
    rw [growPairs_getD, show c.pairs.getD n NOT_VISITED = stOf c n from rfl] at hlt ⊢
    have e : (if stOf c n > SEEN_MULTIPLE then stOf c n - 1 else stOf c n) = stOf c n := by
      by_cases hgt : stOf c n > SEEN_MULTIPLE
      · rw [if_pos hgt] at hlt; omega
      · rw [if_neg hgt]
    rw [e] at hlt ⊢
    exact hc.slot hlt hp
  · simp only [hp, Bool.not_false, if_true]; exact hc

theorem visitLoop_ok {h : Heap} : ∀ (fuel : Nat) (nodes : List Nat) (c c' : Cache), CacheOK h c →
    visitLoop h fuel nodes c = some c' → CacheOK h c' := by
  intro fuel
  induction fuel with
  | zero => intro nodes c c' _ hv; simp [visitLoop] at hv
  | succ f ih =>
    intro nodes c c' hc hv
    cases nodes with
    | nil => simp only [visitLoop] at hv; cases hv; exact hc
    | cons n nodes =>
      simp only [visitLoop] at hv
      split at hv
      · exact ih _ _ _ (visit_ok (visit_ok hc _) _) hv
      · exact ih _ _ _ hc hv

theorem visitTree_ok {h : Heap} {c c' : Cache} (hc : CacheOK h c) {n : Nat}
    (hv : visitTree h c n = some c') : CacheOK h c' := by
  unfold visitTree at hv
  simp only [] at hv
  split at hv
  · cases hv; exact visit_ok hc n
  · exact visitLoop_ok _ _ _ _ (visit_ok hc n) hv

theorem runCached_sexp {h : Heap} (hwf : WF h) : ∀ n, n < h.size → ∀ c, CacheOK h c →
    ∃ k c', k ≤ stepsOf (denote h n) ∧ CacheOK h c' ∧ ∀ fuel ops hs,
      runCached h (fuel + k) (.sexp n :: ops) hs c = runCached h fuel ops (TH h n :: hs) c' := by
  refine hwf.induction ?_ ?_ ?_
  · intro n b hget c hc
    refine ⟨1, c, by rw [denote_atom hget]; simp [stepsOf], hc, fun fuel ops hs => ?_⟩
    rw [runCached, hget]
    simp only []
    rw [leafHash_atom hget]
  · intro n v hget c hc
    refine ⟨1, c, by rw [denote_small hget]; simp [stepsOf], hc, fun fuel ops hs => ?_⟩
    rw [runCached, hget]
    simp only []
    rw [leafHash_small hget]
  · intro n l r hget ihl ihr c hc
    cases hg : c.get h n with
    | some x =>
      have hx := get_some hc hg
      refine ⟨1, c, by rw [denote_pair hwf hget]; simp [stepsOf]; omega, hc, fun fuel ops hs => ?_⟩
      rw [runCached, hget]
      simp only [hg]
      rw [hx]
    | none =>
      obtain ⟨k1, c1, hk1, hc1, run1⟩ := ihr c hc
      obtain ⟨k2, c2, hk2, hc2, run2⟩ := ihl c1 hc1
      refine ⟨k1 + k2 + 2, if c.shouldMemoize h n then c2.insert h n (TH h n) else c2,
        by rw [denote_pair hwf hget]; simp only [stepsOf]; omega, ?_, ?_⟩
      · split
        · exact insert_ok hc2 n
        · exact hc2
      · intro fuel ops hs
        have e : fuel + (k1 + k2 + 2) = (((fuel + 1) + k2) + k1) + 1 := by omega
        rw [e, runCached, hget]
        simp only [hg]
        rw [run1, run2]
        cases c.shouldMemoize h n <;> simp only [runCached, TH_pair hwf hget, if_true, Bool.false_eq_true, if_false]
theorem runCached_root {h : Heap} (hwf : WF h) {n : Nat} (hn : n < h.size) {c : Cache} (hc : CacheOK h c)
    (fuel : Nat) (hf : 2 * (denote h n).size + 1 ≤ fuel) :
    ∃ c', CacheOK h c' ∧ runCached h fuel [.sexp n] [] c = some ([TH h n], c') := by
  obtain ⟨k, c', hk, hc', run⟩ := runCached_sexp hwf n hn c hc
  have := stepsOf_le (denote h n)
  obtain ⟨f', rfl⟩ : ∃ f', fuel = (f' + 1) + k := ⟨fuel - k - 1, by omega⟩
  exact ⟨c', hc', by rw [run, runCached]⟩

/-! ### `visit_tree` terminates within its fuel: every pair is pushed at most once per cache life time -/

/-- pairs of the heap that this cache has not yet seen -/
def mu (h : Heap) (c : Cache) : Nat :=
  (List.range h.size).countP fun i => isPair h i && Nat.ble NOT_VISITED (stOf c i)

theorem countP_range_flip (p q : Nat → Bool) (n : Nat) (hp : p n = true) (hq : q n = false)
    (hpq : ∀ i, i ≠ n → p i = q i) : ∀ N, n < N → (List.range N).countP q + 1 = (List.range N).countP p := by
  intro N; induction N with
  | zero => intro hn; omega
  | succ N ih =>
    intro hn
    rw [List.range_succ, List.countP_append, List.countP_append, List.countP_singleton, List.countP_singleton]
    by_cases hN : n = N
    · subst hN
      rw [List.countP_congr (q := p) fun i hi => by rw [hpq i (Nat.ne_of_lt (List.mem_range.mp hi))], hp, hq]; simp
    · rw [← ih (by omega), hpq N (fun e => hN e.symm)]; omega

theorem dec_state (s : Nat) :
    ((if s > SEEN_MULTIPLE then s - 1 else s) = SEEN_ONCE ↔ s = NOT_VISITED) ∧
    (s ≠ NOT_VISITED → (NOT_VISITED ≤ (if s > SEEN_MULTIPLE then s - 1 else s) ↔ NOT_VISITED ≤ s)) := by
  have h1 : SEEN_MULTIPLE = 4294967293 := rfl
  have h2 : SEEN_ONCE = 4294967294 := rfl
  have h3 : NOT_VISITED = 4294967295 := rfl
  by_cases hgt : s > SEEN_MULTIPLE
  · rw [if_pos hgt]; omega
  · rw [if_neg hgt]; omega

theorem visit_mu (h : Heap) (c : Cache) (n : Nat) :
    mu h (c.visit h n).1 + (if (c.visit h n).2 then 1 else 0) = mu h c := by
  unfold Cache.visit
  by_cases hp : isPair h n = true
  · simp only [hp, Bool.not_true, Bool.false_eq_true, if_false]
    rw [growPairs_getD]
    have hn := isPair_lt hp
    generalize hs : c.pairs.getD n NOT_VISITED = s
    have hst : stOf c n = s := hs
    obtain ⟨d1, d2⟩ := dec_state s
    by_cases hnv : s = NOT_VISITED
    · -- first visit
      have e1 : (if s > SEEN_MULTIPLE then s - 1 else s) = SEEN_ONCE := d1.mpr hnv
      rw [e1]
      simp only [beq_self_eq_true, if_true]
      unfold mu
      apply countP_range_flip _ _ n
      · have : Nat.ble NOT_VISITED s = true := by rw [hnv]; decide
        simp [hp, hst, this]
      · simp only [stOf, grow_set_getD, if_true]
        have : Nat.ble NOT_VISITED SEEN_ONCE = false := by decide
        rw [this]; simp
      · intro i hi; simp only [stOf, grow_set_getD, if_neg hi]
      · exact hn
    · -- seen before (or a value no u32 can hold): nothing changes for `mu`
      have hflag : ((if s > SEEN_MULTIPLE then s - 1 else s) == SEEN_ONCE) = false := by
        simp only [beq_eq_false_iff_ne, ne_eq]
        exact fun e => hnv (d1.mp e)
      rw [hflag]
      simp only [Bool.false_eq_true, if_false, Nat.add_zero]
      unfold mu
      refine congrArg (List.countP · _) (funext fun i => ?_)
      simp only [stOf, grow_set_getD]
      by_cases hin : i = n
      · subst hin
        rw [if_pos rfl, hs]
        congr 1
        rw [Bool.eq_iff_iff]
        simp only [Nat.ble_eq]
        exact d2 hnv
      · rw [if_neg hin]
  · simp only [hp, Bool.not_false, if_true, Bool.false_eq_true, if_false, Nat.add_zero]

theorem visitLoop_total (h : Heap) : ∀ (fuel : Nat) (nodes : List Nat) (c : Cache),
    2 * mu h c + nodes.length + 1 ≤ fuel → ∃ c', visitLoop h fuel nodes c = some c' := by
  intro fuel
  induction fuel with
  | zero => intro nodes c hf; omega
  | succ f ih =>
    intro nodes c hf
    cases nodes with
    | nil => exact ⟨c, by simp [visitLoop]⟩
    | cons n nodes =>
      simp only [visitLoop]
      split
      · rename_i l r _
        apply ih
        -- a child is pushed exactly when `mu` drops
        have hlen : ∀ (b : Bool) (x : Nat) (xs : List Nat),
            (if b = true then x :: xs else xs).length = xs.length + if b = true then 1 else 0 := by
          intro b x xs; cases b <;> rfl
        have h1 := visit_mu h c l
        have h2 := visit_mu h (c.visit h l).1 r
        rw [List.length_cons] at hf
        rw [hlen, hlen]
        omega
      · apply ih
        simp only [List.length_cons] at hf
        omega

theorem visitTree_total (h : Heap) (c : Cache) (n : Nat) : ∃ c', visitTree h c n = some c' := by
  unfold visitTree
  simp only []
  split
  · exact ⟨_, rfl⟩
  · apply visitLoop_total
    have := List.countP_le_length (p := fun i => isPair h i && Nat.ble NOT_VISITED (stOf (c.visit h n).1 i))
      (l := List.range h.size)
    simp only [mu, visitFuel, List.length_cons, List.length_nil, List.length_range] at this ⊢
    omega

/-! ### the allocator only appends: a cache stays valid when the heap grows -/

def Extends (h h' : Heap) : Prop := h.size ≤ h'.size ∧ ∀ i, i < h.size → h'[i]? = h[i]?

theorem wf_of_extends {h h' : Heap} (he : Extends h h') (hwf : WF h') : WF h := by
  intro n l r hn
  have hlt : n < h.size := (Array.getElem?_eq_some_iff.mp hn).1
  exact hwf n l r (by rw [he.2 n hlt]; exact hn)

theorem denoteF_extends {h h' : Heap} (he : Extends h h') (hwf : WF h') (f n : Nat) :
    n < h.size → denoteF h' f n = denoteF h f n := by
  fun_induction denoteF h f n with
  | case1 => exact fun _ => rfl
  | case4 f n l r hn ihl ihr =>
    -- a pair: its children lie in `h` too
    intro hlt
    obtain ⟨hl, hr⟩ := wf_of_extends he hwf n l r hn
    simp only [denoteF, he.2 n hlt, hn]
    rw [ihl (by omega), ihr (by omega)]
  | _ => intro hlt; simp only [denoteF, he.2 _ hlt, *]   -- no recursion: both heaps hold the same node

theorem denote_extends {h h' : Heap} (he : Extends h h') (hwf : WF h') {n : Nat} (hn : n < h.size) :
    denote h' n = denote h n := denoteF_extends he hwf _ n hn

theorem cacheOK_extends {h h' : Heap} (he : Extends h h') (hwf : WF h') {c : Cache} (hc : CacheOK h c) :
    CacheOK h' c := by
  refine ⟨hc.size_le, Nat.le_trans hc.pairs_le he.1, ?_⟩
  intro n s hs hlt hp
  have hn : n < h.size := Nat.lt_of_lt_of_le (Array.getElem?_eq_some_iff.mp hs).1 hc.pairs_le
  have hp' : isPair h n = true := by
    rw [isPair_iff, ← he.2 n hn]; exact isPair_iff.mp hp
  rw [denote_extends he hwf hn]
  exact hc.slot_ok n s hs hlt hp'

/-! ### histories: any sequence of pre-visits and hashes through one cache -/

inductive CacheOp where
  | visit (n : Nat)      -- `cache.visit_tree(a, n)`
  | hash (n : Nat)       -- `tree_hash_cached(a, n, &mut cache)`

def CacheOp.root : CacheOp → Nat
  | .visit n => n
  | .hash n => n

def runHistory (h : Heap) : Cache → List CacheOp → Option (List Bytes × Cache)
  | c, [] => some ([], c)
  | c, .visit n :: ops =>
    match visitTree h c n with
    | none => none
    | some c1 => runHistory h c1 ops
  | c, .hash n :: ops =>
    match treeHashCached h n c with
    | none => none
    | some (x, c1) =>
      match runHistory h c1 ops with
      | none => none
      | some (xs, c2) => some (x :: xs, c2)

def specHistory (h : Heap) : List CacheOp → List Bytes
  | [] => []
  | .visit _ :: ops => specHistory h ops
  | .hash n :: ops => Sexp.treeHash (denote h n) :: specHistory h ops

theorem treeHashCached_spec {h : Heap} (hwf : WF h) {n : Nat} (hn : n < h.size) {c : Cache} (hc : CacheOK h c) :
    ∃ c', treeHashCached h n c = some (Sexp.treeHash (denote h n), c') ∧ CacheOK h c' := by
  obtain ⟨c1, hv⟩ := visitTree_total h c n
  obtain ⟨c2, hc2, hrun⟩ := runCached_root hwf hn (visitTree_ok hc hv) (iterFuel h n)
    (by simp [iterFuel, sizeTable_getD hwf hn])
  exact ⟨c2, by simp only [treeHashCached, hv, hrun], hc2⟩

theorem runHistory_spec {h : Heap} (hwf : WF h) : ∀ (ops : List CacheOp) (c : Cache), CacheOK h c →
    (∀ op, op ∈ ops → op.root < h.size) →
    ∃ c', runHistory h c ops = some (specHistory h ops, c') ∧ CacheOK h c' := by
  intro ops
  induction ops with
  | nil => intro c hc _; exact ⟨c, rfl, hc⟩
  | cons op ops ih =>
    intro c hc hr
    have hr' : ∀ op', op' ∈ ops → op'.root < h.size := fun o ho => hr o (List.mem_cons_of_mem _ ho)
    cases op with
    | visit n =>
      obtain ⟨c1, hv⟩ := visitTree_total h c n
      obtain ⟨c', hrun, hc'⟩ := ih c1 (visitTree_ok hc hv) hr'
      exact ⟨c', by simp only [runHistory, hv, specHistory, hrun], hc'⟩
    | hash n =>
      have hn : n < h.size := hr (.hash n) (List.mem_cons_self)
      obtain ⟨c1, hh, hc1⟩ := treeHashCached_spec hwf hn hc
      obtain ⟨c', hrun, hc'⟩ := ih c1 hc1 hr'
      exact ⟨c', by simp only [runHistory, hh, specHistory, hrun], hc'⟩

end ChiaModel.TreeHash
