import ChiaModel.Lemmas.Precomputed
import ChiaModel.Lemmas.Ints
/-
C17: on a well-formed heap an index denotes a tree whatever the fuel (`denoteF_stable`), the per-index tables are folds
of that tree (`table_spec`), and the two-stack machine of `tree_hash` leaves its tree hash (`runIter_sexp`, the step
that the cached machine and the deserialiser repeat).  A small atom shows the canonical integer bytes
(`smallBytes_eq_canon`), which is why the precomputed table applies to it.
-/
namespace ChiaModel

namespace TreeHash

theorem getD_push_lt {α} (a : Array α) (x d : α) (i : Nat) (h : i < a.size) : (a.push x).getD i d = a.getD i d := by
  simp [Array.getD_eq_getD_getElem?, Array.getElem?_push, Nat.ne_of_lt h]
theorem getD_push_eq {α} (a : Array α) (x d : α) : (a.push x).getD a.size d = x := by
  simp [Array.getD_eq_getD_getElem?]

theorem denoteF_stable {h : Heap} (hwf : WF h) : ∀ n f, n < f → denoteF h f n = denoteF h (n + 1) n := by
  intro n
  induction n using Nat.strongRecOn with
  | _ n ih =>
    intro f hf
    obtain ⟨f', rfl⟩ : ∃ f', f = f' + 1 := ⟨f - 1, by omega⟩
    simp only [denoteF]
    cases hn : h[n]? with
    | none => rfl
    | some nd =>
      cases nd with
      | atom b => rfl
      | small v => rfl
      | pair l r =>
        obtain ⟨hl, hr⟩ := hwf n l r hn
        simp only []
        rw [ih l hl f' (by omega), ih r hr f' (by omega), ih l hl n hl, ih r hr n hr]

theorem denote_pair {h : Heap} (hwf : WF h) {n l r : Nat} (hn : h[n]? = some (Node.pair l r)) :
    denote h n = Sexp.pair (denote h l) (denote h r) := by
  obtain ⟨hl, hr⟩ := hwf n l r hn
  have e : denoteF h (n + 1) n = Sexp.pair (denoteF h n l) (denoteF h n r) := by simp only [denoteF, hn]
  rw [denote, e, denoteF_stable hwf l n hl, denoteF_stable hwf r n hr]; rfl

theorem denote_atom {h : Heap} {n : Nat} {b : Bytes} (hn : h[n]? = some (Node.atom b)) :
    denote h n = Sexp.atom b := by
  simp only [denote, denoteF, hn]

theorem denote_small {h : Heap} {n v : Nat} (hn : h[n]? = some (Node.small v)) :
    denote h n = Sexp.atom (smallBytes v) := by
  simp only [denote, denoteF, hn]

theorem treeHash_fold (t : Sexp) :
    Sexp.treeHash t = foldSexp (fun b => sha256 (1 :: b)) (fun x y => sha256 (2 :: (x ++ y))) t := by
  induction t with
  | atom b => rfl
  | pair l r ihl ihr => simp only [Sexp.treeHash, foldSexp, ihl, ihr]

theorem size_fold (t : Sexp) : t.size = foldSexp (fun _ => 1) (fun x y => 1 + x + y) t := by
  induction t with
  | atom b => rfl
  | pair l r ihl ihr => simp only [Sexp.size, foldSexp, ihl, ihr]

theorem tableL_spec {α : Type} (fa : Bytes → α) (fp : α → α → α) (d : α) (h : Heap) (hwf : WF h) :
    ∀ (rest pre : List Node) (tbl : Array α), h.toList = pre ++ rest → tbl.size = pre.length →
      (∀ i, i < pre.length → tbl.getD i d = foldSexp fa fp (denote h i)) →
      ∀ i, i < h.size → (tableL fa fp d rest tbl).getD i d = foldSexp fa fp (denote h i) := by
  intro rest
  induction rest with
  | nil =>
    intro pre tbl hsplit hsz hval
    have : h.size = pre.length := by
      have := congrArg List.length hsplit
      simpa using this
    exact fun i hi => hval i (by omega)
  | cons nd rest ih =>
    intro pre tbl hsplit hsz hval
    simp only [tableL]
    have hnd : h[pre.length]? = some nd := by
      rw [← Array.getElem?_toList, hsplit]
      simp
    apply ih (pre ++ [nd]) (tbl.push (nodeVal fa fp d tbl nd)) (by simp [hsplit]) (by simp [hsz])
    intro i hi
    simp only [List.length_append, List.length_cons, List.length_nil] at hi
    by_cases hlt : i < pre.length
    · rw [getD_push_lt _ _ _ _ (by omega)]; exact hval i hlt
    · have hi' : i = pre.length := by omega
      subst hi'
      rw [← hsz, getD_push_eq, hsz]
      cases nd with
      | atom b => simp only [nodeVal, denote_atom hnd, foldSexp]
      | small v => simp only [nodeVal, denote_small hnd, foldSexp]
      | pair l r =>
        obtain ⟨hl, hr⟩ := hwf _ l r hnd
        simp only [nodeVal, denote_pair hwf hnd, foldSexp, hval l hl, hval r hr]

theorem table_spec {α : Type} (fa : Bytes → α) (fp : α → α → α) (d : α) (h : Heap) (hwf : WF h)
    (n : Nat) (hn : n < h.size) : (table fa fp d h).getD n d = foldSexp fa fp (denote h n) :=
  tableL_spec fa fp d h hwf h.toList [] #[] (by simp) (by simp) (by intro i hi; simp at hi) n hn

theorem sizeTable_getD {h : Heap} (hwf : WF h) {n : Nat} (hn : n < h.size) :
    (sizeTable h).getD n 0 = (denote h n).size := by
  rw [size_fold]; exact table_spec _ _ _ h hwf n hn

abbrev TH (h : Heap) (n : Nat) : Bytes := Sexp.treeHash (denote h n)

theorem atomHash_eq (b : Bytes) : atomHash b = sha256 (1 :: b) := by
  simp only [atomHash, prefixes_eq.1]

theorem pairHash_eq (x y : Bytes) : pairHash x y = sha256 (2 :: (x ++ y)) := by
  simp only [pairHash, prefixes_eq.2]

/-- `len_for_value` is `byteLen` (it stops at five bytes, enough for a `u32`) -/
theorem lenForValue_eq (v : Nat) (hv : v < 2 ^ 39) : lenForValue v = byteLen v := by
  have arm : ∀ k, ¬ v < 128 * 256 ^ k → v < 128 * 256 ^ (k + 1) → k + 2 = byteLen v :=
    fun k h1 h2 => (byteLen_eq_add_two k v (Nat.lt_trans hv (by decide)) (Nat.le_of_not_lt h1) h2).symm
  unfold lenForValue
  refine ite_eq_of (fun h0 => ((byteLen_eq_zero_iff v).mpr h0).symm) fun h0 => ?_
  refine ite_eq_of (fun h => (byteLen_eq_one v h0 h).symm) fun h1 => ?_
  refine ite_eq_of (arm 0 h1) fun h2 => ?_
  refine ite_eq_of (arm 1 h2) fun h3 => ?_
  refine ite_eq_of (arm 2 h3) fun h4 => ?_
  exact arm 3 h4 hv

theorem smallBytes_eq_canon (v : Nat) (hv : v < 2 ^ 39) : smallBytes v = canonNat v := by
  rw [smallBytes, lenForValue_eq v hv, canonNat]

theorem precomputed_getD (v : Nat) (hv : v < Gen.precomputed.length) :
    Gen.precomputed.getD v [] = sha256 (1 :: smallBytes v) := by
  rw [precomputed_eq] at hv ⊢
  simp only [List.length_map, List.length_range] at hv
  rw [smallBytes_eq_canon v (by omega)]
  simp [List.getD_eq_getElem?_getD, hv]

theorem leafHash_atom {h : Heap} {n : Nat} {b : Bytes} (hn : h[n]? = some (Node.atom b)) :
    leafHash (Node.atom b) = TH h n := by
  simp only [leafHash, TH, denote_atom hn, Sexp.treeHash, atomHash_eq]

theorem leafHash_small {h : Heap} {n v : Nat} (hn : h[n]? = some (Node.small v)) :
    leafHash (Node.small v) = TH h n := by
  simp only [leafHash, TH, denote_small hn, Sexp.treeHash]
  split
  · rename_i hv; exact precomputed_getD v hv
  · exact atomHash_eq _

theorem TH_pair {h : Heap} (hwf : WF h) {n l r : Nat} (hn : h[n]? = some (Node.pair l r)) :
    pairHash (TH h l) (TH h r) = TH h n := by
  simp only [TH, denote_pair hwf hn, Sexp.treeHash, pairHash_eq]

/-- loop iterations spent on a tree: one per node plus one `Cons` per pair -/
def stepsOf : Sexp → Nat
  | .atom _ => 1
  | .pair l r => 2 + stepsOf l + stepsOf r

theorem stepsOf_le (t : Sexp) : stepsOf t + 1 ≤ 2 * t.size := by
  induction t with
  | atom b => simp [stepsOf, Sexp.size]
  | pair l r ihl ihr => simp only [stepsOf, Sexp.size]; omega

theorem WF.induction {h : Heap} (hwf : WF h) {P : Nat → Prop}
    (atom : ∀ n b, h[n]? = some (.atom b) → P n) (small : ∀ n v, h[n]? = some (.small v) → P n)
    (pair : ∀ n l r, h[n]? = some (.pair l r) → P l → P r → P n) :
    ∀ n, n < h.size → P n := by
  intro n
  induction n using Nat.strongRecOn with
  | _ n ih =>
    intro hn
    have hget : h[n]? = some h[n] := by simp [hn]
    cases hnd : h[n] with
    | atom b => exact atom n b (hnd ▸ hget)
    | small v => exact small n v (hnd ▸ hget)
    | pair l r =>
      obtain ⟨hl, hr⟩ := hwf n l r (hnd ▸ hget)
      exact pair n l r (hnd ▸ hget) (ih l hl (by omega)) (ih r hr (by omega))

/-- The one idea of the stack machines of C17 (also `runCached_sexp`, `deserLoop_serialize`): an `SExp` operation on top of
ANY operation stack, with the steps of its tree on top of ANY fuel, runs to the state in which its result is pushed and
the rest of both stacks is as before.  In that form the statement for a pair composes those for its children and the
`Cons` behind them. -/
theorem runIter_sexp {h : Heap} (hwf : WF h) : ∀ n, n < h.size → ∀ fuel ops hs,
    runIter h (fuel + stepsOf (denote h n)) (.sexp n :: ops) hs = runIter h fuel ops (TH h n :: hs) := by
  refine hwf.induction ?_ ?_ ?_
  · intro n b hget fuel ops hs
    rw [denote_atom hget, stepsOf, runIter, hget]
    simp only []
    rw [leafHash_atom hget, TH, denote_atom hget]
  · intro n v hget fuel ops hs
    rw [denote_small hget, stepsOf, runIter, hget]
    simp only []
    rw [leafHash_small hget, TH, denote_small hget]
  · intro n l r hget ihl ihr fuel ops hs
    rw [denote_pair hwf hget, stepsOf]
    have e : fuel + (2 + stepsOf (denote h l) + stepsOf (denote h r))
        = (((fuel + 1) + stepsOf (denote h l)) + stepsOf (denote h r)) + 1 := by omega
    rw [e, runIter, hget]
    simp only []
    rw [ihr, ihl, runIter, TH_pair hwf hget, TH, denote_pair hwf hget]

theorem th_atom (b : Bytes) : Sexp.treeHash (.atom b) = atomHash b := by
  rw [atomHash_eq]; rfl

theorem th_pair (l r : Sexp) : Sexp.treeHash (.pair l r) = pairHash (Sexp.treeHash l) (Sexp.treeHash r) := by
  rw [pairHash_eq]; rfl

theorem curryArgs_hash (args : List Sexp) :
    (args.map Sexp.treeHash).foldr (fun argHash quotedArgs =>
      pairHash (atomHash [4]) (pairHash (pairHash (atomHash [1]) argHash) (pairHash quotedArgs (atomHash []))))
      (atomHash [1]) = Sexp.treeHash (curryArgs args) := by
  induction args with
  | nil => simp only [List.map_nil, List.foldr_nil, curryArgs, th_atom]
  | cons a r ih =>
    simp only [List.map_cons, List.foldr_cons, curryArgs, th_pair, th_atom]
    rw [ih]

end TreeHash
end ChiaModel
