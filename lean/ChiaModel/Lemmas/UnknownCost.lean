import ChiaModel.Spec.CostTable
import ChiaModel.Gen.Opcodes
/-
The two-byte opcode cost table of `opcodes.rs` against its closed form (`Spec/CostTable.lean`).  Below every file
that reads a cost off `compute_unknown_condition_cost`: the argument grammar and C04.
-/
namespace ChiaModel.Cond
open ChiaModel.Spec

/-- comparing the two 256-entry lists is one evaluation; deciding a bounded quantifier slot by slot is much slower
to check -/
theorem unknownCostTable_eq : Gen.unknownCostTable = (List.range 256).map (fun k => trunc3 (100 * 17 ^ k / 16 ^ k)) := by
  decide +kernel

theorem unknownCostTable_getD (k : Nat) (hk : k < 256) : Gen.unknownCostTable.getD k 0 = trunc3 (100 * 17 ^ k / 16 ^ k) := by
  rw [unknownCostTable_eq]
  simp [List.getD_eq_getElem?_getD, hk]

theorem unknown_cost_fn (op : Nat) : Gen.computeUnknownConditionCost op = unknownConditionCost op := by
  unfold Gen.computeUnknownConditionCost unknownConditionCost
  split
  · rfl
  · exact unknownCostTable_getD (op % 256) (Nat.mod_lt _ (by decide))

end ChiaModel.Cond
