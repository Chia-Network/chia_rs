import ChiaModel.Lemmas.Rules
/-
The condition loop commutes with `touch` (Lemmas/CondNF.lean), also when it runs under another visitor whose flag
updates commute with the rewriting of the flags: same verdict, same error (`condLoop_touch`).  The instance: the mempool
visitor only ever touches the two eligibility bits of a spend's `flags` (ELIGIBLE_FOR_DEDUP = 1, ELIGIBLE_FOR_FF = 4),
the condition loop itself reads and writes only the HAS_RELATIVE_CONDITION bit (2); so running the loop with the empty
visitor on a state whose spend flags are masked to bit 2 (and whose finished-spends list / bundle execution cost are
replaced) commutes with running it with the mempool visitor (`condLoop_blk`, `processCore_blk`).
-/
namespace ChiaModel.Cond

abbrev liftSt (f : CSt → CSt) (x : R (CSt × Nat)) : R (CSt × Nat) := x.map (fun p => (f p.1, p.2))

theorem stepCond_spends {env : Env} {s : CSt} {m : Nat} {c : Sexp} {s' : CSt} {m' : Nat}
    (h : stepCond env s m c = .ok (s', m')) : s'.ret.spends = s.ret.spends := by
  obtain ⟨it, -, -, -, u, hu, rfl⟩ := (stepCond_iff env s m c s' m').mp h
  cases it with
  | unknown => cases hu; rfl
  | known op cva => obtain ⟨-, rfl⟩ := applyCond_ok hu; rfl

theorem condLoop_ret {env : Env} {t : Sexp} {s : CSt} {m : Nat} {s' : CSt} {m' : Nat}
    (h : condLoop env t s m = .ok (s', m')) :
    s'.ret.spends = s.ret.spends ∧ s'.ret.executionCost = s.ret.executionCost := by
  obtain ⟨cs, items, -, -, -, -, -, rfl⟩ := (Rules.condLoop_ok_iff env t s m s' m').mp h
  exact ⟨rfl, rfl⟩

/-- side conditions on the pieces of a `touch` for it to commute with the loop run under `env'` -/
structure Touches (env env' : Env) (fc g sc ctr : Nat → Nat) : Prop where
  flags : env'.flags = env.flags
  pkOk : env'.pkOk = env.pkOk
  mark : ∀ f, markFlags (g f) = g (markFlags f)
  bit : ∀ f, g f &&& HAS_RELATIVE_CONDITION = f &&& HAS_RELATIVE_CONDITION
  visit : ∀ n f c, visitCondition env' (ctr n) (g f) c = g (visitCondition env n f c)
  costR : ∀ x k, fc (x + k) = fc x + k
  costS : ∀ x k, sc (x + k) = sc x + k
  count : ∀ n, ctr (n + 1) = ctr n + 1

section touch
variable {env env' : Env} {fe fc : Nat → Nat} {fs : List Spend → List Spend} {g sc ctr : Nat → Nat}

theorem addCost_touch (hR : ∀ x k, fc (x + k) = fc x + k) (hS : ∀ x k, sc (x + k) = sc x + k) (s : CSt) (m c : Nat) :
    addCost (touch fe fc fs g sc ctr s) m c = liftSt (touch fe fc fs g sc ctr) (addCost s m c) := by
  unfold addCost
  cases charge m c with
  | error e => rfl
  | ok m' => simp only [bind, Except.bind, pure, Except.pure, liftSt, Except.map, bump, touch, hR, hS]

theorem visit_touch (h : Touches env env' fc g sc ctr) (s : CSt) (cva : Cond) :
    visit env' (touch fe fc fs g sc ctr s) cva = touch fe fc fs g sc ctr (visit env s cva) := by
  simp only [touch, visit, h.visit, h.count]

theorem pureCond_touch (h : Touches env env' fc g sc ctr) (s : CSt) (c : Sexp) (op : Nat)
    (hlen : (fs s.ret.spends).length = s.ret.spends.length) :
    pureCond env' (touch fe fc fs g sc ctr s) c op = liftSt (touch fe fc fs g sc ctr) (pureCond env s c op) := by
  unfold pureCond
  rw [h.flags]
  refine map_bind_same fun args _ => map_bind_same fun cva _ => ?_
  refine map_bind (g := touch fe fc fs g sc ctr) ?_ fun _ _ => rfl
  show applyCond env' (visit env' (touch fe fc fs g sc ctr s) cva) cva = _
  rw [visit_touch h, applyCond_env_eq h.pkOk (by rw [h.flags]) (by rw [h.flags])]
  exact applyCond_touch env (visit env s cva) cva hlen (h.mark _) (h.bit _)

theorem stepCond_touch (h : Touches env env' fc g sc ctr) (s : CSt) (m : Nat) (c : Sexp)
    (hlen : (fs s.ret.spends).length = s.ret.spends.length) :
    stepCond env' (touch fe fc fs g sc ctr s) m c = liftSt (touch fe fc fs g sc ctr) (stepCond env s m c) := by
  unfold stepCond
  rw [h.flags]
  refine map_bind_same fun opn _ => ?_
  cases parseOpcode opn with
  | none =>
    dsimp only
    split
    · rfl
    · split
      · exact addCost_touch h.costR h.costS _ _ _
      · rfl
  | some op =>
    refine map_bind (addCost_touch h.costR h.costS ..) fun ⟨s1, m1⟩ h1 => ?_
    obtain ⟨-, rfl, -⟩ := addCost_ok_iff.mp h1
    exact map_bind (pureCond_touch h _ c op hlen) fun _ _ => addCost_touch h.costR h.costS ..

theorem condLoop_touch (h : Touches env env' fc g sc ctr) (t : Sexp) :
    ∀ (s : CSt) (m : Nat), (fs s.ret.spends).length = s.ret.spends.length →
      condLoop env' t (touch fe fc fs g sc ctr s) m = liftSt (touch fe fc fs g sc ctr) (condLoop env t s m) := by
  induction t with
  | atom b => intro s m _; cases b <;> rfl
  | pair c nxt _ ih =>
    intro s m hlen
    exact map_bind (stepCond_touch h s m c hlen) fun ⟨s1, m1⟩ h1 => ih s1 m1 (by rw [stepCond_spends h1]; exact hlen)

end touch


/-- the environment of the block paths: same flags and key validity, empty visitor -/
abbrev blockEnv (env : Env) : Env := { env with mempool := false }

/-- what the empty visitor leaves of a spend's flags: the HAS_RELATIVE_CONDITION bit -/
def blockSpend (sp : Spend) : Spend := { sp with flags := sp.flags &&& HAS_RELATIVE_CONDITION }

abbrev blk (e : Nat) (sps : List Spend) (s : CSt) : CSt :=
  { s with ret := { s.ret with executionCost := e, spends := sps },
           spend := { s.spend with flags := s.spend.flags &&& HAS_RELATIVE_CONDITION } }

theorem visitCondition_and2 (env : Env) (n f : Nat) (c : Cond) :
    visitCondition env n f c &&& HAS_RELATIVE_CONDITION = f &&& HAS_RELATIVE_CONDITION := by
  rw [visitCondition_eq]; exact clr_and_two _ _

theorem and2_and2 (f : Nat) : (f &&& HAS_RELATIVE_CONDITION) &&& HAS_RELATIVE_CONDITION = f &&& HAS_RELATIVE_CONDITION := by
  rw [Nat.and_assoc, Nat.and_self]

theorem markFlags_and2 (f : Nat) : markFlags (f &&& HAS_RELATIVE_CONDITION) = markFlags f &&& HAS_RELATIVE_CONDITION := by
  unfold markFlags
  rw [and2_and2]
  split
  · rfl
  · rename_i h
    have h0 : f &&& HAS_RELATIVE_CONDITION = 0 := Decidable.not_not.mp h
    rw [h0]
    rw [and_two] at h0
    rw [and_two]
    show 0 + 2 = 2 * ((f + 2) / 2 % 2)
    omega

theorem visitCondition_block (env : Env) (n f : Nat) (c : Cond) : visitCondition (blockEnv env) n f c = f := by
  unfold visitCondition; simp

/-- masking the spend flags turns the mempool visitor's loop into the empty visitor's -/
theorem touches_blk (env : Env) : Touches env (blockEnv env) id (· &&& HAS_RELATIVE_CONDITION) id id :=
  ⟨rfl, rfl, markFlags_and2, and2_and2,
    fun n f c => by rw [visitCondition_block, visitCondition_and2], fun _ _ => rfl, fun _ _ => rfl, fun _ => rfl⟩

theorem addCost_blk (e : Nat) (sps : List Spend) (s : CSt) (m c : Nat) :
    addCost (blk e sps s) m c = liftSt (blk e sps) (addCost s m c) :=
  addCost_touch (fe := fun _ => e) (fc := id) (fs := fun _ => sps) (g := (· &&& HAS_RELATIVE_CONDITION)) (sc := id)
    (ctr := id) (fun _ _ => rfl) (fun _ _ => rfl) s m c

theorem condLoop_blk (env : Env) (e : Nat) (sps : List Spend) (t : Sexp) (s : CSt) (m : Nat)
    (hlen : sps.length = s.ret.spends.length) :
    condLoop (blockEnv env) t (blk e sps s) m = liftSt (blk e sps) (condLoop env t s m) :=
  condLoop_touch (fe := fun _ => e) (fs := fun _ => sps) (touches_blk env) t s m hlen

/-- `processSingleSpend` without its last step (`finishSpend`) -/
def processCore (env : Env) (ret : Bundle) (st : PState) (parent ph amount conds : Sexp)
    (clvmCost maxCost : Nat) : R (CSt × Nat) :=
  match spendHeader ret st parent ph amount clvmCost with
  | .error e => .error e
  | .ok s0 => do
    let (s0, m) ← addCost s0 maxCost (spendCharge env.flags)
    condLoop env conds (newSpendVisit env s0) m

theorem processSingleSpend_core (env : Env) (ret : Bundle) (st : PState) (parent ph amount conds : Sexp) (c m : Nat) :
    processSingleSpend env ret st parent ph amount conds c m =
      (processCore env ret st parent ph amount conds c m).map (fun p => (finishSpend env p.1, p.2)) := by
  unfold processSingleSpend processCore
  cases spendHeader ret st parent ph amount c with
  | error e => rfl
  | ok s0 => exact map_bind_same fun q _ => by cases condLoop env conds (newSpendVisit env q.1) q.2 <;> rfl

theorem processCore_ret {env : Env} {ret : Bundle} {st : PState} {parent ph amount conds : Sexp} {c m : Nat}
    {s : CSt} {m' : Nat} (h : processCore env ret st parent ph amount conds c m = .ok (s, m')) :
    s.ret.spends = ret.spends ∧ s.ret.executionCost = ret.executionCost := by
  unfold processCore at h
  cases hh : spendHeader ret st parent ph amount c with
  | error e => rw [hh] at h; cases h
  | ok s0 =>
    rw [hh] at h; simp only at h
    obtain ⟨⟨s1, m1⟩, ha, h⟩ := bind_ok h
    obtain ⟨_, rfl, _⟩ := addCost_ok_iff.mp ha
    obtain ⟨h1, h2, _⟩ := spendHeader_start hh
    obtain ⟨r1, r2⟩ := condLoop_ret h
    exact ⟨by rw [r1, newSpendVisit_ret]; exact h1, by rw [r2, newSpendVisit_ret]; exact h2⟩

theorem processCore_spends {env : Env} {ret : Bundle} {st : PState} {parent ph amount conds : Sexp} {c m : Nat}
    {s : CSt} {m' : Nat} (h : processCore env ret st parent ph amount conds c m = .ok (s, m')) :
    s.ret.spends = ret.spends := (processCore_ret h).1

theorem processCore_exec {env : Env} {ret : Bundle} {st : PState} {parent ph amount conds : Sexp} {c m : Nat}
    {s : CSt} {m' : Nat} (h : processCore env ret st parent ph amount conds c m = .ok (s, m')) :
    s.ret.executionCost = ret.executionCost := (processCore_ret h).2

theorem spendHeader_blk (ret : Bundle) (st : PState) (parent ph amount : Sexp) (c e : Nat) (sps : List Spend) :
    spendHeader { ret with executionCost := e, spends := sps } st parent ph amount c
      = (spendHeader ret st parent ph amount c).map (blk e sps) := by
  unfold spendHeader
  refine map_bind_same fun a1 _ => map_bind_same fun a2 _ => map_bind_same fun a3 _ => map_bind_same fun a4 _ => ?_
  dsimp only
  split
  · rfl
  · simp only [pure, Except.pure, Except.map, blk, show (0 : Nat) &&& HAS_RELATIVE_CONDITION = 0 from by decide]

theorem newSpendVisit_blk (env : Env) (e : Nat) (sps : List Spend) (s : CSt) (hf : s.spend.flags = 0) :
    newSpendVisit (blockEnv env) (blk e sps s) = blk e sps (newSpendVisit env s) := by
  unfold newSpendVisit
  simp only [Bool.false_eq_true, if_false]
  have h5 : (0 + ELIGIBLE_FOR_DEDUP + ELIGIBLE_FOR_FF) &&& HAS_RELATIVE_CONDITION = 0 := by decide
  have h1 : (0 + ELIGIBLE_FOR_DEDUP + 0) &&& HAS_RELATIVE_CONDITION = 0 := by decide
  have h0 : (0 : Nat) &&& HAS_RELATIVE_CONDITION = 0 := by decide
  split
  · simp only [hf]
    split <;> simp only [blk, hf, h5, h1, h0]
  · rfl

theorem processCore_blk (env : Env) (ret : Bundle) (st : PState) (parent ph amount conds : Sexp) (c m e : Nat)
    (sps : List Spend) (hlen : sps.length = ret.spends.length) :
    processCore (blockEnv env) { ret with executionCost := e, spends := sps } st parent ph amount conds c m
      = liftSt (blk e sps) (processCore env ret st parent ph amount conds c m) := by
  unfold processCore
  rw [spendHeader_blk]
  cases hh : spendHeader ret st parent ph amount c with
  | error er => rfl
  | ok s0 =>
    refine map_bind (addCost_blk ..) fun ⟨s1, m1⟩ ha => ?_
    obtain ⟨-, rfl, -⟩ := addCost_ok_iff.mp ha
    obtain ⟨hs, -, hf⟩ := spendHeader_start hh
    dsimp only
    rw [newSpendVisit_blk env e sps (bump s0 _) hf]
    exact condLoop_blk env e sps conds _ m1 (by rw [newSpendVisit_ret]; exact hlen.trans (congrArg List.length hs.symm))

theorem postSpend_blockSpend (env : Env) (sp : Spend) :
    postSpend (blockEnv env) { sp with flags := sp.flags &&& HAS_RELATIVE_CONDITION } = blockSpend (postSpend env sp) := by
  unfold postSpend blockSpend
  simp only [Bool.not_false, if_true]
  split
  · rfl
  · simp only
    congr 1
    split <;> split <;> simp only [clearFlag_ff_and2, clearFlag_dedup_and2]

end ChiaModel.Cond
