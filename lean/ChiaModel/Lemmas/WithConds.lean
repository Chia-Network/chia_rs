import ChiaModel.Model.WithConds
import ChiaModel.Lemmas.Coinspends
/-
`get_coinspends_with_conditions_for_trusted_block` (`Model/WithConds.lean`).  A listing is a fold of `pushEntry` over the
entries of the condition list (`listConds_foldl`), from which what the per-spend limit can drop is read off
(`foldl_pushEntry_*`); the helper's loop is the plain helper's loop (`coinspendsLoop`) run side by side with the puzzle
runs (`withCondsLoop_spec`), and on a spend list the native loop accepted (`Trace`) every run is there and within the
limit (`puzzleRunsOk_of_trace`, `listingsOf_of_trace`).
-/
namespace ChiaModel.Gn
open ChiaModel ChiaModel.Cond

/-- the items of a (possibly improper) list, as `Allocator::next` walks it -/
def items : Sexp → List Sexp
  | .pair a rest => a :: items rest
  | .atom _ => []

theorem listConds_foldl : ∀ (t : Sexp) (out : CondListing),
    listConds t out = ((items t).filterMap condEntry).foldl pushEntry out
  | .atom _, out => rfl
  | .pair c rest, out => by
    simp only [listConds, items, List.filterMap_cons]
    cases h : condEntry c with
    | none => simp only [listConds_foldl rest out]
    | some e => simp only [List.foldl_cons, listConds_foldl rest (pushEntry out e)]

theorem foldl_pushEntry_short : ∀ (es out : CondListing), out.length + es.length ≤ maxConditionsPerSpend →
    es.foldl pushEntry out = out ++ es
  | [], out, _ => by simp
  | e :: es, out, h => by
    simp only [List.length_cons] at h
    have hp : pushEntry out e = out ++ [e] := by
      unfold pushEntry
      rw [if_neg (by intro hh; have := hh.1; omega)]
    simp only [List.foldl_cons, hp]
    rw [foldl_pushEntry_short es (out ++ [e]) (by simp only [List.length_append, List.length_cons, List.length_nil]; omega)]
    simp

theorem foldl_pushEntry_high : ∀ (es out : CondListing),
    (es.foldl pushEntry out).filter (fun e => isHighPriority e.1) =
      out.filter (fun e => isHighPriority e.1) ++ es.filter (fun e => isHighPriority e.1)
  | [], out => by simp
  | e :: es, out => by
    simp only [List.foldl_cons]
    rw [foldl_pushEntry_high es (pushEntry out e)]
    unfold pushEntry
    by_cases hh : isHighPriority e.1 = true
    · rw [if_neg (by simp [hh])]
      simp [hh]
    · split
      · simp [hh]
      · simp [hh]

theorem foldl_pushEntry_sublist : ∀ (es out : CondListing), ∃ l, es.foldl pushEntry out = out ++ l ∧ l.Sublist es
  | [], out => ⟨[], by simp, List.Sublist.refl _⟩
  | e :: es, out => by
    simp only [List.foldl_cons]
    obtain ⟨l, h1, h2⟩ := foldl_pushEntry_sublist es (pushEntry out e)
    unfold pushEntry at h1 ⊢
    split at h1
    · rename_i hc
      rw [if_pos hc]
      exact ⟨l, h1, List.Sublist.cons _ h2⟩
    · rename_i hc
      rw [if_neg hc]
      exact ⟨e :: l, by rw [h1]; simp, List.Sublist.cons_cons _ h2⟩

theorem collectArgs_prefix (t : Sexp) (acc bs : List Bytes) : collectArgs t acc = some bs → ∃ more, bs = acc ++ more := by
  fun_induction collectArgs t acc with
  | case1 => intro h; cases h   -- an atom of 1024 bytes or more: skipped
  | case2 _ _ _ b _ ih =>   -- an atom is collected
    intro h; obtain ⟨m, hm⟩ := ih h; exact ⟨b :: m, by rw [hm]; simp⟩
  | case3 _ _ _ _ _ ih => exact ih   -- a pair is passed over
  | _ => intro h; cases h; exact ⟨[], by simp⟩   -- six collected, or the end of the list

/-- every atom the loop can reach is shorter than 1024 bytes → the condition is not skipped -/
def smallAtoms : Sexp → Bool
  | .pair (.atom b) rest => decide (b.length < 1024) && smallAtoms rest
  | .pair (.pair _ _) rest => smallAtoms rest
  | .atom _ => true

theorem collectArgs_some (t : Sexp) (acc : List Bytes) : smallAtoms t = true → ∃ bs, collectArgs t acc = some bs := by
  fun_induction collectArgs t acc with
  | case1 _ _ _ _ hb =>   -- an atom of 1024 bytes or more: excluded
    intro h; simp only [smallAtoms, Bool.and_eq_true, decide_eq_true_eq] at h; omega
  | case2 _ _ _ _ _ ih =>   -- an atom is collected
    intro h; simp only [smallAtoms, Bool.and_eq_true] at h; exact ih h.2
  | case3 _ _ _ _ _ ih => exact ih   -- a pair is passed over
  | _ => exact fun _ => ⟨_, rfl⟩   -- six collected, or the end of the list

def runListing (r : RunRes) : CondListing := match r with | some (_, out) => listConds out [] | none => []

/-- the listings are those of the puzzle runs, in order: the k-th listed pair carries `listConds` of the
output of the run with the index of its list element -/
def listingsOf (puz : Nat → RunRes) : Sexp → Nat → List CondListing
  | .pair spend nxt, i =>
    match extract5 spend with
    | none => listingsOf puz nxt (i + 1)
    | some _ => runListing (puz i) :: listingsOf puz nxt (i + 1)
  | .atom _, _ => []

theorem withCondsLoop_spec (fits : Sexp → Bool) (puz : Nat → RunRes) (t : Sexp) (i : Nat) :
    match withCondsLoop fits puz t i with
    | some l => coinspendsLoop fits t = some (l.map Prod.fst) ∧ l.map Prod.snd = listingsOf puz t i ∧
        puzzleRunsOk puz t i = true
    | none => coinspendsLoop fits t = none ∨ puzzleRunsOk puz t i = false := by
  -- the four recursions make the same case distinctions on the head of the list; arm by arm of `withCondsLoop`, the other
  -- three are evaluated under the arm's conditions, the tail being the induction hypothesis
  fun_induction withCondsLoop fits puz t i with
  | case1 _ _ _ h5 ih =>   -- no spend tuple: skipped by all four
    simp only [coinspendsLoop, listingsOf, puzzleRunsOk, h5, Bool.true_and]; exact ih
  | case2 => rename_i h5; exact .inl (by simp only [coinspendsLoop, h5])   -- the parent is a pair
  | case3 => rename_i hl h5; exact .inl (by simp only [coinspendsLoop, h5, if_pos hl])   -- not 32 bytes
  | case4 => rename_i hl _ hpa h5; exact .inl (by simp only [coinspendsLoop, h5, if_neg hl, hpa])   -- bad amount
  | case5 => rename_i hp h5; exact .inr (by simp only [puzzleRunsOk, h5, hp, Bool.false_and])   -- the puzzle raised
  | case6 =>   -- the puzzle run is over the limit
    rename_i hp hc h5
    exact .inr (by simp only [puzzleRunsOk, h5, hp, Bool.and_eq_false_imp, decide_eq_true_eq]; omega)
  | case7 =>   -- the tail fails: in one of the two ways
    rename_i hl _ hpa _ _ hp hc hr h5 ih
    rw [hr] at ih
    rcases ih with h | h
    · exact .inl (by simp only [coinspendsLoop, h5, if_neg hl, hpa, h])
    · exact .inr (by simp only [puzzleRunsOk, h5, hp, h, Bool.and_false])
  | case8 =>   -- head and tail succeed
    rename_i hl _ hpa _ _ _ _ _ hp hc _ hr h5 ih
    rw [hr] at ih
    obtain ⟨h1, h2, h3⟩ := ih
    exact ⟨by simp only [coinspendsLoop, h5, if_neg hl, hpa, h1]; rfl,
      by simp only [listingsOf, h5, List.map_cons, h2, runListing, hp],
      by simp only [puzzleRunsOk, h5, hp, h3, Bool.and_true, decide_eq_true_eq]; omega⟩
  | case9 => exact ⟨rfl, rfl, rfl⟩

theorem getCoinspendsWithConds_iff {fits : Sexp → Bool} {p : Params} {g : GenInput} {genRun : RunRes} {puz : Nat → RunRes}
    {l : List (CoinSpendM × CondListing)} :
    getCoinspendsWithConds fits p g genRun puz = some l ↔
      ¬(simpleGen p.flags ∧ (!g.startsQuote) = true) ∧ generatorNodeOk p.flags g.prog = true ∧
      ¬(simpleGen p.flags ∧ g.nrefs > 0) ∧
      ∃ c allSpends args, genRun = some (c, .pair allSpends args) ∧ c ≤ Gen.maxBlockCostClvm ∧
        allExtract3 allSpends = true ∧ withCondsLoop fits puz allSpends 0 = some l := by
  constructor
  · fun_cases getCoinspendsWithConds fits p g genRun puz with
    | case8 hq hnode hr c hc allSpends args hex =>
      -- every check passed and the generator returned a pair: what is left is the loop
      exact fun h => ⟨hq, by simpa using hnode, hr, c, allSpends, args, rfl, by omega, by simpa using hex, h⟩
    | _ => intro h; cases h
  · rintro ⟨hq, hnode, hr, c, allSpends, args, rfl, hc, hex, h⟩
    unfold getCoinspendsWithConds
    rw [if_neg hq, if_neg (by simp [hnode]), if_neg hr]
    simp only
    rw [if_neg (by omega), if_neg (by simp [hex])]
    exact h

theorem puzzleRunsOk_of_trace (puz : Nat → RunRes) : ∀ (news : List Spend) (t : Sexp) (i m : Nat),
    Trace puz t i m news → m ≤ Gen.maxBlockCostClvm → puzzleRunsOk puz t i = true := by
  intro news
  induction news with
  | nil =>
    intro t i m h _
    simp only [Trace] at h
    subst h; rfl
  | cons sp rest ih =>
    intro t i m h hm
    obtain ⟨spend, nxt, puzzle, ab, sol, r, c, conds, m2, rfl, h5, _, _, _, _, hp, hc, hm2, _, htr⟩ := h
    unfold puzzleRunsOk
    rw [h5, hp]
    simp only [Bool.and_eq_true, decide_eq_true_eq]
    exact ⟨by omega, ih nxt (i + 1) m2 htr (by omega)⟩

theorem listingsOf_of_trace (puz : Nat → RunRes) : ∀ (news : List Spend) (t : Sexp) (i m : Nat),
    Trace puz t i m news →
    listingsOf puz t i = (List.range news.length).map (fun k => runListing (puz (i + k))) := by
  intro news
  induction news with
  | nil =>
    intro t i m h
    simp only [Trace] at h
    subst h; rfl
  | cons sp rest ih =>
    intro t i m h
    obtain ⟨spend, nxt, puzzle, ab, sol, r, c, conds, m2, rfl, h5, _, _, _, _, hp, hc, hm2, _, htr⟩ := h
    unfold listingsOf
    rw [h5]
    simp only [List.length_cons, List.range_succ_eq_map, List.map_cons, List.map_map, Nat.add_zero]
    rw [ih nxt (i + 1) m2 htr]
    congr 1
    apply List.map_congr_left
    intro k _
    simp only [Function.comp]
    rw [show i + 1 + k = i + (k + 1) by omega]

end ChiaModel.Gn
