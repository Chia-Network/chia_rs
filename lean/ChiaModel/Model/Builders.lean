import ChiaModel.Model.Generator
import ChiaModel.Model.Ints
/-
Models of the two block builders
  chia-consensus/src/build_compressed_block.rs  (`BlockBuilder`, clvmr's incremental `Serializer`)
  chia-consensus/src/build_interned_block.rs    (`InternedBlockBuilder`, `spend_vbytes`, checkpoints)
as state machines `step : St → Add → St × Res` and `finalize`.

* Trees are values (`Sexp`); the allocator and its checkpoints disappear (restoring a checkpoint
  only frees nodes nobody refers to any more).
* Signatures are formal: a signature is the list of the tags of the single signatures aggregated
  into it (the free monoid; `Signature::default()` is `[]`, `aggregate` is `++`).  Any interpretation
  in a commutative monoid factors through it (`Mon.eval`).
* All arithmetic on the running totals is `u64` arithmetic as a release build performs it (wrapping;
  `wadd`, `wmul`) - the guards add a caller-supplied declared cost.
* The interned builder is modelled completely.  For the compressed builder the incremental serializer
  is external: each `Add` carries, as oracle values measured by the harness on clvmr's real
  `Serializer`, its size after the add and after the restore; `finalize` gets the final size.  The
  assumed contract is `SerContract` below.
-/
namespace ChiaModel.Bld
open ChiaModel ChiaModel.Gn

/-! ## constants (the specification's values; `Props/C10.lean` proves the values regenerated from
the source, `Gen/Builder.lean`, equal to them) -/

/-- `MAX_SKIPPED_ITEMS` -/
def maxSkipped : Nat := 6
/-- `MIN_COST_THRESHOLD`: typical cost of a standard spend -/
def minCostThreshold : Nat := 6000000
/-- cost of executing the quote around the spend list: the initial `block_cost` -/
def quoteCost : Nat := 20
/-- `COST_CONS`: interned weight of the pair linking a spend into the spend list -/
def costCons : Nat := 3
/-- `WRAPPER_VBYTES`: interned weight of `(q . (spend_list . nil))` around the spend list:
atom `1` (3) + nil (2) + two pairs (6) -/
def wrapperVbytes : Nat := 11

def W : Nat := 2 ^ 64
/-- `u64` addition / multiplication of a release build -/
def wadd (a b : Nat) : Nat := (a + b) % W
def wmul (a b : Nat) : Nat := (a * b) % W

/-! ## inputs -/

/-- a coin spend as the builders see it: parent id, puzzle reveal, amount, solution (decoded) -/
structure Spend where
  parent : Bytes
  puzzle : Sexp
  amount : Nat
  solution : Sexp
  deriving Repr, DecidableEq

/-- `(parent puzzle amount solution)`: the item both builders cons onto the spend list
(`new_number(amount)` is the canonical integer atom) -/
def Spend.item (s : Spend) : Sexp :=
  .pair (.atom s.parent) (.pair s.puzzle (.pair (.atom (canonNat s.amount)) (.pair s.solution Sexp.nil)))

structure SBundle where
  spends : List Spend
  sigTag : Nat            -- the bundle's aggregated signature (formal generator)
  deriving Repr, DecidableEq

/-- one `add_spend_bundles` call -/
structure Add where
  bundles : List SBundle
  cost : Nat                     -- declared cost (a u64)
  bad : Bool := false            -- some puzzle / solution does not deserialize (`?` propagates an Err)
  sizeAfter : Nat := 0           -- compressed builder: `ser.size()` after `ser.add` (oracle)
  sizeRestored : Nat := 0        -- compressed builder: `ser.size()` after `ser.restore` (oracle)
  deriving Repr

/-- the items of a batch in the order the loop conses them: the LAST spend ends up first -/
def Add.items (op : Add) : List Sexp :=
  ((op.bundles.flatMap (·.spends)).map Spend.item).reverse

def Add.tags (op : Add) : List Nat := op.bundles.map (·.sigTag)

inductive Res where
  | ok (added done : Bool)
  | err
  deriving Repr, DecidableEq

/-- `result(num_skipped)` -/
def skipResult (numSkipped : Nat) : Bool := numSkipped > maxSkipped

/-- the generator both builders emit: `(q . (spend_list . nil))` -/
def generator (items : List Sexp) : Sexp :=
  .pair (.atom [1]) (.pair (Sexp.ofList items) Sexp.nil)

/-! ## the interned builder -/

structure ISt where
  spends : List Sexp := []      -- the spend list, newest first
  sig : List Nat := []
  blockCost : Nat := quoteCost
  byteCost : Nat := 0
  numSkipped : Nat := 0
  cpb : Nat
  maxCost : Nat
  deriving Repr

def ISt.init (cpb maxCost : Nat) : ISt := { cpb := cpb, maxCost := maxCost }

/-- `spend_vbytes`: the spend interned on its own plus the linking cons cell -/
def spendVbytes (item : Sexp) : Nat := internedVbytes item + costCons

/-- the `new_byte_cost` accumulation of the loop -/
def newByteCost (cpb : Nat) (items : List Sexp) : Nat :=
  items.foldl (fun acc it => wadd acc (wmul (spendVbytes it) cpb)) 0

def ISt.wrapperCost (s : ISt) : Nat := wmul wrapperVbytes s.cpb

/-- `cost()` -/
def ISt.cost (s : ISt) : Nat := wadd (wadd s.byteCost (wmul wrapperVbytes s.cpb)) s.blockCost

/-- `InternedBlockBuilder::add_spend_bundles` -/
def ISt.step (s : ISt) (op : Add) : ISt × Res :=
  let wrapper := s.wrapperCost
  -- (the first guard does NOT count a skipped item in this builder)
  if wadd (wadd (wadd s.byteCost wrapper) s.blockCost) minCostThreshold > s.maxCost then (s, .ok false true)
  else if wadd (wadd (wadd s.byteCost wrapper) s.blockCost) op.cost > s.maxCost then
    ({ s with numSkipped := s.numSkipped + 1 }, .ok false (skipResult (s.numSkipped + 1)))
  else if op.bad then (s, .err)
  else
    -- the loop conses in order, so the batch's items arrive reversed; `new_byte_cost` sums in loop order
    let newTotal := wadd s.byteCost (newByteCost s.cpb op.items.reverse)
    if wadd (wadd (wadd newTotal wrapper) s.blockCost) op.cost > s.maxCost then
      ({ s with numSkipped := s.numSkipped + 1 }, .ok false (skipResult (s.numSkipped + 1)))
    else
      let s' := { s with byteCost := newTotal, spends := op.items ++ s.spends,
                         blockCost := wadd s.blockCost op.cost, sig := s.sig ++ op.tags }
      (s', .ok true (decide (wadd (wadd (wadd s'.byteCost wrapper) s'.blockCost) minCostThreshold > s.maxCost)))

/-- what `finalize` returns (generator tree, signature, cost); `none` = the `assert!` fires (panic) -/
def ISt.finalize (s : ISt) : Option (Sexp × List Nat × Nat) :=
  let root := generator s.spends
  let total := wadd (wmul (internedVbytes root) s.cpb) s.blockCost
  if total ≤ s.maxCost then some (root, s.sig, total) else none

/-- the exact cost `finalize` computes -/
def ISt.finalCost (s : ISt) : Nat := wadd (wmul (internedVbytes (generator s.spends)) s.cpb) s.blockCost

/-! ## the compressed builder -/

structure CSt where
  spends : List Sexp := []      -- the spend list in generator order: oldest batch first
  sig : List Nat := []
  blockCost : Nat := quoteCost
  byteCost : Nat := 0           -- NB: starts at 0 although the serializer already holds `ff 01 ff`
  numSkipped : Nat := 0
  size : Nat := 3               -- `ser.size()`: after `new()` the serializer has written `ff 01 ff`
  cpb : Nat
  maxCost : Nat
  deriving Repr

def CSt.init (cpb maxCost : Nat) : CSt := { cpb := cpb, maxCost := maxCost }

/-- `cost()` -/
def CSt.cost (s : CSt) : Nat := wadd s.byteCost s.blockCost

/-- `(ser.size() + 2) * cost_per_byte` -/
def byteCostOf (size cpb : Nat) : Nat := wmul (wadd size 2) cpb

/-- `BlockBuilder::add_spend_bundles`; the serializer's `done` is false for every tree that ends in
the sentinel (every tree this function feeds it) -/
def CSt.step (s : CSt) (op : Add) : CSt × Res :=
  if wadd (wadd s.byteCost s.blockCost) minCostThreshold > s.maxCost then
    ({ s with numSkipped := s.numSkipped + 1 }, .ok false true)
  else if wadd (wadd s.byteCost s.blockCost) op.cost > s.maxCost then
    ({ s with numSkipped := s.numSkipped + 1 }, .ok false (skipResult (s.numSkipped + 1)))
  else if op.bad then (s, .err)
  else
    let byte' := byteCostOf op.sizeAfter s.cpb
    if wadd (wadd byte' s.blockCost) op.cost > s.maxCost then
      ({ s with size := op.sizeRestored, byteCost := byteCostOf op.sizeRestored s.cpb, numSkipped := s.numSkipped + 1 },
       .ok false (skipResult (s.numSkipped + 1)))
    else
      -- the batch's tree replaces the sentinel, which sits at the END of what was serialized so far:
      -- batches appear oldest first (each batch internally reversed, as in the interned builder)
      let s' := { s with size := op.sizeAfter, byteCost := byte', spends := s.spends ++ op.items,
                         blockCost := wadd s.blockCost op.cost, sig := s.sig ++ op.tags }
      (s', .ok true (decide (wadd (wadd s'.byteCost s'.blockCost) minCostThreshold > s.maxCost)))

/-- `finalize`; `finalSize` is the length of the bytes `into_inner` returns (oracle) -/
def CSt.finalize (s : CSt) (finalSize : Nat) : Option (Sexp × List Nat × Nat) :=
  let total := wadd s.blockCost (wmul finalSize s.cpb)
  if total ≤ s.maxCost then some (generator s.spends, s.sig, total) else none

/-- the assumed contract of clvmr's incremental `Serializer`, per add: `restore` undoes `add` (the size returns
to what it was) and `add` never shrinks the output.  For finalize it is `FinContract`: closing the two open lists
costs at most two more bytes.  (That the final bytes decode, back-references resolved, to the tree fed in is not
stated in Lean; it is monitored per case by decoding the bytes.) -/
structure SerContract (s : CSt) (op : Add) : Prop where
  restore_undoes : op.sizeRestored = s.size
  size_monotone : s.size ≤ op.sizeAfter

def FinContract (s : CSt) (finalSize : Nat) : Prop := finalSize ≤ s.size + 2

/-! ## histories -/

def ISt.run (s : ISt) (ops : List Add) : ISt := ops.foldl (fun s op => (s.step op).1) s

def CSt.run (s : CSt) (ops : List Add) : CSt := ops.foldl (fun s op => (s.step op).1) s

/-- interpretation of a formal signature in any structure with a binary operation and a unit -/
structure Mon (M : Type) where
  one : M
  mul : M → M → M
  mul_assoc : ∀ a b c, mul (mul a b) c = mul a (mul b c)
  one_mul : ∀ a, mul one a = a
  mul_one : ∀ a, mul a one = a

def Mon.eval {M : Type} (m : Mon M) (f : Nat → M) (l : List Nat) : M := l.foldr (fun t acc => m.mul (f t) acc) m.one

end ChiaModel.Bld
