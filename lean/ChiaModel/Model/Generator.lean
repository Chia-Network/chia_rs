import ChiaModel.Model.Conditions
/-
Models of the block-generator execution paths (chia-consensus/src/run_block_generator.rs,
spendbundle_conditions.rs, solution_generator.rs, generator_cost.rs, additions_and_removals.rs,
get_puzzle_and_solution.rs).  The CLVM interpreter (clvmr) is external: every `run_program` call is
a model parameter (an *oracle* value supplied per case by the harness, which runs the real
interpreter), under the contract DESIGN §5.4 calls EvalContract, which `runWithLimit` builds in: a run that
costs `c` succeeds under every limit ≥ c with the same result and fails with cost-exceeded under every smaller limit.
-/
namespace ChiaModel.Gn
open ChiaModel ChiaModel.Cond

/-- result of one interpreter run at an unbounded limit: `none` = the program raised -/
abbrev RunRes := Option (Nat × Sexp)

/-- applying the cost limit to an unbounded-run result -/
def runWithLimit (r : RunRes) (limit : Nat) : R (Nat × Sexp) :=
  match r with
  | none => .error .reject
  | some (c, out) => if c > limit then .error .costExceeded else .ok (c, out)

/-- `subtract_cost` -/
def subtractCost (left sub : Nat) : R Nat := if sub > left then .error .costExceeded else .ok (left - sub)

/-- Allocator::next -/
def anext : Sexp → Option (Sexp × Sexp)
  | .pair a b => some (a, b)
  | .atom _ => none

/-- `extract_n::<5>`: four items and the rest -/
def extract5 (n : Sexp) : Option (Sexp × Sexp × Sexp × Sexp × Sexp) :=
  match n with
  | .pair a (.pair b (.pair c (.pair d rest))) => some (a, b, c, d, rest)
  | _ => none

/-- `extract_n::<3>` succeeds iff there are two items (and a rest) -/
def extract3ok : Sexp → Bool
  | .pair _ (.pair _ _) => true
  | _ => false

/-! ## interned size -/

def subtrees : Sexp → List Sexp
  | .atom b => [.atom b]
  | .pair l r => .pair l r :: (subtrees l ++ subtrees r)

def dedup (l : List Sexp) : List Sexp := l.foldl (fun acc x => if acc.contains x then acc else acc ++ [x]) []

/-- `interned_vbytes`: over the *set* of distinct subtrees: atom bytes + 2 per atom + 3 per pair -/
def internedVbytes (t : Sexp) : Nat :=
  ((dedup (subtrees t)).map (fun n => match n with | .atom b => b.length + 2 | .pair _ _ => 3)).sum

/-! ## generator checks -/

def simpleGen (flags : Nat) : Bool := hasFlag flags Gen.flagSimpleGenerator

/-- `check_generator_node` under SIMPLE_GENERATOR: the program is `(1 . x)` with the atom `01` -/
def generatorNodeOk (flags : Nat) (prog : Sexp) : Bool :=
  !simpleGen flags || (match prog with | .pair (.atom [1]) _ => true | _ => false)

/-- the per-generator inputs the harness reports about the serialized program -/
structure GenInput where
  len : Nat              -- byte length of the serialized program
  startsQuote : Bool     -- serialization starts with ff 01
  prog : Sexp            -- the decoded program (back-references resolved)
  nrefs : Nat            -- number of block references passed

structure Params where
  flags : Nat
  pkOk : Bytes → Bool
  sigOk : List (Bytes × Bytes) → Bool
  costPerByte : Nat := Gen.costPerByte

/-! ## native path: `run_block_generator2` -/

/-- the spend loop of the native path; `puz i` is the unbounded run of the i-th spend's puzzle -/
def nativeLoop (env : Env) (puz : Nat → RunRes) : Sexp → Nat → Bundle → PState → Nat → Nat → R ((Bundle × PState) × Nat)
  | .pair spend nxt, i, ret, st, spendsLeft, costLeft =>
    if spendsLeft = 0 then .error .reject else
    match extract5 spend with
    | none => .error .reject
    | some (parent, puzzle, amount, _solution, _) =>
      match runWithLimit (puz i) costLeft with
      | .error e => .error e
      | .ok (clvmCost, conditions) =>
        match subtractCost costLeft clvmCost with
        | .error e => .error e
        | .ok costLeft =>
          let ret := { ret with executionCost := ret.executionCost + clvmCost }
          match processSingleSpend env ret st parent (.atom (Sexp.treeHash puzzle)) amount conditions clvmCost costLeft with
          | .error e => .error e
          | .ok ((ret, st), costLeft) => nativeLoop env puz nxt (i + 1) ret st (spendsLeft - 1) costLeft
  | .atom [], _, ret, st, _, costLeft => .ok ((ret, st), costLeft)
  | .atom _, _, _, _, _, _ => .error .reject

def allExtract3 : Sexp → Bool
  | .pair spend nxt => extract3ok spend && allExtract3 nxt
  | .atom _ => true

/-- `run_block_generator2` -/
def native (p : Params) (g : GenInput) (genRun : RunRes) (puz : Nat → RunRes) (maxCost : Nat) : R Bundle :=
  if simpleGen p.flags ∧ !g.startsQuote then .error .reject else
  let baseCost := (if hasFlag p.flags Gen.flagInternedGenerator then internedVbytes g.prog else g.len) * p.costPerByte
  match subtractCost maxCost baseCost with
  | .error e => .error e
  | .ok costLeft =>
    if !generatorNodeOk p.flags g.prog then .error .reject else
    if simpleGen p.flags ∧ g.nrefs > 0 then .error .reject else
    match runWithLimit genRun costLeft with
    | .error e => .error e
    | .ok (genCost, out) =>
      match subtractCost costLeft genCost with
      | .error e => .error e
      | .ok costLeft =>
        match first out with
        | .error e => .error e
        | .ok allSpends =>
          if !allExtract3 allSpends then .error .reject else
          let env : Env := { flags := p.flags, mempool := false, pkOk := p.pkOk }
          let ret0 : Bundle := { executionCost := genCost }
          match nativeLoop env puz allSpends 0 ret0 {} (spendLimit p.flags) costLeft with
          | .error e => .error e
          | .ok ((ret, st), costLeft) =>
            match finishBundle env p.sigOk ret st with
            | .error e => .error e
            | .ok ret => .ok { ret with cost := maxCost - costLeft }

/-! ## legacy path: `run_block_generator` (generator ROM run inside CLVM) -/

/-- `rom_bootstrap_generator.clsp`, as a function of the generator's output and the puzzle runs:
`(process-decompressor (a generator …))` = `((recurse coin_spends) . args)`; `recurse` raises on a
non-nil atom terminator; each spend `(parent puzzle amount solution . args)` (raises when shorter)
becomes `(parent (sha256tree puzzle) amount (a puzzle solution) . args)` -/
def romRecurse (puz : Nat → RunRes) : Sexp → Nat → Option Sexp
  | .pair spend nxt, i =>
    match extract5 spend with
    | none => none
    | some (parent, puzzle, amount, _solution, args) =>
      match puz i with
      | none => none
      | some (_, conds) =>
        match romRecurse puz nxt (i + 1) with
        | none => none
        | some tail => some (.pair (.pair parent (.pair (.atom (Sexp.treeHash puzzle)) (.pair amount (.pair conds args)))) tail)
  | .atom [], _ => some Sexp.nil
  | .atom _, _ => none

def romModel (genRun : RunRes) (puz : Nat → RunRes) : Option Sexp :=
  match genRun with
  | none => none
  | some (_, out) =>
    match out with
    | .pair coinSpends args => (romRecurse puz coinSpends 0).map (fun l => .pair l args)
    | .atom _ => none

/-- `run_block_generator`; `romRun` is the unbounded run of the ROM on (program, refs) -/
def legacy (p : Params) (g : GenInput) (romRun : RunRes) (maxCost : Nat) : R Bundle :=
  if simpleGen p.flags ∧ !g.startsQuote then .error .reject else
  -- simple generators take no block references (same rule as the native path)
  if simpleGen p.flags ∧ g.nrefs > 0 then .error .reject else
  match subtractCost maxCost (g.len * p.costPerByte) with
  | .error e => .error e
  | .ok costLeft =>
    if !generatorNodeOk p.flags g.prog then .error .reject else
    match runWithLimit romRun costLeft with
    | .error e => .error e
    | .ok (clvmCost, out) =>
      match subtractCost costLeft clvmCost with
      | .error e => .error e
      | .ok costLeft =>
        let env : Env := { flags := p.flags, mempool := false, pkOk := p.pkOk }
        match parseSpends env p.sigOk out costLeft 0 with
        | .error e => .error e
        | .ok (ret, _) => .ok { ret with cost := ret.cost + (maxCost - costLeft), executionCost := clvmCost }

/-! ## solution generator -/

structure CoinSpendM where
  parent : Bytes
  puzzleHash : Bytes       -- the *declared* puzzle hash of the coin
  amount : Nat
  puzzle : Sexp
  solution : Sexp
  puzzleLen : Nat          -- byte lengths of the reveals as serialized in the CoinSpend
  solutionLen : Nat

/-- `build_generator`: `(q . ((spend … ) . nil))` with the spends in REVERSE order of the input
(the list is built by consing onto the front) -/
def buildGenerator (spends : List CoinSpendM) : Sexp :=
  let items := spends.map (fun s => Sexp.ofList [.atom s.parent, s.puzzle, .atom (canonNat s.amount), s.solution])
  .pair (.atom [1]) (.pair (Sexp.ofList items.reverse) Sexp.nil)

/-- `calculate_generator_length` with the generated constants and `clvm_bytes_len` ladder -/
def calculateGeneratorLength (spends : List CoinSpendM) : Nat :=
  Gen.genLenBase + (spends.map (fun s => Gen.genLenPerSpend + s.puzzleLen + Gen.clvmBytesLen s.amount + s.solutionLen)).sum

/-! ## mempool path: `run_spendbundle` -/

def QUOTE_BYTES : Nat := 2

def bundleLoop (env : Env) (puz : Nat → RunRes) : List CoinSpendM → Nat → Bundle → PState → Nat → R ((Bundle × PState) × Nat)
  | [], _, ret, st, costLeft => .ok ((ret, st), costLeft)
  | cs :: rest, i, ret, st, costLeft =>
    match runWithLimit (puz i) costLeft with
    | .error e => .error e
    | .ok (clvmCost, conditions) =>
      let ret := { ret with executionCost := ret.executionCost + clvmCost }
      match subtractCost costLeft clvmCost with
      | .error e => .error e
      | .ok costLeft =>
        if cs.puzzleHash ≠ Sexp.treeHash cs.puzzle then .error .reject else
        match processSingleSpend env ret st (.atom cs.parent) (.atom (Sexp.treeHash cs.puzzle)) (.atom (canonNat cs.amount)) conditions clvmCost costLeft with
        | .error e => .error e
        | .ok ((ret, st), costLeft) => bundleLoop env puz rest (i + 1) ret st costLeft

/-- `run_spendbundle` (without fingerprints); returns the conditions and the (pk, text) pairs -/
def runSpendbundle (p : Params) (spends : List CoinSpendM) (puz : Nat → RunRes) (maxCost : Nat) : R (Bundle × List (Bytes × Bytes)) :=
  let baseCost := (if hasFlag p.flags Gen.flagInternedGenerator then internedVbytes (buildGenerator spends)
                   else calculateGeneratorLength spends - QUOTE_BYTES) * p.costPerByte
  match subtractCost maxCost baseCost with
  | .error e => .error e
  | .ok costLeft =>
    if hasFlag p.flags Gen.flagLimitSpends ∧ spends.length > MAX_SPENDS_PER_BLOCK then .error .reject else
    let env : Env := { flags := p.flags, mempool := true, pkOk := p.pkOk }
    match bundleLoop env puz spends 0 {} {} costLeft with
    | .error e => .error e
    | .ok ((ret, st), costLeft) =>
      let ret := postProcess env ret st
      match validateConditions ret st with
      | .error e => .error e
      | .ok _ => .ok ({ ret with cost := maxCost - costLeft }, st.pkmPairs)

/-! ## trusted fast paths -/

/-- the CREATE_COIN scan of `additions_and_removals` over one spend's condition list; `none` = error -/
def scanCreateCoins (spendId : Bytes) : Sexp → Option (List ((Bytes × Bytes × Nat) × Option Bytes))
  | .pair c nxt =>
    match c with
    | .atom _ => none                                   -- `first(c)` fails
    | .pair op args =>
      if op ≠ .atom [51] then scanCreateCoins spendId nxt
      else
        match args with
        | .pair (.atom ph) (.pair amount hint) =>
          if ph.length ≠ 32 then none else
          match amount with
          | .pair _ _ => none
          | .atom ab =>
            match sanitizeUint ab 8 with
            | .ok v =>
              let h : Option Bytes := match hint with
                | .pair (.pair (.atom hb) _) _ => if hb.length ≤ 32 ∧ hb.length > 0 then some hb else none
                | _ => none
              (scanCreateCoins spendId nxt).map (fun l => ((spendId, ph, v), h) :: l)
            | _ => none
        | _ => none
  | .atom [] => some []
  | .atom _ => none

/-- `additions_and_removals`: (additions with hints, removals as (coin id, parent, puzzle hash, amount)) -/
def addRemLoop (puz : Nat → RunRes) : Sexp → Nat → Nat →
    Option (List ((Bytes × Bytes × Nat) × Option Bytes) × List (Bytes × Bytes × Bytes × Nat))
  | .pair spend nxt, i, costLeft =>
    match extract5 spend with
    | none => none
    | some (parent, puzzle, amount, _solution, _) =>
      match parent, amount with
      | .atom pb, .atom ab =>
        if pb.length ≠ 32 then none else
        match sanitizeUint ab 8 with
        | .ok v =>
          match puz i with
          | none => none
          | some (c, conds) =>
            if c > costLeft then none else
            let ph := Sexp.treeHash puzzle
            let id := sha256 (pb ++ ph ++ Gen.coinIdAmount v)
            match scanCreateCoins id conds, addRemLoop puz nxt (i + 1) (costLeft - c) with
            | some adds, some (adds2, rems2) => some (adds ++ adds2, (id, pb, ph, v) :: rems2)
            | _, _ => none
        | _ => none
      | _, _ => none
  | .atom _, _, _ => some ([], [])

def additionsAndRemovals (p : Params) (g : GenInput) (genRun : RunRes) (puz : Nat → RunRes) :
    Option (List ((Bytes × Bytes × Nat) × Option Bytes) × List (Bytes × Bytes × Bytes × Nat)) :=
  if simpleGen p.flags ∧ g.nrefs > 0 then none else
  match genRun with
  | none => none
  | some (c, out) =>
    if c > Gen.maxBlockCostClvm then none else
    match out with
    | .atom _ => none
    | .pair allSpends _ =>
      if !allExtract3 allSpends then none else addRemLoop puz allSpends 0 (Gen.maxBlockCostClvm - c)

/-- `get_puzzle_and_solution_for_coin`: first spend `(parent puzzle amount solution . rest)` matching parent,
amount and puzzle hash; `none` = error -/
def getPuzzleAndSolution (genOut : Sexp) (parent ph : Bytes) (amount : Nat) : Option (Sexp × Sexp) :=
  let rec go : Sexp → Option (Sexp × Sexp)
    | .pair cs nxt =>
      match cs with
      | .pair (.atom pb) (.pair puzzle (.pair (.atom ab) (.pair solution _))) =>
        match sanitizeUint ab 8 with
        | .ok v =>
          if pb = parent ∧ v = amount ∧ Sexp.treeHash puzzle = ph then some (puzzle, solution) else go nxt
        | _ => none
      | _ => none
    | .atom [] => none
    | .atom _ => none
  match genOut with
  | .pair l _ => go l
  | .atom _ => none

/-! ## `get_coinspends_for_trusted_block` (run_block_generator.rs) -/

/-- length of the plain serialisation, computed without building it (`serLen x = (Sexp.serialize x).length`,
Lemmas/Coinspends.lean `serLen_eq`) -/
def serLen : Sexp → Nat
  | .atom b => (Sexp.serAtom b).length
  | .pair l r => 1 + (serLen l + serLen r)

/-- `Program::from_clvm` succeeds iff the plain serialisation has at most 2 000 000 bytes
(`node_to_bytes` writes through a `LimitedWriter` with that limit) -/
def fits2MB (x : Sexp) : Bool := serLen x ≤ 2000000

/-- `Program::from_clvm(..).unwrap_or_default()`: the tree itself when it can be serialised within the
limit, otherwise the default program `80` (nil).  `fits` is the size test (`fits2MB` in the code). -/
def programOrDefault (fits : Sexp → Bool) (x : Sexp) : Sexp := if fits x then x else Sexp.nil

/-- the second loop of `get_coinspends_for_trusted_block` over the generator's spend list: a spend tuple
that `extract_n::<5>` cannot take apart is SKIPPED (`continue`); a parent that is not a 32-byte atom or an
amount `parse_amount` rejects is an error (`none`); the puzzle hash is the tree hash of the reveal; reveal
and solution go through `programOrDefault`; the loop stops at the first atom (no terminator check) -/
def coinspendsLoop (fits : Sexp → Bool) : Sexp → Option (List CoinSpendM)
  | .pair spend nxt =>
    match extract5 spend with
    | none => coinspendsLoop fits nxt
    | some (parent, puzzle, amount, solution, _) =>
      match parent with
      | .pair _ _ => none
      | .atom pb =>
        if pb.length ≠ 32 then none else
        match parseAmount amount with
        | .error _ => none
        | .ok v =>
          let pz := programOrDefault fits puzzle
          let sl := programOrDefault fits solution
          let cs : CoinSpendM := { parent := pb, puzzleHash := Sexp.treeHash puzzle, amount := v, puzzle := pz, solution := sl,
                                   puzzleLen := serLen pz, solutionLen := serLen sl }
          match coinspendsLoop fits nxt with
          | none => none
          | some l => some (cs :: l)
  | .atom _ => some []

/-- `get_coinspends_for_trusted_block`: generator checks, the generator run under MAX_BLOCK_COST_CLVM,
`next` of its result, then the spend loop; `none` = `Err` -/
def getCoinspends (fits : Sexp → Bool) (p : Params) (g : GenInput) (genRun : RunRes) : Option (List CoinSpendM) :=
  if simpleGen p.flags ∧ !g.startsQuote then none else
  if !generatorNodeOk p.flags g.prog then none else
  if simpleGen p.flags ∧ g.nrefs > 0 then none else
  match genRun with
  | none => none
  | some (c, out) =>
    if c > Gen.maxBlockCostClvm then none else
    match out with
    | .atom _ => none
    | .pair allSpends _ => coinspendsLoop fits allSpends

/-- every puzzle reveal and solution of the spend list passes the size test (the harness marker
`@reveal-over-2MB` is the negation, with `fits2MB`) -/
def revealsFit (fits : Sexp → Bool) : Sexp → Bool
  | .pair spend nxt =>
    (match extract5 spend with
     | some (_, puzzle, _, solution, _) => fits puzzle && fits solution
     | none => true) && revealsFit fits nxt
  | .atom _ => true

/-! ## `SpendBundle::additions` (chia-protocol/src/spend_bundle.rs) -/

/-- clvm-traits `u64::from_clvm` on an atom: `decode_number::<8>(unsigned)`, then `from_be_bytes` -/
def u64FromClvm (b : Bytes) : Option Nat := (decodeNumber 8 false b).map beVal

/-- the cost budget of `SpendBundle::additions` and what it charges per created coin -/
def ADDITIONS_BUDGET : Nat := 11000000000
def ADDITIONS_CREATE_COIN_COST : Nat := 1350000

/-- the condition scan of `SpendBundle::additions` for one spend, threading `cost_left`: the loop ends at
the first atom; `first(c)` / `rest(c)` fail on an atom; a PAIR in the opcode position is an error; opcode
atoms of length ≠ 1 and one-byte opcodes other than 51 are skipped; for 51 the arguments are destructured
as `(Bytes32, (u64, NodePtr))` (any failure is an error), the coin is pushed, then `CREATE_COIN_COST` is
charged (error when it exceeds what is left).  `none` = `Err` -/
def bundleScan (parentId : Bytes) : Sexp → Nat → Option (List (Bytes × Bytes × Nat) × Nat)
  | .pair c nxt, costLeft =>
    match c with
    | .atom _ => none
    | .pair op args =>
      match op with
      | .pair _ _ => none
      | .atom buf =>
        match buf with
        | [x] =>
          if x = 51 then
            match args with
            | .pair (.atom ph) (.pair (.atom ab) _) =>
              if ph.length ≠ 32 then none else
              match u64FromClvm ab with
              | none => none
              | some v =>
                if ADDITIONS_CREATE_COIN_COST > costLeft then none else
                match bundleScan parentId nxt (costLeft - ADDITIONS_CREATE_COIN_COST) with
                | none => none
                | some (l, left) => some ((parentId, ph, v) :: l, left)
            | _ => none
          else bundleScan parentId nxt costLeft
        | _ => bundleScan parentId nxt costLeft
  | .atom _, costLeft => some ([], costLeft)

/-- the spend loop of `SpendBundle::additions`; `puz i` is the unbounded run of the i-th puzzle reveal on its
solution; the parent of the created coins is `coin.coin_id()` of the DECLARED coin -/
def bundleAddLoop (puz : Nat → RunRes) : List CoinSpendM → Nat → Nat → Option (List (Bytes × Bytes × Nat))
  | [], _, _ => some []
  | cs :: rest, i, costLeft =>
    match puz i with
    | none => none
    | some (c, conds) =>
      if c > costLeft then none else
      let id := sha256 (cs.parent ++ cs.puzzleHash ++ Gen.coinIdAmount cs.amount)
      match bundleScan id conds (costLeft - c) with
      | none => none
      | some (adds, left) =>
        match bundleAddLoop puz rest (i + 1) left with
        | none => none
        | some l => some (adds ++ l)

/-- `SpendBundle::additions`: created coins as (parent coin id, puzzle hash, amount), in spend order and
within a spend in condition order -/
def bundleAdditions (spends : List CoinSpendM) (puz : Nat → RunRes) : Option (List (Bytes × Bytes × Nat)) :=
  bundleAddLoop puz spends 0 ADDITIONS_BUDGET

/-- no condition of the list has a pair in the opcode position (the harness marker `@pair-opcode` is the
negation, over all puzzle outputs of the bundle) -/
def noPairOpcode : Sexp → Bool
  | .pair c nxt => (match c with | .pair (.pair _ _) _ => false | _ => true) && noPairOpcode nxt
  | .atom _ => true


end ChiaModel.Gn
