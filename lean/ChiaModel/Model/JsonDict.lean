import ChiaModel.Model.Streamable
/-!
# JSON-dict representation of the Python-exported streamable classes (C20): descriptor-indexed model

Mirrors `chia-traits/src/to_json_dict.rs`, `from_json_dict.rs` (primitives, `Option`, `Vec`, 2- and 3-tuples,
arrays), the `PyJsonDict` derive of `chia_py_streamable_macro` (named struct = dict by field name, upper-cased
under `#[py_uppercase]`; single-field tuple struct = transparent; fieldless enum = its `u8` discriminant and the
streamable one-byte parser), the hand-written hex conversions of `chia-protocol/src/bytes.rs` (`Bytes`,
`BytesImpl<N>`), `program.rs` (`Program`) and `chia-bls/src/parse_hex.rs` (`PublicKey`, `Signature`, `GTElement`,
`SecretKey`).

`J` is what `json.loads` can return / `json.dumps` can print.  A Python `str` is carried as its UTF-8 bytes
(`Bytes`): this is what Rust sees after `extract::<String>()`, and `starts_with("0x")`, `&s[2..]` and the `hex`
crate all work on those bytes.

The values are the untyped trees `V` of `Model/Streamable.lean`, checked against the same descriptors `Ty`; the
descriptors of the exported classes are the JSON views the translator renders into `Gen/JsonDict.lean` (same wire
shape as `Gen/Streamable.lean`; the name list of a struct holds its JSON dict keys, see "by descriptor" below).

Three descriptor forms are not JSON shapes of their own but groups of fields of the enclosing struct
(the JSON derive works on the *declared* fields, the wire codec of those structs is hand written):
* `.optpair t u`: the two declared fields `a : Option<T>`, `b : Option<U>` (two keys);
* `.genTail _`: the four fields `transactions_generator : Option<Program>`, `transactions_generator_ref_list : Vec<u32>`,
  `transactions_generator_buffer : Option<Vec<u8>>` (a JSON list of integers, not hex), `version : u8`;
* `.proofOfSpace` is a dict of its ten declared fields.

**Assumption `PyExtract`** (pyo3, outside /repo; compared on boundary values by the correspondence):
`extract::<uN/iN>()` accepts exactly Python `int`s inside the range of the width and `bool`s (`bool` is a subclass
of `int`: `True` = 1), and raises otherwise (float, str, None, out of range); `extract::<bool>()` accepts exactly
`bool`; `extract::<String>()` exactly `str`; `extract::<Vec<u8>>()` exactly a `list` of such `u8`s (never a `str`).
In the model this is `pyIndex` + the explicit range checks.

No Mathlib: this file is linked into the compiled driver.
-/
namespace ChiaModel.JsonDict
open ChiaModel ChiaModel.Streamable

/-- JSON values as Python sees them after `json.loads` -/
inductive J where
  | null
  | bool (b : Bool)
  | int (i : Int)
  /-- any number `json.loads` turns into a `float` (kept as its source text); no conversion accepts it -/
  | float (text : String)
  /-- a `str`, as its UTF-8 bytes -/
  | str (utf8 : Bytes)
  | list (l : List J)
  /-- a `dict` in insertion order (keys are `str`; the derive only ever uses ASCII field names) -/
  | dict (kvs : List (String × J))
  deriving Repr

abbrev ToJ := V → Option J
abbrev FromJ := J → Except String V

/-! ## strings, hex -/

def strBytes (s : String) : Bytes := s.toUTF8.toList.map (·.toNat)

/-- ASCII code of the lower-case hex digit -/
def hexDigitB (n : Nat) : Nat := if n < 10 then 48 + n else 87 + n

/-- `hex::encode` / `Display for Bytes`: two lower-case digits per byte -/
def hexB : Bytes → Bytes
  | [] => []
  | x :: r => hexDigitB (x / 16 % 16) :: hexDigitB (x % 16) :: hexB r

/-- value of a hex digit given by its byte (either case), as the `hex` crate's `val` -/
def hexValB (c : Nat) : Option Nat :=
  if 48 ≤ c ∧ c ≤ 57 then some (c - 48)
  else if 97 ≤ c ∧ c ≤ 102 then some (c - 87)
  else if 65 ≤ c ∧ c ≤ 70 then some (c - 55)
  else none

/-- `hex::decode` / `Vec::from_hex` on the UTF-8 bytes of the string: `none` for an odd number of bytes
(`OddLength`) or a byte that is not a hex digit (`InvalidHexCharacter`) -/
def unhexB : Bytes → Option Bytes
  | [] => some []
  | [_] => none
  | a :: b :: rest =>
    match hexValB a, hexValB b, unhexB rest with
    | some x, some y, some r => some ((x * 16 + y) :: r)
    | _, _, _ => none

/-- `"0x"` -/
def pfx0x : Bytes := [48, 120]

/-- `s.strip_prefix("0x")` -/
def strip0x : Bytes → Option Bytes
  | 48 :: 120 :: rest => some rest
  | _ => none

/-- what `__index__` yields (assumption `PyExtract`): `int`, and `bool` as 0 / 1 -/
def pyIndex : J → Option Int
  | .int i => some i
  | .bool b => some (if b then 1 else 0)
  | _ => none

/-! ## leaves: to JSON -/

def toUint : ToJ
  | .n x => some (.int x)
  | _ => none
def toSint : ToJ
  | .i x => some (.int x)
  | _ => none
def toBool : ToJ
  | .b x => some (.bool x)
  | _ => none
/-- `String` -/
def toStr : ToJ
  | .bytes c => some (.str c)
  | _ => none
/-- `Bytes` (and `Program`, which delegates to it): `""` for the empty string, else `0x` + lower-case hex -/
def toBytesJ : ToJ
  | .bytes c => some (.str (if c.isEmpty then [] else pfx0x ++ hexB c))
  | _ => none
/-- `BytesImpl<N>` and the BLS elements: always `0x` + lower-case hex -/
def toHexJ : ToJ
  | .bytes c => some (.str (pfx0x ++ hexB c))
  | _ => none

/-! ## leaves: from JSON -/

def fromUint (n : Nat) : FromJ := fun j =>
  match pyIndex j with
  | some i => if 0 ≤ i ∧ i < ((256 ^ n : Nat) : Int) then .ok (.n i.toNat) else .error "OverflowError"
  | none => .error "TypeError: int expected"

def fromSint (n : Nat) : FromJ := fun j =>
  match pyIndex j with
  | some i => if sintOk n i then .ok (.i i) else .error "OverflowError"
  | none => .error "TypeError: int expected"

def fromBool : FromJ
  | .bool b => .ok (.b b)
  | _ => .error "TypeError: bool expected"

def fromStr : FromJ
  | .str s => .ok (.bytes s)
  | _ => .error "TypeError: str expected"

/-- `Bytes::from_json_dict`: `""` is the empty byte string; otherwise the `0x` prefix is mandatory; any hex case -/
def hexOfBytesJ : J → Except String Bytes
  | .str s =>
    if s.isEmpty then .ok []
    else match strip0x s with
      | none => .error "bytes object is expected to start with 0x"
      | some h => match unhexB h with
        | some c => .ok c
        | none => .error "invalid hex"
  | _ => .error "TypeError: str expected"

def fromBytesJ : FromJ := fun j =>
  match hexOfBytesJ j with
  | .ok c => .ok (.bytes c)
  | .error e => .error e

/-- `BytesImpl<N>::from_json_dict`: mandatory `0x`, hex, exactly `n` bytes -/
def fromBytesN (n : Nat) : FromJ
  | .str s =>
    match strip0x s with
    | none => .error "bytes object is expected to start with 0x"
    | some h => match unhexB h with
      | some c => if c.length = n then .ok (.bytes c) else .error "invalid length"
      | none => .error "invalid hex"
  | _ => .error "TypeError: str expected"

/-- `Program::from_json_dict`: the `Bytes` conversion, then the validating scan must cover exactly the whole string -/
def fromProgram (O : Oracles) : FromJ := fun j =>
  match hexOfBytesJ j with
  | .ok c => if O.serLen false c == some c.length then .ok (.bytes c) else .error "invalid CLVM serialization"
  | .error e => .error e

/-- `extract::<Vec<u8>>()` of a list -/
def u8List : List J → Option Bytes
  | [] => some []
  | j :: r =>
    match pyIndex j, u8List r with
    | some i, some c => if 0 ≤ i ∧ i < 256 then some (i.toNat :: c) else none
    | _, _ => none

/-- `chia_bls::parse_hex::parse_hex_string(o, n, _)`: a `str` with an OPTIONAL `0x` prefix holding hex of exactly
`n` bytes, or a list of `n` integers 0..255 -/
def parseHexString (n : Nat) : J → Except String Bytes
  | .str s =>
    let h := match strip0x s with
      | some r => r
      | none => s
    match unhexB h with
    | some c => if c.length = n then .ok c else .error "invalid length"
    | none => .error "invalid hex"
  | .list l =>
    match u8List l with
    | some c => if c.length = n then .ok c else .error "invalid length"
    | none => .error "invalid input type"
  | _ => .error "invalid input type"

/-- a BLS element: `parse_hex_string`, then the element's own `from_bytes` validation -/
def fromBls (n : Nat) (valid : Bytes → Bool) : FromJ := fun j =>
  match parseHexString n j with
  | .ok c => if valid c then .ok (.bytes c) else .error "invalid element"
  | .error e => .error e

/-! ## combinators -/

def toOption (f : ToJ) : ToJ
  | .none => some .null
  | .some v => f v
  | _ => none

def fromOption (f : FromJ) : FromJ
  | .null => .ok .none
  | j => match f j with
    | .ok v => .ok (.some v)
    | .error e => .error e

def allToJ (f : ToJ) : List V → Option (List J)
  | [] => some []
  | v :: vs => match f v, allToJ f vs with
    | some j, some js => some (j :: js)
    | _, _ => none

def allFromJ (f : FromJ) : List J → Except String (List V)
  | [] => .ok []
  | j :: js => match f j with
    | .error e => .error e
    | .ok v => match allFromJ f js with
      | .error e => .error e
      | .ok vs => .ok (v :: vs)

/-- number of continuation bytes announced by a lead byte -/
def utf8Need (x : Nat) : Nat := if x < 0xC0 then 0 else if x < 0xE0 then 1 else if x < 0xF0 then 2 else 3

def utf8Go : Bytes → Bytes → Nat → List Bytes
  | [], cur, _ => if cur.isEmpty then [] else [cur.reverse]
  | x :: r, cur, need =>
    if need = 0 then (if cur.isEmpty then [] else [cur.reverse]) ++ utf8Go r [x] (utf8Need x)
    else utf8Go r (x :: cur) (need - 1)

/-- the code points of a `str`, each as its own UTF-8 sequence (iteration / integer indexing of a Python `str`);
malformed UTF-8 cannot occur in a `str` -/
def utf8Split (b : Bytes) : List Bytes := utf8Go b [] 0

/-- `o.try_iter()`: lists, and also `str` (its characters) and `dict` (its keys); nothing else is iterable -/
def iterJ : J → Option (List J)
  | .list l => some l
  | .str s => some ((utf8Split s).map .str)
  | .dict kvs => some (kvs.map fun kv => .str (strBytes kv.1))
  | _ => none

/-- `o.len()? == n` followed by `o.get_item(0..n)`: a list or a `str` of exactly `n` items (an `n`-key dict passes
the length test but has no integer keys) -/
def fixedSeq (n : Nat) : J → Except String (List J)
  | .list l => if l.length = n then .ok l else .error "expected n elements"
  | .str s => if (utf8Split s).length = n then .ok ((utf8Split s).map .str) else .error "expected n elements"
  | .dict kvs => if kvs.length = n then (if n = 0 then .ok [] else .error "KeyError") else .error "expected n elements"
  | _ => .error "TypeError: object has no len()"

def toVec (f : ToJ) : ToJ
  | .list l => (allToJ f l).map .list
  | _ => none

/-- `Vec<T>::from_json_dict`: any iterable -/
def fromVec (f : FromJ) : FromJ := fun j =>
  match iterJ j with
  | none => .error "TypeError: object is not iterable"
  | some l => match allFromJ f l with
    | .ok vs => .ok (.list vs)
    | .error e => .error e

def fromArray (n : Nat) (f : FromJ) : FromJ := fun j =>
  match fixedSeq n j with
  | .error e => .error e
  | .ok l => match allFromJ f l with
    | .ok vs => .ok (.list vs)
    | .error e => .error e

def toEnum : ToJ
  | .n x => some (.int x)
  | _ => none

/-- derived enum: `u8`, then `Streamable::parse` of that one byte -/
def fromEnum (vals : List Nat) : FromJ := fun j =>
  match fromUint 1 j with
  | .ok (.n x) => if vals.contains x then .ok (.n x) else .error "invalid enum value"
  | .ok _ => .error "unreachable"
  | .error e => .error e

/-- `o.get_item("key")`: only a dict can be indexed by a `str`; a missing key is `KeyError` -/
def getItem (o : J) (key : String) : Except String J :=
  match o with
  | .dict kvs => match kvs.lookup key with
    | some j => .ok j
    | none => .error "KeyError"
  | _ => .error "TypeError: not subscriptable by str"

/-- `Option<Vec<u8>>` of the generator tail (`transactions_generator_buffer`): a list of integers -/
def toU8Vec : ToJ
  | .bytes c => some (.list (c.map fun x => J.int (Int.ofNat x)))
  | _ => none

def nOf : V → Nat
  | .n x => x
  | _ => 0

def fromU8Vec : FromJ := fun j =>
  match iterJ j with
  | none => .error "TypeError: object is not iterable"
  | some l => match allFromJ (fromUint 1) l with
    | .error e => .error e
    | .ok vs => .ok (.bytes (vs.map nOf))

def posKeys : List String :=
  ["challenge", "pool_public_key", "pool_contract_puzzle_hash", "plot_public_key", "version", "plot_index",
   "meta_group", "strength", "size", "proof"]

def g1Valid (O : Oracles) (c : Bytes) : Bool := O.g1 c == 2
def g2Valid (O : Oracles) (c : Bytes) : Bool := O.g2 c == 2

/-- fields given as (key, conversion) pairs: one `set_item` each, in order -/
def fieldsToJ : List (String × ToJ) → List V → Option (List (String × J))
  | [], [] => some []
  | (k, f) :: fs, v :: vs => match f v, fieldsToJ fs vs with
    | some j, some r => some ((k, j) :: r)
    | _, _ => none
  | _, _ => none

/-- one `get_item` + conversion per field, in order, on the same object -/
def fieldsFromJ : List (String × FromJ) → J → Except String (List V)
  | [], _ => .ok []
  | (k, f) :: fs, o => match getItem o k with
    | .error e => .error e
    | .ok j => match f j with
      | .error e => .error e
      | .ok v => match fieldsFromJ fs o with
        | .error e => .error e
        | .ok vs => .ok (v :: vs)

def posToFields : List (String × ToJ) :=
  posKeys.zip [toHexJ, toOption toHexJ, toOption toHexJ, toHexJ, toUint, toUint, toUint, toUint, toUint, toBytesJ]

def posFromFields (O : Oracles) : List (String × FromJ) :=
  posKeys.zip [fromBytesN 32, fromOption (fromBls 48 (g1Valid O)), fromOption (fromBytesN 32), fromBls 48 (g1Valid O),
    fromUint 1, fromUint 2, fromUint 1, fromUint 1, fromUint 1, fromBytesJ]

/-- `ProofOfSpace` (derived on the ten declared fields; no cross-field validation) -/
def toPos : ToJ
  | .tup vs => (fieldsToJ posToFields vs).map .dict
  | _ => none

def fromPos (O : Oracles) : FromJ := fun j =>
  match fieldsFromJ (posFromFields O) j with
  | .ok vs => .ok (.tup vs)
  | .error e => .error e

/-- the four declared fields behind the generator tail, under the keys `k1 … k4` -/
def genTailToFields (k1 k2 k3 k4 : String) : List (String × ToJ) :=
  [(k1, toOption toBytesJ), (k2, toVec toUint), (k3, toOption toU8Vec), (k4, toUint)]

def genTailFromFields (O : Oracles) (k1 k2 k3 k4 : String) : List (String × FromJ) :=
  [(k1, fromOption (fromProgram O)), (k2, fromVec (fromUint 4)), (k3, fromOption fromU8Vec), (k4, fromUint 1)]

/-! ## by descriptor

The descriptors used here are the **JSON views** of `Gen/JsonDict.lean`: the same descriptors as `Gen/Streamable.lean`
(identical wire shape — names play no role in the wire codec), where the name list of a struct holds its JSON dict
keys, one per declared field, in declaration order and with the renaming of `#[py_uppercase]` applied:
one key per ordinary field, two for a `.optpair`, four for a `.genTail`.  A struct with fields but an EMPTY key list
is a single-field tuple struct, which the derive makes transparent. -/

mutual
/-- `to_json_dict`; `none` = the value is not of the type, or the type has no JSON conversion (`()`, tuples of
other than 2 or 3 elements, the field groups outside a struct) -/
def toJson : Ty → ToJ
  | .uint _ => toUint
  | .sint _ => toSint
  | .bool => toBool
  | .unit => fun _ => none
  | .bytes => toBytesJ
  | .bytesN _ => toHexJ
  | .str => toStr
  | .option t => toOption (toJson t)
  | .vec t => toVec (toJson t)
  | .tuple ts => fun v => match v with
    | .tup vs => if ts.length = 2 ∨ ts.length = 3 then (toJsonL ts vs).map .list else none
    | _ => none
  | .array _ t => toVec (toJson t)
  | .struct _ keys ts => fun v => match v with
    | .tup vs =>
      if keys.isEmpty && !ts.isEmpty then toJsonNT ts vs
      else (toJsonF keys ts vs).map .dict
    | _ => none
  | .enum8 _ _ => toEnum
  | .program => toBytesJ
  | .g1 => toHexJ
  | .g2 => toHexJ
  | .gt => toHexJ
  | .secretKey => toHexJ
  | .optpair _ _ => fun _ => none
  | .genTail _ => fun _ => none
  | .proofOfSpace => toPos
/-- the elements of a tuple -/
def toJsonL : List Ty → List V → Option (List J)
  | [], [] => some []
  | t :: ts, v :: vs => match toJson t v, toJsonL ts vs with
    | some j, some js => some (j :: js)
    | _, _ => none
  | _, _ => none
/-- the single field of a transparent tuple struct -/
def toJsonNT : List Ty → List V → Option J
  | [t], [v] => toJson t v
  | _, _ => none
/-- the fields of a named struct, in declaration order, under their keys -/
def toJsonF : List String → List Ty → List V → Option (List (String × J))
  | [], [], [] => some []
  | k1 :: k2 :: keys, .optpair a b :: ts, v :: vs =>
    match toJsonF keys ts vs with
    | none => none
    | some rest =>
      match v with
      | .tup [x, y] =>
        match toOption (toJson a) x, toOption (toJson b) y with
        | some jx, some jy => some ((k1, jx) :: (k2, jy) :: rest)
        | _, _ => none
      | _ => none
  | k1 :: k2 :: k3 :: k4 :: keys, .genTail _ :: ts, v :: vs =>
    match toJsonF keys ts vs with
    | none => none
    | some rest =>
      match v with
      | .tup gs => match fieldsToJ (genTailToFields k1 k2 k3 k4) gs with
        | some kvs => some (kvs ++ rest)
        | none => none
      | _ => none
  | k :: keys, t :: ts, v :: vs =>
    match toJsonF keys ts vs with
    | none => none
    | some rest =>
      match toJson t v with
      | some j => some ((k, j) :: rest)
      | none => none
  | _, _, _ => none
end

mutual
/-- `from_json_dict` -/
def fromJson (O : Oracles) : Ty → FromJ
  | .uint n => fromUint n
  | .sint n => fromSint n
  | .bool => fromBool
  | .unit => fun _ => .error "no conversion"
  | .bytes => fromBytesJ
  | .bytesN n => fromBytesN n
  | .str => fromStr
  | .option t => fromOption (fromJson O t)
  | .vec t => fromVec (fromJson O t)
  | .tuple ts => fun j =>
    if ts.length = 2 ∨ ts.length = 3 then
      match fixedSeq ts.length j with
      | .error e => .error e
      | .ok l => match fromJsonL O ts l with
        | .ok vs => .ok (.tup vs)
        | .error e => .error e
    else .error "no conversion"
  | .array n t => fromArray n (fromJson O t)
  | .struct _ keys ts => fun j =>
    if keys.isEmpty && !ts.isEmpty then
      match fromJsonNT O ts j with
      | .ok v => .ok (.tup [v])
      | .error e => .error e
    else match fromJsonF O keys ts j with
      | .ok vs => .ok (.tup vs)
      | .error e => .error e
  | .enum8 _ vals => fromEnum vals
  | .program => fromProgram O
  | .g1 => fromBls 48 (g1Valid O)
  | .g2 => fromBls 96 (g2Valid O)
  | .gt => fromBls 576 fun _ => true
  | .secretKey => fromBls 32 O.sk
  | .optpair _ _ => fun _ => .error "no conversion"
  | .genTail _ => fun _ => .error "no conversion"
  | .proofOfSpace => fromPos O
/-- the elements of a tuple, position by position -/
def fromJsonL (O : Oracles) : List Ty → List J → Except String (List V)
  | [], [] => .ok []
  | t :: ts, j :: js => match fromJson O t j with
    | .error e => .error e
    | .ok v => match fromJsonL O ts js with
      | .error e => .error e
      | .ok vs => .ok (v :: vs)
  | _, _ => .error "arity"
def fromJsonNT (O : Oracles) : List Ty → FromJ
  | [t] => fromJson O t
  | _ => fun _ => .error "no conversion"
/-- the fields of a named struct: one `get_item` per declared field on the same object, in declaration order;
keys that are not fields are never looked at -/
def fromJsonF (O : Oracles) : List String → List Ty → J → Except String (List V)
  | [], [], _ => .ok []
  | k1 :: k2 :: keys, .optpair a b :: ts, o =>
    match getItem o k1 with
    | .error e => .error e
    | .ok jx => match fromOption (fromJson O a) jx with
      | .error e => .error e
      | .ok x => match getItem o k2 with
        | .error e => .error e
        | .ok jy => match fromOption (fromJson O b) jy with
          | .error e => .error e
          | .ok y => match fromJsonF O keys ts o with
            | .error e => .error e
            | .ok vs => .ok (.tup [x, y] :: vs)
  | k1 :: k2 :: k3 :: k4 :: keys, .genTail _ :: ts, o =>
    match fieldsFromJ (genTailFromFields O k1 k2 k3 k4) o with
    | .error e => .error e
    | .ok gs => match fromJsonF O keys ts o with
      | .error e => .error e
      | .ok vs => .ok (.tup gs :: vs)
  | k :: keys, t :: ts, o =>
    match getItem o k with
    | .error e => .error e
    | .ok j => match fromJson O t j with
      | .error e => .error e
      | .ok v => match fromJsonF O keys ts o with
        | .error e => .error e
        | .ok vs => .ok (v :: vs)
  | _, _, _ => .error "descriptor"
end

/-! ## static conditions on descriptors -/

mutual
/-- the JSON of a value of this type can be `null` -/
def nullable : Ty → Bool
  | .option _ => true
  | .struct _ keys ts => keys.isEmpty && nullableNT ts
  | _ => false
def nullableNT : List Ty → Bool
  | [t] => nullable t
  | _ => false
end

mutual
/-- the descriptors for which the JSON round trip holds: exactly what the proof of `C20.roundtrip` needs.
* an `Option` never wraps a type whose own JSON can be `null` (`Option<Option<T>>`, `Option` of a transparent
  struct around an `Option`): `Some(None)` and `None` would both be `null`;
* tuples have 2 or 3 elements, `()` and the field groups do not occur on their own;
* a named struct has exactly the keys its fields consume, pairwise distinct;
* enum discriminants are `u8`. -/
def WFjson : Ty → Bool
  | .unit => false
  | .option t => !nullable t && WFjson t
  | .vec t => WFjson t
  | .tuple ts => (ts.length == 2 || ts.length == 3) && WFjsonL ts
  | .array _ t => WFjson t
  | .struct _ keys ts =>
    if keys.isEmpty && !ts.isEmpty then WFjsonNT ts
    else decide keys.Nodup && WFjsonF keys ts
  | .enum8 _ vals => vals.all (· < 256)
  | .optpair _ _ => false
  | .genTail _ => false
  | _ => true
def WFjsonL : List Ty → Bool
  | [] => true
  | t :: ts => WFjson t && WFjsonL ts
def WFjsonNT : List Ty → Bool
  | [t] => WFjson t
  | _ => false
/-- fields of a named struct against its keys: the field groups are allowed here -/
def WFjsonF : List String → List Ty → Bool
  | [], [] => true
  | _ :: _ :: keys, .optpair a b :: ts => !nullable a && WFjson a && !nullable b && WFjson b && WFjsonF keys ts
  | _ :: _ :: _ :: _ :: keys, .genTail _ :: ts => WFjsonF keys ts
  | _ :: keys, t :: ts => WFjson t && WFjsonF keys ts
  | _, _ => false
end

mutual
/-- every byte string inside the value consists of bytes (`< 256`) -/
def bytesOK : V → Bool
  | .bytes c => c.all (· < 256)
  | .some v => bytesOK v
  | .list l => bytesOKL l
  | .tup l => bytesOKL l
  | _ => true
def bytesOKL : List V → Bool
  | [] => true
  | v :: vs => bytesOK v && bytesOKL vs
end

mutual
/-- the two descriptors have the same wire shape (they differ at most in the struct / enum names and name lists, which
play no role in `encode` / `decode` / `WF`): ties a JSON view to the descriptor of `Gen/Streamable.lean` -/
def sameWire : Ty → Ty → Bool
  | .uint a, .uint b => a == b
  | .sint a, .sint b => a == b
  | .bool, .bool => true
  | .unit, .unit => true
  | .bytes, .bytes => true
  | .bytesN a, .bytesN b => a == b
  | .str, .str => true
  | .option t, .option u => sameWire t u
  | .vec t, .vec u => sameWire t u
  | .tuple ts, .tuple us => sameWireL ts us
  | .array n t, .array m u => n == m && sameWire t u
  | .struct _ _ ts, .struct _ _ us => sameWireL ts us
  | .enum8 _ a, .enum8 _ b => a == b
  | .program, .program => true
  | .g1, .g1 => true
  | .g2, .g2 => true
  | .gt, .gt => true
  | .secretKey, .secretKey => true
  | .optpair t u, .optpair t' u' => sameWire t t' && sameWire u u'
  | .genTail a, .genTail b => a == b
  | .proofOfSpace, .proofOfSpace => true
  | _, _ => false
def sameWireL : List Ty → List Ty → Bool
  | [], [] => true
  | t :: ts, u :: us => sameWire t u && sameWireL ts us
  | _, _ => false
end

/-! ## canonical text (`json.dumps(obj, sort_keys=True)`) -/

def digit4 (n : Nat) : List Char :=
  [hexDigit (n / 4096 % 16), hexDigit (n / 256 % 16), hexDigit (n / 16 % 16), hexDigit (n % 16)]

/-- `\uXXXX`, as a surrogate pair above the BMP (`ensure_ascii=True`) -/
def escapeCode (cp : Nat) : List Char :=
  if cp < 0x10000 then '\\' :: 'u' :: digit4 cp
  else
    let v := cp - 0x10000
    ('\\' :: 'u' :: digit4 (0xD800 + v / 1024)) ++ ('\\' :: 'u' :: digit4 (0xDC00 + v % 1024))

/-- code point of one UTF-8 sequence (as split by `utf8Split`) -/
def codePoint : Bytes → Nat
  | [a] => a
  | [a, b] => (a % 32) * 64 + b % 64
  | [a, b, c] => (a % 16) * 4096 + (b % 64) * 64 + c % 64
  | [a, b, c, d] => (a % 8) * 262144 + (b % 64) * 4096 + (c % 64) * 64 + d % 64
  | _ => 0xFFFD

/-- one character inside a JSON string literal as `json.dumps` prints it; `sp`: also escape the space (line protocol) -/
def escapeChar (sp : Bool) (cp : Nat) : List Char :=
  if cp = 34 then ['\\', '"']
  else if cp = 92 then ['\\', '\\']
  else if cp = 10 then ['\\', 'n']
  else if cp = 13 then ['\\', 'r']
  else if cp = 9 then ['\\', 't']
  else if cp = 8 then ['\\', 'b']
  else if cp = 12 then ['\\', 'f']
  else if cp < 32 ∨ cp ≥ 127 ∨ (sp ∧ cp = 32) then escapeCode cp
  else [Char.ofNat cp]

def renderStr (sp : Bool) (s : Bytes) : List Char :=
  '"' :: ((utf8Split s).flatMap fun c => escapeChar sp (codePoint c)) ++ ['"']

def insertKV (kv : String × List Char) : List (String × List Char) → List (String × List Char)
  | [] => [kv]
  | x :: xs => if kv.1 < x.1 then kv :: x :: xs else x :: insertKV kv xs

def sortKVs (l : List (String × List Char)) : List (String × List Char) :=
  l.foldr insertKV []

def joinWith (sep : List Char) : List (List Char) → List Char
  | [] => []
  | [x] => x
  | x :: xs => x ++ sep ++ joinWith sep xs

mutual
/-- `compact = false`: exactly `json.dumps(obj, sort_keys=True)`; `compact = true`: the space-free form used on the
case lines (`separators=(',', ':')` and every space inside a string written `\u0020`) -/
def renderChars (compact : Bool) : J → List Char
  | .null => "null".toList
  | .bool b => (if b then "true" else "false").toList
  | .int i => (toString i).toList
  | .float t => t.toList
  | .str s => renderStr compact s
  | .list l => '[' :: joinWith (if compact then [','] else [',', ' ']) (renderList compact l) ++ [']']
  | .dict kvs =>
    '{' :: joinWith (if compact then [','] else [',', ' '])
      ((sortKVs (renderKVs compact kvs)).map fun kv =>
        renderStr compact (strBytes kv.1) ++ (if compact then [':'] else [':', ' ']) ++ kv.2) ++ ['}']
def renderList (compact : Bool) : List J → List (List Char)
  | [] => []
  | j :: js => renderChars compact j :: renderList compact js
def renderKVs (compact : Bool) : List (String × J) → List (String × List Char)
  | [] => []
  | (k, j) :: r => (k, renderChars compact j) :: renderKVs compact r
end

/-- `json.dumps(obj, sort_keys=True)` -/
def render (j : J) : String := String.ofList (renderChars false j)
/-- the space-free line form -/
def renderLine (j : J) : String := String.ofList (renderChars true j)

end ChiaModel.JsonDict
