import ChiaModel.Base.Bytes
import ChiaModel.Model.ClvmScan
/-!
# Streamable wire codec (C13, C14): descriptor-indexed model

`Ty` is the universe of Streamable type descriptors (what `translator/extract.py` renders for every
`#[streamable]` / `derive(Streamable)` item into `Gen/Streamable.lean`), `V` the untyped value trees
that are checked against a descriptor by `encode`/`WF`.

The model mirrors `chia-traits/src/streamable.rs` (trait, primitives, `Option`/`Vec`/tuple/array/`String`
impls, `read_bytes`, the 2 MiB pre-allocation cap, the trailing-bytes check of `from_bytes`), the derive
macro (`chia_streamable_macro`: the three methods field by field, enums as `u8` with an explicit
discriminant list) and the hand-written codecs of `chia-protocol` (`Bytes`, `BytesImpl<N>`, `Program`,
`ProofOfSpace`, `FullBlock`/`UnfinishedBlock` generator tail, the two Options packed into one prefix byte
by `utils::{parse, stream, update_digest}`) and `chia-bls` (`PublicKey`, `Signature`, `GTElement`,
`SecretKey`).

Everything is defined by structural recursion on `Ty` (mutually with `List Ty`) out of higher-order
combinators on decoders/encoders, so that the lemmas of `Lemmas/Streamable*.lean` are modular.

* `decode` returns a `Res`: an `Outcome` (`ok` / `err` / `panic site`) plus the number of bytes
  *reserved ahead of parsing* (`Vec::with_capacity`), summed over the run.  Every `unwrap`, `[index]`,
  `expect`, `panic!` that the Rust methods contain is an explicit `panic` branch here; theorem
  `C14.decode_total` shows that `decode` never takes one, `C14.post_ops_partial` says which ones
  `digestChunks` (the model of `update_digest`) can take.
* External code is a parameter (`Oracles`): blst point validity, the CLVM serialised-length scan of
  clvmr, the `chia_pos2` quality string.  No axioms: theorems take `OracleContract O` as a hypothesis.

No Mathlib: this file is linked into the compiled driver.
-/
namespace ChiaModel.Streamable

/-- type descriptors -/
inductive Ty where
  /-- `u8 … u128`: `n` bytes big-endian -/
  | uint (n : Nat)
  /-- `i8 … i128`: `n` bytes big-endian two's complement -/
  | sint (n : Nat)
  | bool
  | unit
  /-- `Bytes`: u32 length prefix + raw bytes -/
  | bytes
  /-- `BytesImpl<N>` -/
  | bytesN (n : Nat)
  /-- `String`: u32 length prefix + UTF-8 (validated by `parse`) -/
  | str
  | option (t : Ty)
  | vec (t : Ty)
  | tuple (ts : List Ty)
  | array (n : Nat) (t : Ty)
  /-- derived struct (named, tuple or unit): the fields in declaration order -/
  | struct (name : String) (fields : List String) (ts : List Ty)
  /-- fieldless enum streamed as `u8`, with its literal discriminants -/
  | enum8 (name : String) (vals : List Nat)
  /-- `Program`: one self-delimiting CLVM serialisation -/
  | program
  | g1
  | g2
  | gt
  | secretKey
  /-- two `Option`s sharing one prefix byte 0–3 (`chia-protocol/src/utils.rs`) -/
  | optpair (t u : Ty)
  /-- tail of `FullBlock`/`UnfinishedBlock`: `transactions_generator`, `…_ref_list`, `…_buffer`, `version`
  behind one prefix byte (`version << 1 | present`); `panics` = `update_digest` panics on version ≥ 2 -/
  | genTail (panics : Bool)
  /-- `ProofOfSpace` (prefix byte of `pool_contract_puzzle_hash` = `version << 1 | present`) -/
  | proofOfSpace

/-- untyped value trees -/
inductive V where
  | n (x : Nat)
  | i (x : Int)
  | b (x : Bool)
  | unit
  /-- `Bytes`, `BytesImpl<N>`, `String` (its UTF-8), `Program`, BLS elements (their canonical bytes) -/
  | bytes (b : Bytes)
  | none
  | some (v : V)
  /-- `Vec`, arrays -/
  | list (l : List V)
  /-- tuples, structs, and the field lists of the hand-written records -/
  | tup (l : List V)
  deriving BEq, Repr

/-- external code, as parameters of the model -/
structure Oracles where
  /-- blst on 48 bytes: 0 = rejected, 1 = accepted by `from_bytes_unchecked` only (on the curve, not in
  the subgroup), 2 = accepted by `from_bytes` -/
  g1 : Bytes → Nat
  /-- same for 96-byte signatures -/
  g2 : Bytes → Nat
  /-- `SecretKey::from_bytes` accepts these 32 bytes -/
  sk : Bytes → Bool
  /-- clvmr `serialized_length_from_bytes_trusted` (`true`) / `serialized_length_from_bytes` (`false`) -/
  serLen : Bool → Bytes → Option Nat
  /-- `ProofOfSpace::quality_string` of a version-2 proof, keyed by the wire encoding of the proof of space -/
  quality : Bytes → Option Bytes

/-- what the theorems assume about the external code (monitored on every run by the correspondence) -/
structure OracleContract (O : Oracles) : Prop where
  /-- the scan reads only the bytes it reports: the serialisation it found is itself accepted, with any suffix -/
  serLen_prefix : ∀ tr b n, O.serLen tr b = some n → n ≤ b.length → ∀ r, O.serLen tr (b.take n ++ r) = some n
  /-- the trusted scan accepts what the validating scan accepts, with the same length -/
  serLen_trusted : ∀ b n, O.serLen false b = some n → O.serLen true b = some n
  /-- a serialisation has at least one byte -/
  serLen_pos : ∀ tr b n, O.serLen tr b = some n → 0 < n

inductive Outcome (α : Type) where
  | ok (a : α)
  | err
  | panic (site : String)
  deriving Repr

/-- outcome of a decoding run + bytes reserved ahead of parsing (`Vec::with_capacity`), summed -/
structure Res (α : Type) where
  out : Outcome α
  alloc : Nat

namespace Res
@[inline] def pure {α : Type} (a : α) : Res α := ⟨.ok a, 0⟩
@[inline] def fail {α : Type} : Res α := ⟨.err, 0⟩
@[inline] def site {α : Type} (s : String) : Res α := ⟨.panic s, 0⟩
@[inline] def reserve (a : Nat) : Res Unit := ⟨.ok (), a⟩
@[inline] def bind {α β : Type} (x : Res α) (f : α → Res β) : Res β :=
  match x.out with
  | .ok a => ⟨(f a).out, x.alloc + (f a).alloc⟩
  | .err => ⟨.err, x.alloc⟩
  | .panic s => ⟨.panic s, x.alloc⟩
end Res

abbrev Dec := Bytes → Res (V × Bytes)
abbrev Enc := V → Option Bytes
abbrev Wf := V → Bool
abbrev Dig := V → Outcome (List Bytes)

/-! ## sizes -/

/-- `2 * 1024 * 1024`: cap on the bytes reserved by one `Vec::with_capacity` in `Vec<T>::parse` -/
def allocCap : Nat := 2097152

mutual
/-- approximation of `mem::size_of::<T>()` (padding ignored).  Only two facts matter: the reservation is
`min (cap / size) len * size ≤ cap`, and zero-sized elements reserve nothing. -/
def memSize : Ty → Nat
  | .uint n => n
  | .sint n => n
  | .bool => 1
  | .unit => 0
  | .bytes => 24
  | .bytesN n => n
  | .str => 24
  | .option t => memSize t + 1
  | .vec _ => 24
  | .tuple ts => memSizeL ts
  | .array n t => n * memSize t
  | .struct _ _ ts => memSizeL ts
  | .enum8 _ _ => 1
  | .program => 24
  | .g1 => 144
  | .g2 => 288
  | .gt => 576
  | .secretKey => 32
  | .optpair t u => memSize t + memSize u + 2
  | .genTail _ => 80
  | .proofOfSpace => 400
def memSizeL : List Ty → Nat
  | [] => 0
  | t :: ts => memSize t + memSizeL ts
end

mutual
/-- least number of bytes an accepted encoding of the type has -/
def minWire : Ty → Nat
  | .uint n => n
  | .sint n => n
  | .bool => 1
  | .unit => 0
  | .bytes => 4
  | .bytesN n => n
  | .str => 4
  | .option _ => 1
  | .vec _ => 4
  | .tuple ts => minWireL ts
  | .array n t => n * minWire t
  | .struct _ _ ts => minWireL ts
  | .enum8 _ _ => 1
  | .program => 1
  | .g1 => 48
  | .g2 => 96
  | .gt => 576
  | .secretKey => 32
  | .optpair _ _ => 1
  | .genTail _ => 1
  | .proofOfSpace => 87
def minWireL : List Ty → Nat
  | [] => 0
  | t :: ts => minWire t + minWireL ts
end

/-! ## UTF-8 (what `std::str::from_utf8` accepts: Unicode table 3-7) -/

@[inline] def cont (y : Nat) : Bool := 0x80 ≤ y && y ≤ 0xBF

def validUtf8 : Bytes → Bool
  | [] => true
  | x :: rest =>
    if x < 0x80 then validUtf8 rest
    else match rest with
      | [] => false
      | y :: r2 =>
        if 0xC2 ≤ x && x ≤ 0xDF then cont y && validUtf8 r2
        else match r2 with
          | [] => false
          | z :: r3 =>
            if x == 0xE0 then (0xA0 ≤ y && y ≤ 0xBF) && cont z && validUtf8 r3
            else if (0xE1 ≤ x && x ≤ 0xEC) || x == 0xEE || x == 0xEF then cont y && cont z && validUtf8 r3
            else if x == 0xED then (0x80 ≤ y && y ≤ 0x9F) && cont z && validUtf8 r3
            else match r3 with
              | [] => false
              | w :: r4 =>
                if x == 0xF0 then (0x90 ≤ y && y ≤ 0xBF) && cont z && cont w && validUtf8 r4
                else if 0xF1 ≤ x && x ≤ 0xF3 then cont y && cont z && cont w && validUtf8 r4
                else if x == 0xF4 then (0x80 ≤ y && y ≤ 0x8F) && cont z && cont w && validUtf8 r4
                else false

/-! ## decoders -/

/-- `read_bytes`: error when fewer than `n` bytes remain, else the next `n` bytes -/
def readBytes (n : Nat) (b : Bytes) : Outcome (Bytes × Bytes) :=
  if ClvmScan.lenGe b n then .ok (b.take n, b.drop n) else .err

/-- `read_bytes(input, n)?.try_into().unwrap()`: panics unless the slice has exactly `n` bytes -/
def readFixed (site : String) (n : Nat) (b : Bytes) : Res (Bytes × Bytes) :=
  match readBytes n b with
  | .ok (c, r) => if c.length = n then .pure (c, r) else .site site
  | .err => .fail
  | .panic s => .site s

/-- `read_bytes(input, 1)?[0]` -/
def readByte (site : String) (b : Bytes) : Res (Nat × Bytes) :=
  match readBytes 1 b with
  | .ok (c, r) => match c with
    | x :: _ => .pure (x, r)
    | [] => .site site
  | .err => .fail
  | .panic s => .site s

def sitePrim : String := "chia-traits/src/streamable.rs streamable_primitive parse: try_into().unwrap()"
def siteBool : String := "chia-traits/src/streamable.rs bool parse: read_bytes(input, 1)?[0]"
def siteOption : String := "chia-traits/src/streamable.rs Option parse: read_bytes(input, 1)?[0]"
def siteBytesN : String := "chia-protocol/src/bytes.rs BytesImpl parse: try_into().unwrap()"
def siteG1 : String := "chia-bls/src/public_key.rs parse: try_into().unwrap()"
def siteG2 : String := "chia-bls/src/signature.rs parse: try_into().unwrap()"
def siteGt : String := "chia-bls/src/gtelement.rs parse: try_into().unwrap()"
def siteSk : String := "chia-bls/src/secret_key.rs parse: try_into().unwrap()"
def siteProgram : String := "chia-protocol/src/program.rs parse: buf[..len as usize]"
def sitePosVersion : String := "chia-protocol/src/proof_of_space.rs update_digest: panic!(version field must be 0 or 1)"
def sitePosQuality : String := "chia-protocol/src/proof_of_space.rs update_digest: quality_string().expect(..)"
def sitePosPlotId : String := "chia-protocol/src/proof_of_space.rs compute_plot_id_v2: panic!(neither pool key nor contract hash)"
def siteFullBlockVersion : String := "chia-protocol/src/fullblock.rs update_digest: panic!(version field must be 0 or 1)"

/-- unsigned integer of `n` bytes as a number -/
def readUint (n : Nat) (b : Bytes) : Res (Nat × Bytes) :=
  (readFixed sitePrim n b).bind fun cr => .pure (beVal cr.1, cr.2)

def decUint (n : Nat) : Dec := fun b =>
  (readUint n b).bind fun xr => .pure (.n xr.1, xr.2)

/-- two's complement value of the `n`-byte pattern `u` -/
def toSigned (n : Nat) (u : Nat) : Int :=
  if 2 * u < 256 ^ n then (u : Int) else (u : Int) - (256 ^ n : Nat)

def decSint (n : Nat) : Dec := fun b =>
  (readUint n b).bind fun xr => .pure (.i (toSigned n xr.1), xr.2)

def decBool : Dec := fun b =>
  (readByte siteBool b).bind fun xr =>
    if xr.1 = 0 then .pure (.b false, xr.2) else if xr.1 = 1 then .pure (.b true, xr.2) else .fail

def decUnit : Dec := fun b => .pure (.unit, b)

/-- shared shape of `Bytes::parse` (`ok = fun _ => true`) and `String::parse` (`ok = validUtf8`):
u32 length, `read_bytes`, validation -/
def decLenPrefixed (ok : Bytes → Bool) : Dec := fun b =>
  (readUint 4 b).bind fun lr =>
    match readBytes lr.1 lr.2 with
    | .ok (c, r) => if ok c then .pure (.bytes c, r) else .fail
    | .err => .fail
    | .panic s => .site s

def decBytes : Dec := decLenPrefixed fun _ => true

def decBytesN (n : Nat) : Dec := fun b =>
  (readFixed siteBytesN n b).bind fun cr => .pure (.bytes cr.1, cr.2)

def decStr : Dec := decLenPrefixed validUtf8

def decOption (f : Dec) : Dec := fun b =>
  (readByte siteOption b).bind fun xr =>
    if xr.1 = 0 then .pure (.none, xr.2)
    else if xr.1 = 1 then (f xr.2).bind fun vr => .pure (.some vr.1, vr.2)
    else .fail

/-- `for _ in 0..n { ret.push(T::parse(input)?) }` -/
def repeatN (f : Dec) : Nat → Bytes → Res (List V × Bytes)
  | 0, b => .pure ([], b)
  | n + 1, b => (f b).bind fun vr => (repeatN f n vr.2).bind fun lr => .pure (vr.1 :: lr.1, lr.2)

/-- bytes reserved by `Vec::<T>::with_capacity(min(2 MiB / size_of::<T>(), len))` (nothing for zero-sized `T`) -/
def reservation (sz len : Nat) : Nat :=
  if sz = 0 then 0 else min (allocCap / sz) len * sz

def decVec (sz : Nat) (f : Dec) : Dec := fun b =>
  (readUint 4 b).bind fun lr =>
    (Res.reserve (reservation sz lr.1)).bind fun _ =>
      (repeatN f lr.1 lr.2).bind fun vr => .pure (.list vr.1, vr.2)

def decArray (n : Nat) (f : Dec) : Dec := fun b =>
  (repeatN f n b).bind fun vr => .pure (.list vr.1, vr.2)

def decEnum (vals : List Nat) : Dec := fun b =>
  (readUint 1 b).bind fun xr => if vals.contains xr.1 then .pure (.n xr.1, xr.2) else .fail

/-- `Program::parse`: the scan yields the length; shorter input is `EndOfBuffer` -/
def decProgram (O : Oracles) (tr : Bool) : Dec := fun b =>
  match O.serLen tr b with
  | none => .fail
  | some len => if !ClvmScan.lenGe b len then .fail else
      if (b.take len).length = len then .pure (.bytes (b.take len), b.drop len) else .site siteProgram

/-- fixed-width opaque element with a validity test -/
def decOpaque (site : String) (n : Nat) (valid : Bytes → Bool) : Dec := fun b =>
  (readFixed site n b).bind fun cr => if valid cr.1 then .pure (.bytes cr.1, cr.2) else .fail

def pointOk (tr : Bool) (status : Nat) : Bool := if tr then 1 ≤ status else status == 2

def decG1 (O : Oracles) (tr : Bool) : Dec := decOpaque siteG1 48 fun c => pointOk tr (O.g1 c)
def decG2 (O : Oracles) (tr : Bool) : Dec := decOpaque siteG2 96 fun c => pointOk tr (O.g2 c)
def decGt : Dec := decOpaque siteGt 576 fun _ => true
def decSk (O : Oracles) : Dec := decOpaque siteSk 32 O.sk

/-- `utils::parse::<TRUSTED, T, U>` -/
def decOptPair (f g : Dec) : Dec := fun b =>
  (readUint 1 b).bind fun xr =>
    if xr.1 = 0 then .pure (.tup [.none, .none], xr.2)
    else if xr.1 = 1 then (f xr.2).bind fun vr => .pure (.tup [.some vr.1, .none], vr.2)
    else if xr.1 = 2 then (g xr.2).bind fun wr => .pure (.tup [.none, .some wr.1], wr.2)
    else if xr.1 = 3 then (f xr.2).bind fun vr => (g vr.2).bind fun wr => .pure (.tup [.some vr.1, .some wr.1], wr.2)
    else .fail

/-- `if present { Some(T::parse(input)?) } else { None }` (the prefix byte was read by the caller) -/
def decPresent (present : Bool) (f : Dec) : Dec := fun b =>
  if present then (f b).bind fun vr => .pure (.some vr.1, vr.2) else .pure (.none, b)

/-- tail of `FullBlock::parse` / `UnfinishedBlock::parse`; value = `[transactions_generator,
transactions_generator_ref_list, transactions_generator_buffer, version]` -/
def decGenTail (O : Oracles) (tr : Bool) : Dec := fun b =>
  (readUint 1 b).bind fun xr =>
    let version := xr.1 / 2
    let has := xr.1 % 2 != 0
    if version = 0 then
      (decPresent has (decProgram O tr) xr.2).bind fun gr =>
        (decVec 4 (decUint 4) gr.2).bind fun lr => .pure (.tup [gr.1, lr.1, .none, .n 0], lr.2)
    else if version = 1 then
      (decPresent has decBytes xr.2).bind fun br =>
        .pure (.tup [.none, .list [], br.1, .n 1], br.2)
    else .fail

def isSomeV : V → Bool
  | .some _ => true
  | _ => false

/-- `ProofOfSpace::parse`; value = the ten fields of the struct in declaration order -/
def decPos (O : Oracles) (tr : Bool) : Dec := fun b =>
  (decBytesN 32 b).bind fun ch =>
  (decOption (decG1 O tr) ch.2).bind fun pp =>
  (readUint 1 pp.2).bind fun px =>
  let version := px.1 / 2
  (decPresent (px.1 % 2 != 0) (decBytesN 32) px.2).bind fun ct =>
  (decG1 O tr ct.2).bind fun pk =>
  if version = 0 then
    (decUint 1 pk.2).bind fun sz =>
    (decBytes sz.2).bind fun pf =>
      .pure (.tup [ch.1, pp.1, ct.1, pk.1, .n 0, .n 0, .n 0, .n 0, sz.1, pf.1], pf.2)
  else if version = 1 then
    (decUint 2 pk.2).bind fun pi =>
    (decUint 1 pi.2).bind fun mg =>
    (decUint 1 mg.2).bind fun st =>
    (decBytes st.2).bind fun pf =>
      if isSomeV pp.1 == isSomeV ct.1 then .fail
      else .pure (.tup [ch.1, pp.1, ct.1, pk.1, .n 1, pi.1, mg.1, st.1, .n 0, pf.1], pf.2)
  else .fail

/-- the fields of a tuple / struct, wrapped -/
def decTup (d : Bytes → Res (List V × Bytes)) : Dec := fun b =>
  (d b).bind fun vr => .pure (.tup vr.1, vr.2)

mutual
/-- `T::parse::<TRUSTED>` -/
def decode (O : Oracles) (tr : Bool) : Ty → Dec
  | .uint n => decUint n
  | .sint n => decSint n
  | .bool => decBool
  | .unit => decUnit
  | .bytes => decBytes
  | .bytesN n => decBytesN n
  | .str => decStr
  | .option t => decOption (decode O tr t)
  | .vec t => decVec (memSize t) (decode O tr t)
  | .tuple ts => decTup (decodeL O tr ts)
  | .array n t => decArray n (decode O tr t)
  | .struct _ _ ts => decTup (decodeL O tr ts)
  | .enum8 _ vals => decEnum vals
  | .program => decProgram O tr
  | .g1 => decG1 O tr
  | .g2 => decG2 O tr
  | .gt => decGt
  | .secretKey => decSk O
  | .optpair t u => decOptPair (decode O tr t) (decode O tr u)
  | .genTail _ => decGenTail O tr
  | .proofOfSpace => decPos O tr
/-- the fields of a tuple / struct, in order -/
def decodeL (O : Oracles) (tr : Bool) : List Ty → Bytes → Res (List V × Bytes)
  | [], b => .pure ([], b)
  | t :: ts, b => (decode O tr t b).bind fun vr => (decodeL O tr ts vr.2).bind fun lr => .pure (vr.1 :: lr.1, lr.2)
end

/-- `from_bytes` (`tr = false`) / `from_bytes_unchecked` (`tr = true`): parse, then require that the whole
input was consumed (`InputTooLarge` otherwise) -/
def fromBytes (O : Oracles) (tr : Bool) (t : Ty) (b : Bytes) : Res V :=
  (decode O tr t b).bind fun vr => if vr.2.isEmpty then .pure vr.1 else .fail

/-! ## encoders (`stream`); `none` = `Err(..)` or a value that is not of the type -/

def encUint (n : Nat) : Enc
  | .n x => if x < 256 ^ n then some (be n x) else none
  | _ => none

/-- the `n`-byte two's complement pattern of `x` -/
def ofSigned (n : Nat) (x : Int) : Nat :=
  if 0 ≤ x then x.toNat else (x + (256 ^ n : Nat)).toNat

def sintOk (n : Nat) (x : Int) : Bool :=
  decide (-((256 ^ n : Nat) : Int) ≤ 2 * x) && decide (2 * x < ((256 ^ n : Nat) : Int))

def encSint (n : Nat) : Enc
  | .i x => if sintOk n x then some (be n (ofSigned n x)) else none
  | _ => none

def encBool : Enc
  | .b true => some [1]
  | .b false => some [0]
  | _ => none

def encUnit : Enc
  | .unit => some []
  | _ => none

def u32Max : Nat := 4294967296

def encBytes : Enc
  | .bytes c => if c.length < u32Max then some (be 4 c.length ++ c) else none
  | _ => none

def encBytesN (n : Nat) : Enc
  | .bytes c => if c.length = n then some c else none
  | _ => none

def encStr : Enc
  | .bytes c => if c.length < u32Max && validUtf8 c then some (be 4 c.length ++ c) else none
  | _ => none

def encOption (e : Enc) : Enc
  | .none => some [0]
  | .some v => (e v).map (1 :: ·)
  | _ => none

/-- both encodings, concatenated, or nothing -/
def optAppend : Option Bytes → Option Bytes → Option Bytes
  | some a, some b => some (a ++ b)
  | _, _ => none

@[simp] theorem optAppend_some (a b : Bytes) : optAppend (some a) (some b) = some (a ++ b) := rfl
@[simp] theorem optAppend_none_left (b : Option Bytes) : optAppend none b = none := rfl
@[simp] theorem optAppend_none_right (a : Option Bytes) : optAppend a none = none := by cases a <;> rfl

def encAll (e : Enc) : List V → Option Bytes
  | [] => some []
  | v :: vs => optAppend (e v) (encAll e vs)

def encVec (e : Enc) : Enc
  | .list l => if l.length < u32Max then (encAll e l).map (be 4 l.length ++ ·) else none
  | _ => none

def encArray (n : Nat) (e : Enc) : Enc
  | .list l => if l.length = n then encAll e l else none
  | _ => none

def encEnum (vals : List Nat) : Enc
  | .n x => if vals.contains x then some [x] else none
  | _ => none

/-- `Program::stream`: the stored bytes -/
def encProgram : Enc
  | .bytes c => some c
  | _ => none

def encOptPair (e g : Enc) : Enc
  | .tup [.none, .none] => some [0]
  | .tup [.some x, .none] => (e x).map (1 :: ·)
  | .tup [.none, .some y] => (g y).map (2 :: ·)
  | .tup [.some x, .some y] => (optAppend (e x) (g y)).map (3 :: ·)
  | _ => none

/-- tail of `FullBlock::stream`: the buffer length is written as `buf.len() as u32` (truncating, unchecked) -/
def encGenTail : Enc
  | .tup [gen, refs, buf, .n version] =>
    if version = 0 then optAppend (encOption encProgram gen) (encVec (encUint 4) refs)
    else if version = 1 then
      match buf with
      | .none => some [2]
      | .some (.bytes c) => some (3 :: (be 4 c.length ++ c))
      | _ => none
    else none
  | _ => none

/-- version-2 form of `pool_contract_puzzle_hash`: prefix `0b10` (absent) / `0b11` + the 32 bytes -/
def encContract2 : Enc
  | .none => some [2]
  | .some c => (encBytesN 32 c).map (3 :: ·)
  | _ => none

/-- `ProofOfSpace::stream` (`forHash = false`) and what `update_digest` hashes (`forHash = true`: for version 1
the proof is replaced by the 32-byte quality-string commitment; `none` when there is none) -/
def encPos (O : Oracles) (forHash : Bool) : Enc
  | .tup [ch, pp, ct, pk, .n version, .n pi, .n mg, .n st, .n sz, pf] =>
    match encBytesN 32 ch, encOption (encBytesN 48) pp, encBytesN 48 pk, encBytes pf with
    | some chb, some ppb, some pkb, some pfb =>
      if version = 0 then
        match encOption (encBytesN 32) ct, encUint 1 (.n sz) with
        | some ctb, some szb => some (chb ++ ppb ++ ctb ++ pkb ++ szb ++ pfb)
        | _, _ => none
      else if version = 1 then
        match encContract2 ct, encUint 2 (.n pi), encUint 1 (.n mg), encUint 1 (.n st) with
        | some ctb, some pib, some mgb, some stb =>
          let head := chb ++ ppb ++ ctb ++ pkb ++ pib ++ mgb ++ stb
          if forHash then (O.quality (head ++ pfb)).map (head ++ ·) else some (head ++ pfb)
        | _, _, _, _ => none
      else none
    | _, _, _, _ => none
  | _ => none

def encTup (e : List V → Option Bytes) : Enc
  | .tup l => e l
  | _ => none

mutual
/-- `stream` (`forHash = false`); with `forHash = true`: the byte string the property prescribes as the hash
pre-image (differs from the encoding only inside version-2 proofs of space) -/
def encodeH (O : Oracles) (forHash : Bool) : Ty → Enc
  | .uint n => encUint n
  | .sint n => encSint n
  | .bool => encBool
  | .unit => encUnit
  | .bytes => encBytes
  | .bytesN n => encBytesN n
  | .str => encStr
  | .option t => encOption (encodeH O forHash t)
  | .vec t => encVec (encodeH O forHash t)
  | .tuple ts => encTup (encodeLH O forHash ts)
  | .array n t => encArray n (encodeH O forHash t)
  | .struct _ _ ts => encTup (encodeLH O forHash ts)
  | .enum8 _ vals => encEnum vals
  | .program => encProgram
  | .g1 => encBytesN 48
  | .g2 => encBytesN 96
  | .gt => encBytesN 576
  | .secretKey => encBytesN 32
  | .optpair t u => encOptPair (encodeH O forHash t) (encodeH O forHash u)
  | .genTail _ => encGenTail
  | .proofOfSpace => encPos O forHash
def encodeLH (O : Oracles) (forHash : Bool) : List Ty → List V → Option Bytes
  | [], [] => some []
  | t :: ts, v :: vs => optAppend (encodeH O forHash t v) (encodeLH O forHash ts vs)
  | _, _ => none
end

/-- `to_bytes` -/
def encode (O : Oracles) (t : Ty) (v : V) : Option Bytes := encodeH O false t v
/-- the prescribed hash pre-image -/
def encodeForHash (O : Oracles) (t : Ty) (v : V) : Option Bytes := encodeH O true t v

/-! ## well-formed values (what an untrusted decoder can return; explicit and decidable) -/

def wfUint (n : Nat) : Wf
  | .n x => decide (x < 256 ^ n)
  | _ => false
def wfSint (n : Nat) : Wf
  | .i x => sintOk n x
  | _ => false
def wfBool : Wf
  | .b _ => true
  | _ => false
def wfUnit : Wf
  | .unit => true
  | _ => false
def wfBytes : Wf
  | .bytes c => decide (c.length < u32Max)
  | _ => false
def wfBytesN (n : Nat) : Wf
  | .bytes c => decide (c.length = n)
  | _ => false
def wfStr : Wf
  | .bytes c => decide (c.length < u32Max) && validUtf8 c
  | _ => false
def wfOption (w : Wf) : Wf
  | .none => true
  | .some v => w v
  | _ => false
def wfVec (w : Wf) : Wf
  | .list l => decide (l.length < u32Max) && l.all w
  | _ => false
def wfArray (n : Nat) (w : Wf) : Wf
  | .list l => decide (l.length = n) && l.all w
  | _ => false
def wfEnum (vals : List Nat) : Wf
  | .n x => vals.contains x
  | _ => false
def wfProgram (O : Oracles) (tr : Bool) : Wf
  | .bytes c => O.serLen tr c == some c.length
  | _ => false
def wfOpaque (n : Nat) (valid : Bytes → Bool) : Wf
  | .bytes c => decide (c.length = n) && valid c
  | _ => false
def wfG1 (O : Oracles) (tr : Bool) : Wf := wfOpaque 48 fun c => pointOk tr (O.g1 c)
def wfG2 (O : Oracles) (tr : Bool) : Wf := wfOpaque 96 fun c => pointOk tr (O.g2 c)
def wfOptPair (w x : Wf) : Wf
  | .tup [a, b] => wfOption w a && wfOption x b
  | _ => false
def wfGenTail (O : Oracles) (tr : Bool) : Wf
  | .tup [gen, refs, buf, .n version] =>
    if version = 0 then wfOption (wfProgram O tr) gen && wfVec (wfUint 4) refs && (buf matches .none)
    else if version = 1 then (gen matches .none) && (refs matches .list []) && wfOption wfBytes buf
    else false
  | _ => false
def wfPos (O : Oracles) (tr : Bool) : Wf
  | .tup [ch, pp, ct, pk, .n version, .n pi, .n mg, .n st, .n sz, pf] =>
    wfBytesN 32 ch && wfOption (wfG1 O tr) pp && wfOption (wfBytesN 32) ct && wfG1 O tr pk && wfBytes pf &&
    (if version = 0 then pi == 0 && mg == 0 && st == 0 && decide (sz < 256)
     else if version = 1 then decide (pi < 65536) && decide (mg < 256) && decide (st < 256) && sz == 0 &&
       (isSomeV pp != isSomeV ct)
     else false)
  | _ => false

def wfTup (w : List V → Bool) : Wf
  | .tup l => w l
  | _ => false

mutual
/-- the values `parse::<tr>` can return: `tr = false` is the property's notion of a well-formed value; with
`tr = true` points need only pass `from_bytes_unchecked` and programs the trusted scan -/
def WF (O : Oracles) (tr : Bool) : Ty → Wf
  | .uint n => wfUint n
  | .sint n => wfSint n
  | .bool => wfBool
  | .unit => wfUnit
  | .bytes => wfBytes
  | .bytesN n => wfBytesN n
  | .str => wfStr
  | .option t => wfOption (WF O tr t)
  | .vec t => wfVec (WF O tr t)
  | .tuple ts => wfTup (WFL O tr ts)
  | .array n t => wfArray n (WF O tr t)
  | .struct _ _ ts => wfTup (WFL O tr ts)
  | .enum8 _ vals => wfEnum vals
  | .program => wfProgram O tr
  | .g1 => wfG1 O tr
  | .g2 => wfG2 O tr
  | .gt => wfOpaque 576 fun _ => true
  | .secretKey => wfOpaque 32 O.sk
  | .optpair t u => wfOptPair (WF O tr t) (WF O tr u)
  | .genTail _ => wfGenTail O tr
  | .proofOfSpace => wfPos O tr
def WFL (O : Oracles) (tr : Bool) : List Ty → List V → Bool
  | [], [] => true
  | t :: ts, v :: vs => WF O tr t v && WFL O tr ts vs
  | _, _ => false
end

/-! ## `update_digest`: the chunks fed to the hasher, in order -/

namespace Outcome
@[inline] def bind {α β : Type} (x : Outcome α) (f : α → Outcome β) : Outcome β :=
  match x with
  | .ok a => f a
  | .err => .err
  | .panic s => .panic s
end Outcome

/-- digest of a leaf whose `update_digest` feeds exactly its encoding; `err` for ill-typed values -/
def digOfEnc (e : Enc) : Dig := fun v =>
  match e v with
  | some b => .ok [b]
  | none => .err

/-- `(len as u32).update_digest` + the raw bytes: no length check, the cast truncates -/
def digBytes : Dig
  | .bytes c => .ok [be 4 c.length, c]
  | _ => .err

def digOption (d : Dig) : Dig
  | .none => .ok [[0]]
  | .some v => (d v).bind fun cs => .ok ([1] :: cs)
  | _ => .err

def digAll (d : Dig) : List V → Outcome (List Bytes)
  | [] => .ok []
  | v :: vs => (d v).bind fun a => (digAll d vs).bind fun b => .ok (a ++ b)

def digVec (d : Dig) : Dig
  | .list l => (digAll d l).bind fun cs => .ok (be 4 l.length :: cs)
  | _ => .err

def digArray (d : Dig) : Dig
  | .list l => digAll d l
  | _ => .err

def digOptPair (d g : Dig) : Dig
  | .tup [.none, .none] => .ok [[0]]
  | .tup [.some x, .none] => (d x).bind fun cs => .ok ([1] :: cs)
  | .tup [.none, .some y] => (g y).bind fun cs => .ok ([2] :: cs)
  | .tup [.some x, .some y] => (d x).bind fun a => (g y).bind fun b => .ok ([3] :: (a ++ b))
  | _ => .err

def digGenTail (panics : Bool) : Dig
  | .tup [gen, refs, buf, .n version] =>
    if version = 0 then
      (digOption (digOfEnc encProgram) gen).bind fun a => (digVec (digOfEnc (encUint 4)) refs).bind fun b => .ok (a ++ b)
    else if version = 1 then
      match buf with
      | .none => .ok [[2]]
      | .some (.bytes c) => .ok [[3], be 4 c.length, c]
      | _ => .err
    else if panics then .panic siteFullBlockVersion
    else .ok ["invalid-unfinished-block-version".toUTF8.toList.map (·.toNat)]
  | _ => .err

def digContract2 : Dig
  | .none => .ok [[2]]
  | .some c => (digOfEnc (encBytesN 32) c).bind fun cs => .ok ([3] :: cs)
  | _ => .err

def digPos (O : Oracles) : Dig
  | .tup [ch, pp, ct, pk, .n version, .n pi, .n mg, .n st, .n sz, pf] =>
    (digOfEnc (encBytesN 32) ch).bind fun a =>
    (digOption (digOfEnc (encBytesN 48)) pp).bind fun b =>
    if version = 0 then
      (digOption (digOfEnc (encBytesN 32)) ct).bind fun c =>
      (digOfEnc (encBytesN 48) pk).bind fun d =>
      (digBytes pf).bind fun e => .ok (a ++ b ++ c ++ d ++ [be 1 sz] ++ e)
    else if version = 1 then
      (digContract2 ct).bind fun c =>
      (digOfEnc (encBytesN 48) pk).bind fun d =>
      let head := a ++ b ++ c ++ d ++ [be 2 pi, be 1 mg, be 1 st]
      -- quality_string(): compute_plot_id_v2 panics when neither key nor contract hash is set
      if !isSomeV pp && !isSomeV ct then .panic sitePosPlotId
      else match encBytes pf with
        | none => .err
        | some pfb =>
          match O.quality (head.flatten ++ pfb) with
          | some q => .ok (head ++ [q])
          | none => .panic sitePosQuality
    else .panic sitePosVersion
  | _ => .err

def digTup (d : List V → Outcome (List Bytes)) : Dig
  | .tup l => d l
  | _ => .err

def digUnit : Dig
  | .unit => .ok []
  | _ => .err

def digStr : Dig
  | .bytes c => if validUtf8 c then .ok [be 4 c.length, c] else .err
  | _ => .err

mutual
/-- `update_digest` -/
def digestChunks (O : Oracles) : Ty → Dig
  | .uint n => digOfEnc (encUint n)
  | .sint n => digOfEnc (encSint n)
  | .bool => digOfEnc encBool
  | .unit => digUnit
  | .bytes => digBytes
  | .bytesN n => digOfEnc (encBytesN n)
  | .str => digStr
  | .option t => digOption (digestChunks O t)
  | .vec t => digVec (digestChunks O t)
  | .tuple ts => digTup (digestL O ts)
  | .array _ t => digArray (digestChunks O t)
  | .struct _ _ ts => digTup (digestL O ts)
  | .enum8 _ vals => digOfEnc (encEnum vals)
  | .program => digOfEnc encProgram
  | .g1 => digOfEnc (encBytesN 48)
  | .g2 => digOfEnc (encBytesN 96)
  | .gt => digOfEnc (encBytesN 576)
  | .secretKey => digOfEnc (encBytesN 32)
  | .optpair t u => digOptPair (digestChunks O t) (digestChunks O u)
  | .genTail p => digGenTail p
  | .proofOfSpace => digPos O
def digestL (O : Oracles) : List Ty → List V → Outcome (List Bytes)
  | [], [] => .ok []
  | t :: ts, v :: vs => (digestChunks O t v).bind fun a => (digestL O ts vs).bind fun b => .ok (a ++ b)
  | _, _ => .err
end

/-! ## static facts used by C14 -/

mutual
/-- no `Vec` whose element type can have a zero-width encoding (`Vec<()>`, `Vec<EmptyStruct>`): such a vector
would make `parse` loop `len` times without consuming input -/
def noZeroWidthVec : Ty → Bool
  | .option t => noZeroWidthVec t
  | .vec t => decide (0 < minWire t) && noZeroWidthVec t
  | .tuple ts => noZeroWidthVecL ts
  | .array _ t => noZeroWidthVec t
  | .struct _ _ ts => noZeroWidthVecL ts
  | .optpair t u => noZeroWidthVec t && noZeroWidthVec u
  | _ => true
def noZeroWidthVecL : List Ty → Bool
  | [] => true
  | t :: ts => noZeroWidthVec t && noZeroWidthVecL ts
end

mutual
/-- names of the structs and enums occurring in a descriptor -/
def namesOf : Ty → List String
  | .option t => namesOf t
  | .vec t => namesOf t
  | .tuple ts => namesOfL ts
  | .array _ t => namesOf t
  | .struct n _ ts => n :: namesOfL ts
  | .enum8 n _ => [n]
  | .optpair t u => namesOf t ++ namesOf u
  | _ => []
def namesOfL : List Ty → List String
  | [] => []
  | t :: ts => namesOf t ++ namesOfL ts
end

mutual
/-- Σ over the `Vec` nodes of the descriptor of the element size: bytes reserved per input byte, at most -/
def allocFactor : Ty → Nat
  | .option t => allocFactor t
  | .vec t => memSize t + allocFactor t
  | .tuple ts => allocFactorL ts
  | .array _ t => allocFactor t
  | .struct _ _ ts => allocFactorL ts
  | .optpair t u => allocFactor t + allocFactor u
  | .genTail _ => 4
  | _ => 0
def allocFactorL : List Ty → Nat
  | [] => 0
  | t :: ts => allocFactor t + allocFactorL ts
end

mutual
/-- greatest number of `Vec` headers that can be open at once -/
def vecDepth : Ty → Nat
  | .option t => vecDepth t
  | .vec t => vecDepth t + 1
  | .tuple ts => vecDepthL ts
  | .array _ t => vecDepth t
  | .struct _ _ ts => vecDepthL ts
  | .optpair t u => max (vecDepth t) (vecDepth u)
  | .genTail _ => 1
  | _ => 0
def vecDepthL : List Ty → Nat
  | [] => 0
  | t :: ts => max (vecDepth t) (vecDepthL ts)
end

end ChiaModel.Streamable
