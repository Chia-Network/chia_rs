import ChiaModel.Lemmas.BundleRules
import ChiaModel.Lemmas.CondOrder
import ChiaModel.Lemmas.MsgKey
import ChiaModel.Lemmas.ArgGrammar
/-
C01 — spend conditions are accepted, rejected and summarised exactly per the rules.
Theorems about the executable model of `parse_spends` (Model/Conditions.lean), which is tied to the
Rust code by the correspondence check.

The refinement (`spend_refines`, `condLoop_refines`, `C01_refines`, `C01_rejects`) is to the order-free declarative
specification of `Spec/ConditionRules.lean` (one spend) and `Spec/BundleRules.lean` (the bundle); what the
specification takes from the model is said at `C01_refines`.  The argument grammar is also given as an
independent data table (`Spec/ArgGrammar.lean`, written from DESIGN.md Appendix A.1 and the Rust source):
`parseArgs_table`, `C01_refines_grammar`, `C01_rejects_grammar`.
-/
namespace ChiaModel.C01
open ChiaModel ChiaModel.Cond

/-- the one-byte whitelist extracted from `parse_opcode` is exactly the documented opcode set -/
theorem opcode_whitelist :
    Gen.opcodeWhitelist = [1, 43, 44, 45, 46, 47, 48, 49, 50, 51, 52, 60, 61, 62, 63, 64, 65, 66, 67,
      70, 71, 72, 73, 74, 75, 76, 80, 81, 82, 83, 84, 85, 86, 87, 90] := by decide +kernel

theorem opcode_constants :
    [Gen.opRemark, Gen.opAggSigParent, Gen.opAggSigPuzzle, Gen.opAggSigAmount, Gen.opAggSigPuzzleAmount,
     Gen.opAggSigParentAmount, Gen.opAggSigParentPuzzle, Gen.opAggSigUnsafe, Gen.opAggSigMe, Gen.opCreateCoin,
     Gen.opReserveFee, Gen.opCreateCoinAnnouncement, Gen.opAssertCoinAnnouncement, Gen.opCreatePuzzleAnnouncement,
     Gen.opAssertPuzzleAnnouncement, Gen.opAssertConcurrentSpend, Gen.opAssertConcurrentPuzzle, Gen.opSendMessage,
     Gen.opReceiveMessage, Gen.opAssertMyCoinId, Gen.opAssertMyParentId, Gen.opAssertMyPuzzlehash,
     Gen.opAssertMyAmount, Gen.opAssertMyBirthSeconds, Gen.opAssertMyBirthHeight, Gen.opAssertEphemeral,
     Gen.opAssertSecondsRelative, Gen.opAssertSecondsAbsolute, Gen.opAssertHeightRelative, Gen.opAssertHeightAbsolute,
     Gen.opAssertBeforeSecondsRelative, Gen.opAssertBeforeSecondsAbsolute, Gen.opAssertBeforeHeightRelative,
     Gen.opAssertBeforeHeightAbsolute, Gen.opSoftfork] = Gen.opcodeWhitelist := by decide +kernel

/-- Opcode recognition rule: a one-byte atom in the whitelist is that opcode; a two-byte atom with a
non-zero first byte is the two-byte opcode; a pair, the empty atom, any other one-byte atom, a two-byte
atom with a zero first byte, and any atom of three or more bytes is not an opcode. -/
theorem parseOpcode_spec (n : Sexp) (op : Nat) :
    parseOpcode n = some op ↔
      (∃ b0, n = .atom [b0] ∧ b0 ∈ Gen.opcodeWhitelist ∧ op = b0) ∨
      (∃ b0 b1, n = .atom [b0, b1] ∧ b0 ≠ 0 ∧ op = b0 * 256 + b1) := by
  fun_cases parseOpcode n with
  | case3 b0 b1 h0 => -- two bytes, the first non-zero
    exact ⟨fun h => Or.inr ⟨b0, b1, rfl, h0, (Option.some.inj h).symm⟩,
      by rintro (⟨_, hx, _⟩ | ⟨_, _, hx, _, rfl⟩) <;> cases hx; rfl⟩
  | case4 b0 hw => -- one whitelisted byte
    exact ⟨fun h => Or.inl ⟨b0, rfl, by simpa using hw, (Option.some.inj h).symm⟩,
      by rintro (⟨_, hx, _, rfl⟩ | ⟨_, _, hx, _⟩) <;> cases hx; rfl⟩
  | case1 l r => exact ⟨nofun, by rintro (⟨_, hx, _⟩ | ⟨_, _, hx, _⟩) <;> cases hx⟩
  | case2 b1 => exact ⟨nofun, by rintro (⟨_, hx, _⟩ | ⟨_, _, hx, hne, _⟩) <;> cases hx; exact (hne rfl).elim⟩
  | case5 b0 hw =>
    exact ⟨nofun, by rintro (⟨_, hx, hm, _⟩ | ⟨_, _, hx, _⟩) <;> cases hx; exact (hw (by simpa using hm)).elim⟩
  | case6 b h2 h1 => -- an atom of neither one nor two bytes
    refine ⟨nofun, ?_⟩
    rintro (⟨_, hx, _⟩ | ⟨_, _, hx, _⟩) <;> cases hx
    · exact (h1 _ rfl).elim
    · exact (h2 _ _ rfl).elim

theorem guard_bind (c : Prop) [Decidable c] (k : R Unit) :
    ((if c then (Except.error Err.reject : R PUnit) else pure PUnit.unit) >>= fun _ => k) = .ok () ↔ ¬ c ∧ k = .ok () := by
  by_cases h : c <;> simp [h, bind, Except.bind, pure, Except.pure]

theorem guard_last : ((pure () : R Unit) = .ok ()) ↔ True := by simp [pure, Except.pure]

/-- **Cross-spend assertions pass exactly when a matching counterpart exists.**  `validate_conditions`
accepts iff: no coin is minted; the fee fits in what is left; absolute before/after locks are
compatible; every asserted concurrent spend / puzzle is spent in the bundle; every asserted
announcement id is the SHA-256 of (coin id ‖ message) resp. (puzzle hash ‖ message) of an announcement
made in the bundle; every ASSERT_EPHEMERAL spend is ephemeral and no spend with a relative or birth
condition is; every message key is received exactly as often as it is sent. -/
theorem validateConditions_iff (ret : Bundle) (st : PState) :
    validateConditions ret st = .ok () ↔
      ret.additionAmount ≤ ret.removalAmount ∧
      ret.reserveFee ≤ ret.removalAmount - ret.additionAmount ∧
      (∀ bh, ret.beforeHeightAbsolute = some bh → ret.heightAbsolute < bh) ∧
      (∀ bs, ret.beforeSecondsAbsolute = some bs → ret.secondsAbsolute < bs) ∧
      (∀ id ∈ st.assertConcurrentSpend, id ∈ st.spentCoins) ∧
      (∀ ph ∈ st.assertConcurrentPuzzle, ph ∈ st.spentPuzzles) ∧
      (∀ a ∈ st.assertCoin, ∃ p ∈ st.announceCoin, a = sha256 (p.1 ++ p.2)) ∧
      (∀ i ∈ st.assertEphemeral, isEphemeral st ret.spends i = true) ∧
      (∀ i ∈ st.assertNotEphemeral, isEphemeral st ret.spends i = false) ∧
      (∀ a ∈ st.assertPuzzle, ∃ p ∈ st.announcePuzzle, a = sha256 (p.1 ++ p.2)) ∧
      (∀ m ∈ st.messages, ((st.messages.filter (fun x => x.1 == m.1)).map (·.2)).sum = 0) :=
  Rules.validateConditions_iff ret st

end ChiaModel.C01

namespace ChiaModel.C01
open ChiaModel ChiaModel.Cond ChiaModel.Rules ChiaModel.TL

/-- **Per-spend refinement.**  Let `s` be the parser state in which the conditions of a spend are entered
(a fresh spend record; bundle summary and parse state as left by the earlier spends, whose reserved fee is a
u64) and `cs` the parsed conditions of the spend in listing order.  The fold of the parser's per-condition
effect over `cs` (`applyAll`, i.e. `applyCond` = the `match` of `parse_conditions`, with early exit) accepts
iff the ORDER-FREE per-spend rules `SpendAccepts` hold for the spend's attributes, the fee reserved before
and the announcement budget; and then the state is exactly `spendResult`: `s` with the order-free summary
`spendSummary` of `cs` entered (max / min / common value for the locks, created coins and the seven
AGG_SIG lists in listing order, sums for additions and fee, absolute locks combined with the earlier
spends' by max / min, the announcements / assertions / messages / signed pairs appended to the parse state).
The equality is an equality of complete records (every field, lists in order). -/
theorem spend_refines (env : Env) (s : CSt) (hs : FreshSpend s.spend) (hfee : s.ret.reserveFee < 2 ^ 64)
    (cs : List Cond) (s' : CSt) :
    applyAll env s cs = .ok s' ↔
      SpendAccepts env (Rules.attrsOf s.spend) s.ret.reserveFee s.countdown cs ∧ s' = spendResult env s cs := by
  rw [applyAll_ok_iff, stateAfter_fresh env s hs, accepts_fresh env s hs hfee]

theorem spend_rejects (env : Env) (s : CSt) (hs : FreshSpend s.spend) (hfee : s.ret.reserveFee < 2 ^ 64)
    (cs : List Cond) :
    (∃ e, applyAll env s cs = .error e) ↔ ¬ SpendAccepts env (Rules.attrsOf s.spend) s.ret.reserveFee s.countdown cs :=
  error_iff_not (fun _ h => ((spend_refines env s hs hfee cs _).mp h).1)
    (fun h => ⟨_, (spend_refines env s hs hfee cs _).mpr ⟨h, rfl⟩⟩)

/-- **The per-spend rules are order-free**: they hold of a condition list iff they hold of any
permutation of it. -/
theorem spend_accepts_order_free (env : Env) (a : Attrs) (feeBefore countdown : Nat) {cs cs' : List Cond}
    (hp : List.Perm cs cs') : SpendAccepts env a feeBefore countdown cs ↔ SpendAccepts env a feeBefore countdown cs' :=
  accepts_perm env a feeBefore countdown hp

/-- `spendResult`, field by field: what the state after the conditions `cs` of a spend is, in terms of
the state `s` before them and order-free aggregates of `cs`. -/
theorem spend_result_fields (env : Env) (s : CSt) (cs : List Cond) :
    let r := spendResult env s cs
    let a := Rules.attrsOf s.spend
    r.spend.heightRelative = maxOpt (heightRels cs) ∧ r.spend.secondsRelative = maxOpt (secondsRels cs) ∧
    r.spend.beforeHeightRelative = minOpt (beforeHeightRels cs) ∧
    r.spend.beforeSecondsRelative = minOpt (beforeSecondsRels cs) ∧
    r.spend.birthHeight = commonValue (birthHeights cs) ∧ r.spend.birthSeconds = commonValue (birthSeconds cs) ∧
    r.spend.createCoin = newCoins cs ∧
    r.spend.aggSigMe = sigsOf Gen.opAggSigMe cs ∧ r.spend.aggSigParent = sigsOf Gen.opAggSigParent cs ∧
    r.spend.aggSigPuzzle = sigsOf Gen.opAggSigPuzzle cs ∧ r.spend.aggSigAmount = sigsOf Gen.opAggSigAmount cs ∧
    r.spend.aggSigPuzzleAmount = sigsOf Gen.opAggSigPuzzleAmount cs ∧
    r.spend.aggSigParentAmount = sigsOf Gen.opAggSigParentAmount cs ∧
    r.spend.aggSigParentPuzzle = sigsOf Gen.opAggSigParentPuzzle cs ∧
    r.spend.flags = (bif anyNotEphemeral cs then s.spend.flags + HAS_RELATIVE_CONDITION else s.spend.flags) ∧
    r.spend.parentId = s.spend.parentId ∧ r.spend.coinAmount = s.spend.coinAmount ∧
    r.spend.puzzleHash = s.spend.puzzleHash ∧ r.spend.coinId = s.spend.coinId ∧
    r.spend.executionCost = s.spend.executionCost ∧ r.spend.conditionCost = s.spend.conditionCost ∧
    r.ret.reserveFee = s.ret.reserveFee + feeSum cs ∧ r.ret.additionAmount = s.ret.additionAmount + additions cs ∧
    r.ret.heightAbsolute = max s.ret.heightAbsolute (maxList (heightAbss cs)) ∧
    r.ret.secondsAbsolute = max s.ret.secondsAbsolute (maxList (secondsAbss cs)) ∧
    r.ret.beforeHeightAbsolute = minOpt2 s.ret.beforeHeightAbsolute (minOpt (beforeHeightAbss cs)) ∧
    r.ret.beforeSecondsAbsolute = minOpt2 s.ret.beforeSecondsAbsolute (minOpt (beforeSecondsAbss cs)) ∧
    r.ret.aggSigUnsafe = s.ret.aggSigUnsafe ++ sigsOf Gen.opAggSigUnsafe cs ∧
    r.ret.spends = s.ret.spends ∧ r.ret.removalAmount = s.ret.removalAmount ∧ r.ret.cost = s.ret.cost ∧
    r.ret.executionCost = s.ret.executionCost ∧ r.ret.conditionCost = s.ret.conditionCost ∧
    r.ret.validatedSignature = s.ret.validatedSignature ∧
    -- the model puts the latest item first, hence `reverse`
    r.st.announceCoin = (cs.filterMap (coinAnnouncementOf a)).reverse ++ s.st.announceCoin ∧
    r.st.announcePuzzle = (cs.filterMap (puzzleAnnouncementOf a)).reverse ++ s.st.announcePuzzle ∧
    r.st.assertCoin = (cs.filterMap assertCoinAnnouncementOf).reverse ++ s.st.assertCoin ∧
    r.st.assertPuzzle = (cs.filterMap assertPuzzleAnnouncementOf).reverse ++ s.st.assertPuzzle ∧
    r.st.messages = (cs.filterMap (messageOf a)).reverse ++ s.st.messages ∧
    r.st.assertConcurrentSpend = (cs.filterMap concurrentSpendOf).reverse ++ s.st.assertConcurrentSpend ∧
    r.st.assertConcurrentPuzzle = (cs.filterMap concurrentPuzzleOf).reverse ++ s.st.assertConcurrentPuzzle ∧
    r.st.assertEphemeral = List.replicate (ephemeralCount cs) s.ret.spends.length ++ s.st.assertEphemeral ∧
    r.st.assertNotEphemeral =
      (bif anyNotEphemeral cs then s.ret.spends.length :: s.st.assertNotEphemeral else s.st.assertNotEphemeral) ∧
    r.st.pkmPairs = s.st.pkmPairs ++
      (if hasFlag env.flags Gen.flagDontValidateSignature then [] else cs.filterMap (signedPairOf a)) ∧
    r.st.spentCoins = s.st.spentCoins ∧ r.st.spentPuzzles = s.st.spentPuzzles ∧
    r.countdown = (if hasFlag env.flags Gen.flagCostConditions then s.countdown else s.countdown - announceCount cs) ∧
    r.counter = s.counter :=
  ⟨rfl, rfl, rfl, rfl, rfl, rfl, rfl, rfl, rfl, rfl, rfl, rfl, rfl, rfl, rfl, rfl, rfl, rfl, rfl, rfl, rfl,
   rfl, rfl, rfl, rfl, rfl, rfl, rfl, rfl, rfl, rfl, rfl, rfl, rfl,
   rfl, rfl, rfl, rfl, rfl, rfl, rfl, rfl, rfl, rfl, rfl, rfl, rfl, rfl⟩

/-- The aggregates used by the summary are the declarative ones of C03: `maxOpt` is the maximum (absent
iff the list is empty), `minOpt` the minimum, `maxList` the maximum with 0 for "no constraint", and under
the "all equal" rule `commonValue` is the value all elements have. -/
theorem summary_aggregates_spec (l : List Nat) :
    MaxSpec (maxOpt l) l ∧ MinSpec (minOpt l) l ∧ AbsMaxSpec (maxList l) l ∧
    ((∀ v ∈ l, ∀ w ∈ l, v = w) → SameSpec (commonValue l) l) :=
  ⟨maxOpt_spec l, minOpt_spec l, maxList_spec l, commonValue_spec l⟩

theorem spend_locks_spec (env : Env) (s : CSt) (cs : List Cond)
    (ha : SpendAccepts env (Rules.attrsOf s.spend) s.ret.reserveFee s.countdown cs) :
    MaxSpec (spendResult env s cs).spend.heightRelative (heightRels cs) ∧
    MaxSpec (spendResult env s cs).spend.secondsRelative (secondsRels cs) ∧
    MinSpec (spendResult env s cs).spend.beforeHeightRelative (beforeHeightRels cs) ∧
    MinSpec (spendResult env s cs).spend.beforeSecondsRelative (beforeSecondsRels cs) ∧
    SameSpec (spendResult env s cs).spend.birthHeight (birthHeights cs) ∧
    SameSpec (spendResult env s cs).spend.birthSeconds (birthSeconds cs) :=
  ⟨maxOpt_spec _, maxOpt_spec _, minOpt_spec _, minOpt_spec _, commonValue_spec _ ha.birthHeights_eq, commonValue_spec _ ha.birthSeconds_eq⟩

/-! non-vacuity of `SpendAccepts`: a list that exercises every rule is accepted, one-edit variants are not -/

example : SpendAccepts exEnv exAttrs 0 1024 exConds := by decide +kernel
-- a wrong ASSERT_MY_COIN_ID / ASSERT_MY_AMOUNT
example : ¬ SpendAccepts exEnv exAttrs 0 1024 (.assertMyCoinId [4] :: exConds) := by decide +kernel
example : ¬ SpendAccepts exEnv exAttrs 0 1024 (.assertMyAmount 11 :: exConds) := by decide +kernel
-- a second CREATE_COIN with the same (puzzle hash, amount), different hint
example : ¬ SpendAccepts exEnv exAttrs 0 1024 (.createCoin [7] 4 (some [1]) :: exConds) := by decide +kernel
-- a differing birth height
example : ¬ SpendAccepts exEnv exAttrs 0 1024 (.assertMyBirthHeight 4 :: exConds) := by decide +kernel
-- ASSERT_BEFORE_HEIGHT_RELATIVE 5 against ASSERT_HEIGHT_RELATIVE 5; ASSERT_SECONDS_RELATIVE 101 against before 101
example : ¬ SpendAccepts exEnv exAttrs 0 1024 (.assertBeforeHeightRelative 5 :: exConds) := by decide +kernel
example : ¬ SpendAccepts exEnv exAttrs 0 1024 (.assertSecondsRelative 101 :: exConds) := by decide +kernel
-- an invalid public key
example : ¬ SpendAccepts exEnv exAttrs 0 1024 (.aggSig Gen.opAggSigParent [0] [] :: exConds) := by decide +kernel
-- an AGG_SIG_UNSAFE message ending in a domain-separation constant (fine for AGG_SIG_ME)
example : ¬ SpendAccepts exEnv exAttrs 0 1024 (.aggSig Gen.opAggSigUnsafe [1] Gen.aggSigMeAdditionalData :: exConds) := by
  decide +kernel
example : SpendAccepts exEnv exAttrs 0 1024 (.aggSig Gen.opAggSigMe [1] Gen.aggSigMeAdditionalData :: exConds) := by
  decide +kernel
-- fee overflow: the list reserves 3
example : ¬ SpendAccepts exEnv exAttrs (2 ^ 64 - 3) 1024 exConds := by decide +kernel
example : SpendAccepts exEnv exAttrs (2 ^ 64 - 4) 1024 exConds := by decide +kernel
-- the list has two announcement-class conditions: a budget of 1 is exceeded, unless COST_CONDITIONS is on
example : ¬ SpendAccepts exEnv exAttrs 0 1 exConds := by decide +kernel
example : SpendAccepts { exEnv with flags := Gen.flagCostConditions } exAttrs 0 1 exConds := by decide +kernel
example : (spendSummary exEnv exAttrs exConds).heightRelative = some 5
    ∧ (spendSummary exEnv exAttrs exConds).beforeHeightRelative = some 9
    ∧ (spendSummary exEnv exAttrs exConds).birthHeight = some 3
    ∧ (spendSummary exEnv exAttrs exConds).fee = 3
    ∧ (spendSummary exEnv exAttrs exConds).additions = 9
    ∧ (spendSummary exEnv exAttrs exConds).heightAbsolute = 4
    ∧ (spendSummary exEnv exAttrs exConds).beforeHeightAbsolute = some 2
    ∧ (spendSummary exEnv exAttrs exConds).createCoin = [⟨[7], 4, none⟩, ⟨[7], 5, some [9]⟩]
    ∧ (spendSummary exEnv exAttrs exConds).aggSigMe = [([1], [2])]
    ∧ (spendSummary exEnv exAttrs exConds).announceCoin = [([3], [1])]
    ∧ (spendSummary exEnv exAttrs exConds).announceCount = 2
    ∧ (spendSummary exEnv exAttrs exConds).notEphemeral = true := by decide +kernel
-- non-vacuity of the hypotheses of `spend_refines`
example : FreshSpend ({ parentId := [], coinAmount := 5, puzzleHash := [], coinId := [] } : Spend) := by
  constructor <;> first | rfl | decide

/-- **The condition loop refines the per-spend rules.**  `condLoop` (for every element: opcode
recognition, pre-charge, argument parsing under the flags, visitor, effect, SOFTFORK charge) accepts the
tree `t` from a fresh per-spend state `s` with cost countdown `m` iff
 * `t` is a NIL-terminated list `cs` every element of which is ignored or parses — `parseAll`, i.e. the
   argument grammar `parseArgs` / `parseOpcode` applied element-wise, an element that is not an opcode
   being ignored unless NO_UNKNOWN_CONDS is set (an order-free condition: `Cond.parseAll_perm`),
 * the table cost of the list (`totalCost`, a sum) fits the countdown, which is reduced by it,
 * the parsed conditions satisfy the order-free per-spend rules `SpendAccepts`,
and then the state is `spendResult` of the parsed conditions, with the table cost booked, the recognised
conditions counted and the eligibility flags cleared that the mempool visitor clears (`wrapF … allBits`). -/
theorem condLoop_refines (env : Env) (t : Sexp) (s : CSt) (hs : FreshSpend s.spend) (hfee : s.ret.reserveFee < 2 ^ 64)
    (m : Nat) (s' : CSt) (m' : Nat) :
    condLoop env t s m = .ok (s', m') ↔
      ∃ cs items, sexpList t = some cs ∧ parseAll env.flags cs = .ok items ∧
        totalCost env.flags items ≤ m ∧ m' = m - totalCost env.flags items ∧
        SpendAccepts env (Rules.attrsOf s.spend) s.ret.reserveFee s.countdown (itemConds items) ∧
        s' = wrapF (allBits env.mempool s.counter items) (spendResult env s (itemConds items)) (totalCount items)
              (totalCost env.flags items) := by
  simp only [condLoop_ok_iff, stateAfter_fresh env s hs, accepts_fresh env s hs hfee]

/-- **C01, refinement.**  `parse_spends` accepts the generator output `t` under cost limit `L` (flags,
visitor and key validity in `env`, signature verdict `sigOk`) with summary `b` and parse state `st` iff
 * `t` parses (`parseBundle`: `(spends . ext)` with `spends` NIL-terminated, every spend a tuple
   `(parent ph amount conds . ext)` with 32-byte parent id and puzzle hash and a canonical u64 amount, every
   condition list NIL-terminated with every element ignored or parsing per the argument grammar), giving the
   parsed spends `ps` (attributes incl. coin id = SHA-256(parent ‖ puzzle hash ‖ amount atom), and items);
 * the bundle rules `BundleAccepts` hold — all order-free: spend count within the limit, coin ids pairwise
   distinct, Σ table cost ≤ `L`, every spend satisfies the per-spend rules `SpendAccepts`, Σ RESERVE_FEE <
   2^64, the deferred cross-spend rules (`Deferred`: no minting, fee covered, absolute locks compatible,
   concurrent spends / puzzles present, announcements matched, ephemeral rules, messages balanced) hold of the
   summary, and the aggregate signature verifies the collected (key, signed text) pairs unless
   DONT_VALIDATE_SIGNATURE;
 * `(b, st)` is `bundleSummary`: the left fold over the spends, in listing order, of the per-spend
   summaries (`enterSpend` = `spendResult` + cost bookkeeping + finished spend record), then the visitor's
   post-processing, `validated_signature`, and `cost` = the table cost.
All record equalities are exact (every field; lists in listing order, which is stronger than "up to the
order of `create_coin`").  Both visitors, all flags.

What the specification takes from the model rather than restating: (a) the argument grammar of the
individual conditions (`parseArgs`, `parseOpcode`, via `parseAll`; its rule table is Appendix A and is tied
to the Rust code by the correspondence check; `parseOpcode_spec` above is its opcode part); (b) the values
of the two mempool eligibility flags in `Spend.flags` (`newSpendVisit`, `allBits`, `postSpend`,
`postProcess`; their closed forms per Appendix A.3 are `dedup_flag_closed_form`, `ff_flag_closed_form` and
`flags_empty_visitor` below); (c) the cost table in
list form (`totalCost`, `spendCharge`; C04 proves it equal to the consensus cost table). -/
theorem C01_refines (env : Env) (sigOk : List (Bytes × Bytes) → Bool) (t : Sexp) (L cc : Nat) (b : Bundle) (st : PState) :
    parseSpends env sigOk t L cc = .ok (b, st) ↔
      ∃ ps, parseBundle env.flags t = some ps ∧ BundleAccepts env sigOk L cc ps ∧ (b, st) = bundleSummary env cc ps := by
  cases t with
  | atom x => exact ⟨fun h => (nomatch h), fun ⟨_, hpb, _⟩ => (nomatch hpb)⟩
  | pair iter ext =>
    rw [parseSpends_ok_iff]
    constructor
    · rintro ⟨_, ret, left, b', ⟨rfl⟩, hl, hb, rfl⟩
      obtain ⟨ps, hps, hlen, hK, rfl, hacc, hfold⟩ := (spendLoop_rules env cc ext iter {} {} _ L ret st left).mp hl
      obtain ⟨a1, a2, a3⟩ := (acceptFrom_empty env ps).mp hacc
      obtain ⟨v1, v2, rfl⟩ := finishBundle_ok_iff.mp hb
      have hret : (bundleFold env cc ps).1 = ret := congrArg Prod.fst hfold.symm
      have hst : (bundleFold env cc ps).2 = st := congrArg Prod.snd hfold.symm
      refine ⟨ps, hps, ⟨hlen, a1, hK, a2, a3, by rw [hret, hst]; exact (Rules.validateConditions_iff _ _).mp v1,
        by rw [hst]; exact v2⟩, ?_⟩
      rw [bundleSummary, hret, hst, show L - (L - bundleCost env.flags ps) = bundleCost env.flags ps by omega]
    · rintro ⟨ps, hpb, ⟨hlen, hnd, hK, hsa, hfee, hv, hsig⟩, hr⟩
      have hl : spendLoop env cc iter {} {} (spendLimit env.flags) L =
          .ok (((bundleFold env cc ps).1, (bundleFold env cc ps).2), L - bundleCost env.flags ps) :=
        (spendLoop_rules env cc ext iter {} {} _ L _ _ _).mpr
          ⟨ps, hpb, hlen, hK, rfl, (acceptFrom_empty env ps).mpr ⟨hnd, hsa, hfee⟩, rfl⟩
      injection hr with hb hst
      subst hst
      exact ⟨iter, _, _, _, rfl, hl, finishBundle_ok_iff.mpr ⟨(Rules.validateConditions_iff _ _).mpr hv, hsig, rfl⟩, by
        rw [hb, show L - (L - bundleCost env.flags ps) = bundleCost env.flags ps by omega]⟩

/-- **C01, rejection.**  `parse_spends` rejects (with either error kind) exactly when the generator
output does not parse or the parsed spends violate the bundle rules. -/
theorem C01_rejects (env : Env) (sigOk : List (Bytes × Bytes) → Bool) (t : Sexp) (L cc : Nat) :
    (∃ e, parseSpends env sigOk t L cc = .error e) ↔
      ¬ ∃ ps, parseBundle env.flags t = some ps ∧ BundleAccepts env sigOk L cc ps :=
  error_iff_not (fun r h => let ⟨ps, h1, h2, _⟩ := (C01_refines env sigOk t L cc r.1 r.2).mp h; ⟨ps, h1, h2⟩)
    (fun ⟨ps, h1, h2⟩ => ⟨_, (C01_refines env sigOk t L cc _ _).mpr ⟨ps, h1, h2, rfl⟩⟩)

/-- the summary of an accepted bundle is a function of the parsed spends: two accepting runs on the same
tree under the same flags report the same summary whatever the limit and the signature verdict -/
theorem C01_summary_unique (env : Env) (sigOk sigOk' : List (Bytes × Bytes) → Bool) (t : Sexp) (L L' cc : Nat)
    (r r' : Bundle × PState) (h : parseSpends env sigOk t L cc = .ok r) (h' : parseSpends env sigOk' t L' cc = .ok r') :
    r = r' := by
  obtain ⟨b, st⟩ := r
  obtain ⟨b', st'⟩ := r'
  obtain ⟨ps, h1, _, h3⟩ := (C01_refines env sigOk t L cc b st).mp h
  obtain ⟨ps', h1', _, h3'⟩ := (C01_refines env sigOk' t L' cc b' st').mp h'
  rw [h1] at h1'; injection h1' with h1'; subst h1'
  rw [h3, h3']

/-! non-vacuity of `BundleAccepts`: a two-spend bundle is accepted; one-edit variants are not -/

/-- the cost limit enters the bundle rules through one clause only -/
theorem bundleAccepts_mono {env : Env} {sigOk : List (Bytes × Bytes) → Bool} {L L' cc : Nat} {ps : List PSpend}
    (h : BundleAccepts env sigOk L cc ps) (hL : L ≤ L') : BundleAccepts env sigOk L' cc ps :=
  ⟨h.1, h.2.1, Nat.le_trans h.2.2.1 hL, h.2.2.2⟩

/-- `exBundle` at its table cost, and its first coin spent twice, evaluated together: the coin id is hashed once -/
theorem exBundle_runs : okB (parseSpends envB (fun _ => true) exBundle 1800000 0) = true ∧
    okB (parseSpends envB (fun _ => true) (.pair (slist [spnd 1 [10] [], spnd 1 [10] []]) (.atom [])) 11000000000 0) = false := by
  decide +kernel

/-- the model accepts `exBundle` at its exact table cost -/
theorem exBundle_accepts : ∃ ps, parseBundle envB.flags exBundle = some ps ∧ BundleAccepts envB (fun _ => true) 1800000 0 ps := by
  obtain ⟨⟨b, st⟩, h⟩ := okB_true exBundle_runs.1
  obtain ⟨ps, h1, h2, _⟩ := (C01_refines _ _ _ _ _ b st).mp h
  exact ⟨ps, h1, h2⟩

example : ∃ ps, parseBundle envB.flags exBundle = some ps ∧ BundleAccepts envB (fun _ => true) 11000000000 0 ps := by
  obtain ⟨ps, h1, h2⟩ := exBundle_accepts
  exact ⟨ps, h1, bundleAccepts_mono h2 (by decide)⟩
-- the table cost of that bundle is 1 800 000 (one CREATE_COIN; COST_CONDITIONS off): the limit is exact
example : ¬ ∃ ps, parseBundle envB.flags exBundle = some ps ∧ BundleAccepts envB (fun _ => true) 1799999 0 ps :=
  (C01_rejects _ _ _ _ _).mp (okB_false (by decide +kernel))
example : ∃ ps, parseBundle envB.flags exBundle = some ps ∧ BundleAccepts envB (fun _ => true) 1800000 0 ps :=
  exBundle_accepts
-- the same coin spent twice
example : ¬ ∃ ps, parseBundle envB.flags (.pair (slist [spnd 1 [10] [], spnd 1 [10] []]) (.atom [])) = some ps ∧
    BundleAccepts envB (fun _ => true) 11000000000 0 ps :=
  (C01_rejects _ _ _ _ _).mp (okB_false exBundle_runs.2)
-- minting: a coin of 10 creating a coin of 11
example : ¬ ∃ ps, parseBundle envB.flags (.pair (slist [spnd 1 [10] [cnd 51 [h32 7, [11]]]]) (.atom [])) = some ps ∧
    BundleAccepts envB (fun _ => true) 11000000000 0 ps :=
  (C01_rejects _ _ _ _ _).mp (okB_false (by decide +kernel))
-- a failing aggregate signature
example : ¬ ∃ ps, parseBundle envB.flags exBundle = some ps ∧ BundleAccepts envB (fun _ => false) 11000000000 0 ps :=
  fun ⟨_, _, h⟩ => Bool.noConfusion (h.2.2.2.2.2.2 rfl)
-- an improper spend list (terminator is not NIL)
example : ¬ ∃ ps, parseBundle envB.flags (.pair (.pair (spnd 1 [10] []) (.atom [1])) (.atom [])) = some ps ∧
    BundleAccepts envB (fun _ => true) 11000000000 0 ps :=
  (C01_rejects _ _ _ _ _).mp (okB_false (by decide +kernel))

/-- **Closed form of ELIGIBLE_FOR_DEDUP.**  Under the mempool visitor, the spend record that the summary
fold pushes for a spend `p` (`enterSpend`; `postProcess` never touches this flag) has ELIGIBLE_FOR_DEDUP set
iff the spend has no AGG_SIG condition of any kind, no SEND_MESSAGE / RECEIVE_MESSAGE, and its created
amounts sum to at least the coin amount. -/
theorem dedup_flag_closed_form (env : Env) (cc : Nat) (acc : Bundle × PState) (p : PSpend) (sp : Spend)
    (hm : env.mempool = true) (hl : (enterSpend env cc acc p).1.spends.getLast? = some sp) :
    (sp.flags &&& ELIGIBLE_FOR_DEDUP ≠ 0 ↔
      (∀ c ∈ itemConds p.items, (∀ op pk msg, c ≠ .aggSig op pk msg) ∧ (∀ m d g, c ≠ .sendMessage m d g) ∧
        (∀ src m g, c ≠ .receiveMessage src m g)) ∧
      p.attrs.amount ≤ additions (itemConds p.items)) :=
  Rules.dedup_flag_closed_form env cc acc p sp hm hl

/-- **Closed form of ELIGIBLE_FOR_FF, per-spend part.**  Under the mempool visitor, the spend record that
the summary fold pushes for a spend `p` has ELIGIBLE_FOR_FF set iff the coin amount is odd, no recognised
condition blocks fast-forward at its position (`blocksFF`: ASSERT_MY_COIN_ID, relative locks with an
in-range value, birth assertions, ASSERT_EPHEMERAL, CREATE_COIN_ANNOUNCEMENT, AGG_SIG_ME / PARENT /
PARENT_AMOUNT / PARENT_PUZZLE, a message whose own-side mode has the parent bit, and ASSERT_MY_PARENT_ID
anywhere but as the second recognised condition), and some created coin has the spend's own puzzle hash and
amount.  Afterwards `postProcess` clears the flag of a spend whose coin id is named by an
ASSERT_CONCURRENT_SPEND of the bundle or one of whose created coins is spent in the bundle (that part is
the model's definition, which is already a closed form). -/
theorem ff_flag_closed_form (env : Env) (cc : Nat) (acc : Bundle × PState) (p : PSpend) (sp : Spend)
    (hm : env.mempool = true) (hl : (enterSpend env cc acc p).1.spends.getLast? = some sp) :
    (sp.flags &&& ELIGIBLE_FOR_FF ≠ 0 ↔
      p.attrs.amount % 2 = 1 ∧
      (∀ i c, (itemConds p.items)[i]? = some c → blocksFF i c = false) ∧
      (p.attrs.puzzleHash, p.attrs.amount) ∈ createKeys (itemConds p.items)) :=
  Rules.ff_flag_closed_form env cc acc p sp hm hl

/-- under the empty visitor (block validation) the eligibility flags are never set: the only bit ever set
in `Spend.flags` is HAS_RELATIVE_CONDITION -/
theorem flags_empty_visitor (env : Env) (cc : Nat) (acc : Bundle × PState) (p : PSpend) (sp : Spend)
    (hm : env.mempool = false) (hl : (enterSpend env cc acc p).1.spends.getLast? = some sp) :
    sp.flags = (bif anyNotEphemeral (itemConds p.items) then HAS_RELATIVE_CONDITION else 0) :=
  Rules.flags_empty_visitor env cc acc p sp hm hl

/-- **`msgKey_injective`.**  A message is counted under the key (source key ‖ destination key ‖ message).
Each end-point key has the form `KeyForm`: a mode byte followed by exactly the fixed-width fields the mode
selects (coin id for mode 7; otherwise parent id 32, puzzle hash 32, amount 8 bytes, each iff its mode bit is
set).  For keys of that form the concatenation determines source, destination and message, so "every key
is sent exactly as often as it is received" (`Deferred`, last clause) is about the right objects. -/
theorem msgKey_injective {src dst msg src' dst' msg' : Bytes} (h1 : KeyForm src) (h2 : KeyForm dst)
    (h1' : KeyForm src') (h2' : KeyForm dst') (h : src ++ dst ++ msg = src' ++ dst' ++ msg') :
    src = src' ∧ dst = dst' ∧ msg = msg' := by
  rw [List.append_assoc, List.append_assoc] at h
  obtain ⟨e1, h⟩ := keyForm_append_inj h1 h1' h
  obtain ⟨e2, e3⟩ := keyForm_append_inj h2 h2' h
  exact ⟨e1, e2, e3⟩

/-- every end-point key that enters a message key has the form `KeyForm`: the key of the spend's own end
(`selfKey`, for a spend whose parent id, puzzle hash and coin id have 32 bytes — which `spendTuple`
guarantees, the coin id being a SHA-256 digest), and the foreign end that `parse_args` returns for a
SEND_MESSAGE resp. RECEIVE_MESSAGE condition -/
theorem message_keys_wellformed :
    (∀ (mode : Nat) (a : Attrs), a.parentId.length = 32 → a.puzzleHash.length = 32 → a.coinId.length = 32 →
      KeyForm (selfKey mode a)) ∧
    (∀ (sp conds : Sexp) (a : Attrs), spendTuple sp = some (a, conds) →
      a.parentId.length = 32 ∧ a.puzzleHash.length = 32 ∧ a.coinId.length = 32) ∧
    (∀ (c : Sexp) (flags : Nat) (cva : Cond), parseArgs c Gen.opSendMessage flags = .ok cva →
      ∃ srcMode dst msg, cva = .sendMessage srcMode dst msg ∧ KeyForm dst) ∧
    (∀ (c : Sexp) (flags : Nat) (cva : Cond), parseArgs c Gen.opReceiveMessage flags = .ok cva →
      ∃ src dstMode msg, cva = .receiveMessage src dstMode msg ∧ KeyForm src) := by
  refine ⟨fun mode a h1 h2 h3 => keyForm_fromSelf mode _ _ _ _ h1 h2 h3, ?_,
    fun c flags cva h => parseArgs_send_keyForm h, fun c flags cva h => parseArgs_receive_keyForm h⟩
  intro sp conds a h
  obtain ⟨parent, ph, amt, r, v, _, l1, l2, _, rfl⟩ := spendTuple_some h
  exact ⟨l1, l2, sha256_length _⟩

-- non-vacuity: a mode-5 key (parent id and amount) has the form; mode byte 5 followed by two bytes has not
example : KeyForm (spendIdFromSelf 5 (h32 1) (h32 2) 10 (h32 3)) := keyForm_fromSelf 5 _ _ _ _ rfl rfl rfl
example : ¬ KeyForm [5, 1, 2] := by
  rintro ⟨mode, rest, h, hl⟩
  injection h with h1 h2; subst h1
  simp [keyLen] at hl

/-- what `message_opcode_inversion` states, the converse reading of `message_keys_wellformed`: a parsed condition
is a SEND_MESSAGE / RECEIVE_MESSAGE condition only if its opcode is 66 / 67 -/
def open_message_opcode_inversion : Prop :=
  ∀ (c : Sexp) (op flags : Nat) (cva : Cond), parseArgs c op flags = .ok cva →
    ((∃ m d g, cva = .sendMessage m d g) → op = Gen.opSendMessage) ∧
    ((∃ src m g, cva = .receiveMessage src m g) → op = Gen.opReceiveMessage)

end ChiaModel.C01

namespace ChiaModel.C01
open ChiaModel ChiaModel.Cond ChiaModel.Rules ChiaModel.Grammar

/-- **The argument parser is the rule table.**  For every tree `c`, every opcode number `op` (recognised
or not) and every flag set, the model's `parseArgs` (the mirror of `parse_args`) returns exactly what the
table-driven specification `specParseArgs` of `Spec/ArgGrammar.lean` prescribes: the data table `grammar`
(required argument kinds in order + tail rule per opcode), one decoding function per argument kind
(`argValue`: exact lengths for hashes and keys, ≤ 1024 bytes for messages, the integer classes
canon / neg / over / bad with a per-kind policy for neg and over, the message mode 0 … 63), the tail rules
(`tailRule`: exact, ignored, the CREATE_COIN memo / hint rule, the mode-selected end-point fields of
SEND / RECEIVE_MESSAGE), the strict-terminator rule stated once (`terminatorOk`), NO_UNKNOWN_CONDS for the
soft-fork class, and the table of constructors (`build`). -/
theorem parseArgs_table (c : Sexp) (op flags : Nat) : parseArgs c op flags = specParseArgs c op flags :=
  parseArgs_eq_spec c op flags

/-- the element-wise parse of a condition list and the parse of a generator output over the table-driven
grammar are the ones the refinement theorem `C01_refines` uses -/
theorem parse_table (flags : Nat) :
    (∀ cs, parseAll flags cs = specParseAll flags cs) ∧ (∀ t, parseBundle flags t = specParseBundle flags t) :=
  ⟨parseAll_eq_spec flags, parseBundle_eq_spec flags⟩

/-- **C01, refinement, over the table-driven argument grammar.**  The statement of `C01_refines` with the
parse of the generator output written with the rule table: `specParseBundle` = list termination and tuple
shape as before, every condition `(opcode . args)` recognised by `parseOpcode` (`parseOpcode_spec`) and its
arguments parsed by `specParseArgs`.  In this form the specification takes from the model only (b) the mempool
eligibility flags (closed forms proved above) and (c) the cost table in list form (C04); the argument grammar — item
(a) of `C01_refines` — is the independent table. -/
theorem C01_refines_grammar (env : Env) (sigOk : List (Bytes × Bytes) → Bool) (t : Sexp) (L cc : Nat) (b : Bundle) (st : PState) :
    parseSpends env sigOk t L cc = .ok (b, st) ↔
      ∃ ps, specParseBundle env.flags t = some ps ∧ BundleAccepts env sigOk L cc ps ∧ (b, st) = bundleSummary env cc ps := by
  rw [← parseBundle_eq_spec]
  exact C01_refines env sigOk t L cc b st

/-- **C01, rejection, over the table-driven argument grammar.** -/
theorem C01_rejects_grammar (env : Env) (sigOk : List (Bytes × Bytes) → Bool) (t : Sexp) (L cc : Nat) :
    (∃ e, parseSpends env sigOk t L cc = .error e) ↔
      ¬ ∃ ps, specParseBundle env.flags t = some ps ∧ BundleAccepts env sigOk L cc ps := by
  rw [← parseBundle_eq_spec]
  exact C01_rejects env sigOk t L cc

/-- the per-spend form: the condition loop over the table-driven grammar (`condLoop_refines` with
`specParseAll`) -/
theorem condLoop_refines_grammar (env : Env) (t : Sexp) (s : CSt) (hs : FreshSpend s.spend) (hfee : s.ret.reserveFee < 2 ^ 64)
    (m : Nat) (s' : CSt) (m' : Nat) :
    condLoop env t s m = .ok (s', m') ↔
      ∃ cs items, sexpList t = some cs ∧ specParseAll env.flags cs = .ok items ∧
        totalCost env.flags items ≤ m ∧ m' = m - totalCost env.flags items ∧
        SpendAccepts env (Rules.attrsOf s.spend) s.ret.reserveFee s.countdown (itemConds items) ∧
        s' = wrapF (allBits env.mempool s.counter items) (spendResult env s (itemConds items)) (totalCount items)
              (totalCost env.flags items) := by
  simp only [← parseAll_eq_spec]
  exact condLoop_refines env t s hs hfee m s' m'

/-- **Only opcodes 66 / 67 parse to message conditions**: by the table of constructors, the entry of no other
opcode builds a `sendMessage` resp. `receiveMessage`. -/
theorem message_opcode_inversion : open_message_opcode_inversion := by
  intro c op flags cva h
  rw [parseArgs_eq_spec] at h
  obtain ⟨vs, hb⟩ := specParseArgs_ok h
  constructor
  · rintro ⟨m, d, g, rfl⟩; exact build_inv hb
  · rintro ⟨src, m, g, rfl⟩; exact build_inv hb

/-- hence every message condition that any opcode parses to carries a well-formed end-point key -/
theorem message_keys_wellformed_all (c : Sexp) (op flags : Nat) (cva : Cond) (h : parseArgs c op flags = .ok cva) :
    (∀ m d g, cva = .sendMessage m d g → KeyForm d) ∧ (∀ src m g, cva = .receiveMessage src m g → KeyForm src) := by
  obtain ⟨h1, h2⟩ := message_opcode_inversion c op flags cva h
  constructor
  · intro m d g e
    have hop := h1 ⟨m, d, g, e⟩
    subst hop
    obtain ⟨m', d', g', e', hk⟩ := message_keys_wellformed.2.2.1 c flags cva h
    rw [e] at e'; injection e' with _ e2 _; subst e2; exact hk
  · intro src m g e
    have hop := h2 ⟨src, m, g, e⟩
    subst hop
    obtain ⟨s', m', g', e', hk⟩ := message_keys_wellformed.2.2.2 c flags cva h
    rw [e] at e'; injection e' with e1 _ _; subst e1; exact hk

/-- only opcode 51 parses to a CREATE_COIN condition (same finite check) -/
theorem createCoin_opcode_inversion (c : Sexp) (op flags : Nat) (ph : Bytes) (a : Nat) (hint : Option Bytes)
    (h : parseArgs c op flags = .ok (.createCoin ph a hint)) : op = Gen.opCreateCoin := by
  rw [parseArgs_eq_spec] at h
  obtain ⟨vs, hb⟩ := specParseArgs_ok h
  exact build_inv hb

/-- **Integer arguments, value level** (atoms that are byte strings, widths up to 8 bytes): an atom is in
class `canon v` iff it is THE canonical CLVM encoding `canonNat v` of a value `v < 256^w` (so zero is the empty
atom only, nothing is truncated, and a redundant leading zero is never accepted); `neg` iff its two's-complement
value is negative; `over` iff it is non-negative and canonical with value ≥ 256^w; `bad` iff it is non-negative
with a redundant leading zero byte.  The four classes are the four results of `sanitize_uint`. -/
theorem int_classes_spec (w : Nat) (hw : w ≤ 8) (b : Bytes) (hb : isBytes b) :
    (∀ v, intClass w b = .canon v ↔ b = canonNat v ∧ v < 256 ^ w) ∧
    (intClass w b = .neg ↔ intOfBytes b < 0) ∧
    (intClass w b = .over ↔ 0 ≤ intOfBytes b ∧ Minimal b ∧ 256 ^ w ≤ beVal b) ∧
    (intClass w b = .bad ↔ 0 ≤ intOfBytes b ∧ ¬ Minimal b) ∧
    sanitizeUint b w = classToSan (intClass w b) := by
  have hneg : headGe128 b = false ↔ 0 ≤ intOfBytes b := by
    have := headGe128_iff_negative b hb
    cases hh : headGe128 b <;> simp [hh] at this ⊢ <;> omega
  refine ⟨fun v => ⟨fun h => intClass_canon_canonNat w hw b hb v h, ?_⟩, ?_, ?_, ?_, sanitizeUint_eq_class b w⟩
  · rintro ⟨rfl, hv⟩; exact intClass_canonNat w hw v hv
  · rw [intClass_neg_iff, headGe128_iff_negative b hb]
  · rw [intClass_over_iff w b hb, hneg]
  · rw [intClass_bad_iff, hneg]

/-- **The opcodes with a grammar entry are exactly the recognised ones**: the one-byte whitelist extracted
from `parse_opcode` (each exactly once, in the table's order) and every two-byte number 256 … 65535; no
other number has an entry. -/
theorem grammar_domain :
    oneByteTable.map Prod.fst = Gen.opcodeWhitelist ∧
    (List.range 256).filter (fun op => (grammar op).isSome) = Gen.opcodeWhitelist ∧
    (∀ op, (grammar op).isSome = true ↔ op ∈ Gen.opcodeWhitelist ∨ (256 ≤ op ∧ op ≤ 65535)) := by
  have h3 : ∀ op, (grammar op).isSome = true ↔ op ∈ Gen.opcodeWhitelist ∨ (256 ≤ op ∧ op ≤ 65535) := fun op => by
    by_cases hr : 256 ≤ op ∧ op ≤ 65535
    · simp [grammar, hr]
    · rw [grammar, if_neg hr, lookup_isSome, table_keys]
      simp [hr]
  -- both lists are increasing, so it is enough that they have the same elements
  have hW : Gen.opcodeWhitelist.Pairwise (· < ·) := by decide +kernel
  have hb : ∀ op ∈ Gen.opcodeWhitelist, op < 256 := by decide +kernel
  refine ⟨table_keys, ?_, h3⟩
  refine List.Perm.eq_of_pairwise (le := (· < ·)) (fun a b _ _ h h' => absurd h (Nat.lt_asymm h'))
    (List.pairwise_lt_range.filter _) hW ?_
  refine (List.perm_ext_iff_of_nodup (List.nodup_range.filter _) (hW.imp Nat.ne_of_lt)).mpr fun op => ?_
  rw [List.mem_filter, List.mem_range, h3]
  constructor
  · rintro ⟨h, hw | hr⟩
    · exact hw
    · omega
  · exact fun hw => ⟨hb op hw, Or.inl hw⟩

/-- every AGG_SIG_* opcode takes (public key of 48 bytes, message of ≤ 1024 bytes) and nothing else -/
theorem aggSig_grammar :
    ∀ op ∈ [Gen.opAggSigParent, Gen.opAggSigPuzzle, Gen.opAggSigAmount, Gen.opAggSigPuzzleAmount,
            Gen.opAggSigParentAmount, Gen.opAggSigParentPuzzle, Gen.opAggSigUnsafe, Gen.opAggSigMe],
      grammar op = some ([.pubkey48, .announceMsg], .exact) := by decide +kernel

/-- the opcodes grouped by their grammar (each list is the complete set of one-byte opcodes with that entry) -/
theorem grammar_groups :
    Gen.opcodeWhitelist.filter (fun op => grammar op == some ([.pubkey48, .announceMsg], .exact)) = [43, 44, 45, 46, 47, 48, 49, 50] ∧
    Gen.opcodeWhitelist.filter (fun op => grammar op == some ([.hash32], .exact)) = [61, 63, 64, 65, 70, 71, 72] ∧
    Gen.opcodeWhitelist.filter (fun op => grammar op == some ([.announceMsg], .exact)) = [60, 62] ∧
    Gen.opcodeWhitelist.filter (fun op => grammar op == some ([amountU64], .exact)) = [52, 73, 74] ∧
    Gen.opcodeWhitelist.filter (fun op => grammar op == some ([.int 4 .reject .reject], .exact)) = [75] ∧
    Gen.opcodeWhitelist.filter (fun op => grammar op == some ([afterSecondsU64], .exact)) = [80, 81] ∧
    Gen.opcodeWhitelist.filter (fun op => grammar op == some ([afterHeightU32], .exact)) = [82, 83] ∧
    Gen.opcodeWhitelist.filter (fun op => grammar op == some ([beforeSecondsU64], .exact)) = [84, 85] ∧
    Gen.opcodeWhitelist.filter (fun op => grammar op == some ([beforeHeightU32], .exact)) = [86, 87] ∧
    grammar Gen.opCreateCoin = some ([.hash32, amountU64], .memos) ∧
    grammar Gen.opSendMessage = some ([.messageMode, .announceMsg], .endpoint .low) ∧
    grammar Gen.opReceiveMessage = some ([.messageMode, .announceMsg], .endpoint .high) ∧
    grammar Gen.opAssertEphemeral = some ([], .exact) ∧
    grammar Gen.opRemark = some ([], .ignored) ∧
    grammar Gen.opSoftfork = some ([costU32], .ignored) := by decide +kernel

/-- STRICT_ARGS_COUNT constrains every one-byte opcode except REMARK and SOFTFORK; NO_UNKNOWN_CONDS rejects,
of the one-byte opcodes, SOFTFORK only -/
theorem flag_exemptions :
    Gen.opcodeWhitelist.filter (fun op => (grammar op).map (·.2) == some Tail.ignored) = [Gen.opRemark, Gen.opSoftfork] ∧
    Gen.opcodeWhitelist.filter unknownClass = [Gen.opSoftfork] := by decide +kernel

/-- the end-point field table is the bit rule of `SpendId::parse`: selector 7 is the coin id; otherwise parent id
if bit 4, puzzle hash if bit 2, amount if bit 1, in that order -/
theorem endpointFields_bits :
    ∀ m, m < 8 → endpointFields.getD m [] =
      if m = 7 then [.hash32]
      else (if m / 4 % 2 = 1 then [.hash32] else []) ++ (if m / 2 % 2 = 1 then [.hash32] else []) ++
           (if m % 2 = 1 then [amountU64] else []) := endpointFields_getD

/-- every opcode with a grammar entry yields a condition for well-kinded values: for each one-byte opcode the
table of constructors accepts the value shapes its grammar produces (so `build` never rejects an argument list
that the grammar accepted; checked on representative values, the shapes being all that `build` inspects) -/
theorem build_total :
    ∀ op ∈ Gen.opcodeWhitelist, ∀ kt, grammar op = some kt →
      (build op (kt.1.map (fun k => match k with
          | .int _ _ _ => Val.int 0 | .messageMode => Val.int 0 | _ => Val.bytes []) ++
        (match kt.2 with | .memos => [Val.hint none] | .endpoint _ => [Val.key []] | _ => []))).isSome = true := by
  decide +kernel

-- `tableVerdict op flags args terminator` (Lemmas/ArgGrammar.lean): the verdict of `specParseArgs` on the argument
-- list `args` ending in `terminator` (default NIL); `bytesN n x`: the atom of `n` bytes `x` (default 7);
-- `STRICT` = STRICT_ARGS_COUNT

-- hash32: exactly 32 bytes
example : tableVerdict 70 0 [bytesN 32] = some (.assertMyCoinId (List.replicate 32 7)) := by decide +kernel
example : tableVerdict 70 0 [bytesN 33] = none := by decide +kernel
example : tableVerdict 70 0 [bytesN 31] = none := by decide +kernel
example : tableVerdict 70 0 [bytesN 0] = none := by decide +kernel
example : tableVerdict 70 0 [.pair (bytesN 32) (.atom [])] = none := by decide +kernel      -- a pair is never an argument
example : tableVerdict 70 0 [] = none := by decide +kernel                                    -- missing argument
-- pubkey48 (length only) and announceMsg (≤ 1024, empty allowed)
example : (tableVerdict 50 0 [bytesN 48, bytesN 1024]).isSome = true := by decide +kernel
example : tableVerdict 50 0 [bytesN 48, bytesN 1025] = none := by decide +kernel
example : tableVerdict 50 0 [bytesN 48, bytesN 0] = some (.aggSig 50 (List.replicate 48 7) []) := by decide +kernel
example : tableVerdict 50 0 [bytesN 47, bytesN 3] = none := by decide +kernel
example : tableVerdict 50 0 [bytesN 0, bytesN 3] = none := by decide +kernel                 -- zero-length public key
example : tableVerdict 50 0 [bytesN 48] = none := by decide +kernel                          -- message missing
-- amounts: canonical u64; 2^64 − 1 needs a leading 00, 2^64 is over, 00 / 00 01 are bad, ff is negative
example : tableVerdict 52 0 [.atom []] = some (.reserveFee 0) := by decide +kernel
example : tableVerdict 52 0 [.atom [0, 255, 255, 255, 255, 255, 255, 255, 255]] = some (.reserveFee (2 ^ 64 - 1)) := by decide +kernel
example : tableVerdict 52 0 [.atom [1, 0, 0, 0, 0, 0, 0, 0, 0]] = none := by decide +kernel
example : tableVerdict 52 0 [.atom [0]] = none := by decide +kernel
example : tableVerdict 52 0 [.atom [0, 1]] = none := by decide +kernel
example : tableVerdict 52 0 [.atom [255]] = none := by decide +kernel
example : tableVerdict 73 0 [.atom [0, 128]] = some (.assertMyAmount 128) := by decide +kernel
-- heights are u32: 2^32 − 1 accepted, 2^32 is over
example : tableVerdict 75 0 [.atom [0, 255, 255, 255, 255]] = some (.assertMyBirthHeight (2 ^ 32 - 1)) := by decide +kernel
example : tableVerdict 75 0 [.atom [1, 0, 0, 0, 0]] = none := by decide +kernel
example : tableVerdict 75 0 [.atom [128]] = none := by decide +kernel
-- "after" locks: negative ⇒ vacuous (relative kinds keep the "not ephemeral" marker), too large ⇒ reject
example : tableVerdict 82 0 [.atom [255]] = some .skipRelativeCondition := by decide +kernel
example : tableVerdict 83 0 [.atom [255]] = some .skip := by decide +kernel
example : tableVerdict 80 0 [.atom [128, 0, 0]] = some .skipRelativeCondition := by decide +kernel
example : tableVerdict 81 0 [.atom [255, 255]] = some .skip := by decide +kernel             -- no canonicity test on negatives
example : tableVerdict 82 0 [.atom [1, 0, 0, 0, 0]] = none := by decide +kernel
example : tableVerdict 82 0 [.atom [0, 5]] = none := by decide +kernel                        -- redundant zero: always reject
example : tableVerdict 82 0 [.atom [5]] = some (.assertHeightRelative 5) := by decide +kernel
-- "before" locks: negative ⇒ reject, too large ⇒ vacuous
example : tableVerdict 86 0 [.atom [255]] = none := by decide +kernel
example : tableVerdict 87 0 [.atom [255]] = none := by decide +kernel
example : tableVerdict 86 0 [.atom [1, 0, 0, 0, 0]] = some .skipRelativeCondition := by decide +kernel
example : tableVerdict 87 0 [.atom [1, 0, 0, 0, 0]] = some .skip := by decide +kernel
example : tableVerdict 84 0 [.atom [1, 0, 0, 0, 0]] = some (.assertBeforeSecondsRelative (2 ^ 32)) := by decide +kernel
example : tableVerdict 85 0 [.atom [1, 0, 0, 0, 0, 0, 0, 0, 0]] = some .skip := by decide +kernel
-- extra argument / improper terminator: ignored without STRICT_ARGS_COUNT, rejected with it
example : tableVerdict 70 0 [bytesN 32, bytesN 1] = some (.assertMyCoinId (List.replicate 32 7)) := by decide +kernel
example : tableVerdict 70 STRICT [bytesN 32, bytesN 1] = none := by decide +kernel
example : tableVerdict 70 STRICT [bytesN 32] = some (.assertMyCoinId (List.replicate 32 7)) := by decide +kernel
example : tableVerdict 70 0 [bytesN 32] (.atom [1]) = some (.assertMyCoinId (List.replicate 32 7)) := by decide +kernel
example : tableVerdict 70 STRICT [bytesN 32] (.atom [1]) = none := by decide +kernel
example : (tableVerdict 49 0 [bytesN 48, bytesN 3, bytesN 1]).isSome = true := by decide +kernel
example : tableVerdict 49 STRICT [bytesN 48, bytesN 3, bytesN 1] = none := by decide +kernel
example : tableVerdict 76 0 [bytesN 1] = some .assertEphemeral := by decide +kernel
example : tableVerdict 76 STRICT [bytesN 1] = none := by decide +kernel
example : tableVerdict 76 STRICT [] = some .assertEphemeral := by decide +kernel
-- REMARK and SOFTFORK are exempt from the terminator rule; SOFTFORK and two-byte opcodes fall to NO_UNKNOWN_CONDS
example : tableVerdict 1 STRICT [bytesN 1, bytesN 2] (.atom [9]) = some .skip := by decide +kernel
example : tableVerdict 90 STRICT [.atom [3], bytesN 2] = some (.softfork 30000) := by decide +kernel
example : tableVerdict 90 0 [.atom [1, 0, 0, 0, 0]] = none := by decide +kernel
example : tableVerdict 90 Gen.flagNoUnknownConds [.atom [3]] = none := by decide +kernel
example : tableVerdict 0x0102 STRICT [bytesN 1] (.atom [9]) = some (.softfork 112) := by decide +kernel
example : tableVerdict 0x0102 Gen.flagNoUnknownConds [] = none := by decide +kernel
example : tableVerdict 2 0 [] = none := by decide +kernel                                     -- no entry
example : tableVerdict 65536 0 [] = none := by decide +kernel
-- CREATE_COIN: the memo / hint rule
example : tableVerdict 51 STRICT [bytesN 32, .atom [5]] = some (.createCoin (List.replicate 32 7) 5 none) := by decide +kernel
example : tableVerdict 51 STRICT [bytesN 32, .atom [5], .pair (bytesN 32 9) (.atom [])]
    = some (.createCoin (List.replicate 32 7) 5 (some (List.replicate 32 9))) := by decide +kernel
example : tableVerdict 51 STRICT [bytesN 32, .atom [5], .pair (bytesN 33 9) (.atom [])]
    = some (.createCoin (List.replicate 32 7) 5 none) := by decide +kernel                    -- 33 bytes: no hint, not an error
example : tableVerdict 51 STRICT [bytesN 32, .atom [5], .pair (bytesN 0) (.atom [])]
    = some (.createCoin (List.replicate 32 7) 5 none) := by decide +kernel                    -- empty first memo: no hint
example : tableVerdict 51 STRICT [bytesN 32, .atom [5], .pair (.pair (bytesN 1) (.atom [])) (.atom [])]
    = some (.createCoin (List.replicate 32 7) 5 none) := by decide +kernel                    -- a pair as first memo: no hint
example : tableVerdict 51 STRICT [bytesN 32, .atom [5], bytesN 32 9]
    = some (.createCoin (List.replicate 32 7) 5 none) := by decide +kernel                    -- memos not a list: no hint
example : tableVerdict 51 STRICT [bytesN 32, .atom [5], .pair (bytesN 1 9) (bytesN 4)]
    = some (.createCoin (List.replicate 32 7) 5 (some [9])) := by decide +kernel              -- only the first memo is looked at
example : tableVerdict 51 0 [bytesN 32, .atom [5], .pair (bytesN 32 9) (.atom []), bytesN 1]
    = some (.createCoin (List.replicate 32 7) 5 (some (List.replicate 32 9))) := by decide +kernel
example : tableVerdict 51 STRICT [bytesN 32, .atom [5], .pair (bytesN 32 9) (.atom []), bytesN 1] = none := by decide +kernel
example : tableVerdict 51 0 [bytesN 32, .atom [5]] (.atom [1]) = some (.createCoin (List.replicate 32 7) 5 none) := by decide +kernel
example : tableVerdict 51 STRICT [bytesN 32, .atom [5]] (.atom [1]) = none := by decide +kernel
example : tableVerdict 51 0 [bytesN 32, .atom [1, 0, 0, 0, 0, 0, 0, 0, 0]] = none := by decide +kernel
example : tableVerdict 51 0 [bytesN 32, .atom [255]] = none := by decide +kernel
example : tableVerdict 51 0 [bytesN 33, .atom [5]] = none := by decide +kernel
-- SEND / RECEIVE_MESSAGE: the mode and the end-point fields
example : tableVerdict 66 STRICT [.atom [], bytesN 3] = some (.sendMessage 0 [0] [7, 7, 7]) := by decide +kernel
example : tableVerdict 66 0 [.atom [0], bytesN 3] = none := by decide +kernel                 -- 00 is not the canonical zero
example : tableVerdict 66 0 [.atom [0x40], bytesN 3] = none := by decide +kernel              -- a bit above 0x3f
example : tableVerdict 66 0 [.atom [0x80], bytesN 3] = none := by decide +kernel
example : tableVerdict 66 0 [.atom [0, 0x3f], bytesN 3] = none := by decide +kernel
example : tableVerdict 66 STRICT [.atom [0x3f], bytesN 3, bytesN 32 1]
    = some (.sendMessage 7 (7 :: List.replicate 32 1) [7, 7, 7]) := by decide +kernel         -- 7 = coin id: ONE field
example : tableVerdict 67 STRICT [.atom [0x3f], bytesN 3, bytesN 32 1]
    = some (.receiveMessage (7 :: List.replicate 32 1) 7 [7, 7, 7]) := by decide +kernel
example : tableVerdict 66 STRICT [.atom [0x15], bytesN 3, bytesN 32 1, .atom [5]]
    = some (.sendMessage 2 (5 :: (List.replicate 32 1 ++ [0, 0, 0, 0, 0, 0, 0, 5])) [7, 7, 7]) := by decide +kernel   -- dst = parent + amount
example : tableVerdict 67 STRICT [.atom [0x15], bytesN 3, bytesN 32 1]
    = some (.receiveMessage (2 :: List.replicate 32 1) 5 [7, 7, 7]) := by decide +kernel      -- src = puzzle hash
example : tableVerdict 67 STRICT [.atom [0x15], bytesN 3, bytesN 32 1, .atom [5]] = none := by decide +kernel
example : tableVerdict 66 0 [.atom [0x01], bytesN 3, .atom [1, 0, 0, 0, 0, 0, 0, 0, 0]] = none := by decide +kernel   -- amount field 2^64
example : tableVerdict 66 0 [.atom [0x04], bytesN 3, bytesN 31] = none := by decide +kernel
example : tableVerdict 66 0 [.atom [0x04], bytesN 3] = none := by decide +kernel              -- field missing
example : (tableVerdict 66 0 [.atom [0x04], bytesN 1025, bytesN 32]) = none := by decide +kernel
-- and the model's parser agrees (instances of `parseArgs_table`)
example : parseArgs (.pair (bytesN 32) (.pair (.atom [5]) (.pair (.pair (bytesN 33 9) (.atom [])) (.atom [])))) 51 STRICT
    = .ok (.createCoin (List.replicate 32 7) 5 none) := by rw [parseArgs_table]; rfl

end ChiaModel.C01
