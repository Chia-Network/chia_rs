import ChiaModel.Lemmas.BundleInv
import ChiaModel.Lemmas.NativeInv
/-
C02 — accepted bundles conserve value and never duplicate coins (model of `parse_spends`).
-/
namespace ChiaModel.C02
open ChiaModel ChiaModel.Cond

theorem parseSpends_ok {env : Env} {sigOk : List (Bytes × Bytes) → Bool} {t : Sexp} {L cc : Nat} {b : Bundle} {st : PState}
    (h : parseSpends env sigOk t L cc = .ok (b, st)) :
    ∃ iter ret left, first t = .ok iter ∧ spendLoop env cc iter {} {} (spendLimit env.flags) L = .ok ((ret, st), left)
      ∧ validateConditions (postProcess env ret st) st = .ok ()
      ∧ b = { postProcess env ret st with validatedSignature := !hasFlag env.flags Gen.flagDontValidateSignature, cost := L - left } := by
  obtain ⟨iter, ret, left, ret', hi, hl, hb, rfl⟩ := parseSpends_ok_iff.mp h
  obtain ⟨hv, _, rfl⟩ := finishBundle_ok_iff.mp hb
  exact ⟨iter, ret, left, hi, hl, hv, rfl⟩

theorem validate_conservation {ret : Bundle} {st : PState} (h : validateConditions ret st = .ok ()) :
    ret.additionAmount + ret.reserveFee ≤ ret.removalAmount := by
  unfold validateConditions at h
  split at h
  · rename_i hv
    simp only [validOk, Bool.and_eq_true, Bool.not_eq_true', decide_eq_false_iff_not] at hv
    omega
  · cases h

/-- **Conservation.**  Created amounts plus the reserved fee never exceed the spent amounts. -/
theorem conservation (env : Env) (sigOk : List (Bytes × Bytes) → Bool) (t : Sexp) (L cc : Nat) (b : Bundle) (st : PState)
    (h : parseSpends env sigOk t L cc = .ok (b, st)) : b.additionAmount + b.reserveFee ≤ b.removalAmount := by
  obtain ⟨iter, ret, left, _, _, hv, rfl⟩ := parseSpends_ok h
  exact validate_conservation hv

/-- what every accepted bundle satisfies, as one predicate on the reported bundle: conservation and the
conclusions of `accepted_invariants` -/
def Invariants (b : Bundle) : Prop :=
  b.additionAmount + b.reserveFee ≤ b.removalAmount ∧
  b.removalAmount = (b.spends.map (·.coinAmount)).sum ∧
  b.additionAmount = (b.spends.map (fun sp => (sp.createCoin.map (·.amount)).sum)).sum ∧
  b.conditionCost = (b.spends.map (·.conditionCost)).sum ∧
  (b.spends.map (·.coinId)).Nodup ∧
  (∀ sp ∈ b.spends, (sp.createCoin.map (fun c => (c.ph, c.amount))).Nodup) ∧
  (∀ sp ∈ b.spends, sp.coinId = sha256 (sp.parentId ++ sp.puzzleHash ++ canonNat sp.coinAmount) ∧ sp.coinAmount < 2^64)

/-- the loop invariant plus the final validation give `Invariants` for the post-processed bundle, hence for
every record that agrees with it on spends and totals -/
theorem invariants_of_BInv {env : Env} {ret : Bundle} {st : PState} (hinv : BInv ret st)
    (hv : validateConditions (postProcess env ret st) st = .ok ()) : Invariants (postProcess env ret st) := by
  obtain ⟨b1, b2, b3, b4, b5, b6, b7⟩ := hinv
  refine ⟨validate_conservation hv, ?_⟩
  -- `post_process` rewrites the flags of the records and nothing else (`postProcess_eq`, `ppSpend`)
  rw [Rules.postProcess_eq]
  simp only [List.map_map, List.forall_mem_map]
  exact ⟨b1, b2, b6, b3 ▸ b4, b5, fun sp h => ⟨(b7 sp h).1, (b7 sp h).2.1⟩⟩

/-- **Totals, distinct coins, distinct outputs, coin ids.**  For every accepted tree whose atoms are
byte strings: the reported removal and addition amounts are the sums over the listed spends and their
created coins; the per-spend condition costs add up to the bundle's; no coin id occurs twice; no spend
creates two coins with the same (puzzle hash, amount); every coin id is SHA-256 of parent id, puzzle
hash and the canonical (minimal big-endian) amount. -/
theorem accepted_invariants (env : Env) (sigOk : List (Bytes × Bytes) → Bool) (t : Sexp) (L cc : Nat) (b : Bundle) (st : PState)
    (hab : t.AllBytes) (h : parseSpends env sigOk t L cc = .ok (b, st)) :
    b.removalAmount = (b.spends.map (·.coinAmount)).sum ∧
    b.additionAmount = (b.spends.map (fun sp => (sp.createCoin.map (·.amount)).sum)).sum ∧
    b.conditionCost = (b.spends.map (·.conditionCost)).sum ∧
    (b.spends.map (·.coinId)).Nodup ∧
    (∀ sp ∈ b.spends, (sp.createCoin.map (fun c => (c.ph, c.amount))).Nodup) ∧
    (∀ sp ∈ b.spends, sp.coinId = sha256 (sp.parentId ++ sp.puzzleHash ++ canonNat sp.coinAmount) ∧ sp.coinAmount < 2^64) := by
  obtain ⟨iter, ret, left, hf, hl, hv, rfl⟩ := parseSpends_ok h
  cases t with
  | atom b => cases hf
  | pair iter' r =>
    injection hf with hf; subst hf
    exact (invariants_of_BInv (BInv_spendLoop env cc iter' _ L ret st left hab.1 hl) hv).2

open ChiaModel.Gn

theorem postProcess_puzzleHashes (env : Env) (ret : Bundle) (st : PState) :
    (postProcess env ret st).spends.map (·.puzzleHash) = ret.spends.map (·.puzzleHash) := by
  rw [Rules.postProcess_eq, List.map_map]
  rfl

/-- **C02 for `run_block_generator2`.**  Whenever the native path accepts a block whose generator
output consists of byte-string atoms, the reported bundle satisfies all of `Invariants`
(conservation, totals, distinct coin ids, distinct outputs per spend, coin-id formula), and the
reported puzzle hash of the i-th spend is the tree hash of the i-th revealed puzzle. -/
theorem native_invariants (p : Params) (g : GenInput) (c : Nat) (out : Sexp) (puz : Nat → RunRes) (L : Nat) (b : Bundle)
    (hab : out.AllBytes) (h : native p g (some (c, out)) puz L = .ok b) :
    Invariants b ∧ ∃ allSpends, first out = .ok allSpends ∧
      b.spends.map (·.puzzleHash) = (puzzlesOf allSpends).map Sexp.treeHash := by
  obtain ⟨_, _, _, _, gc, allSpends, args, ret, st, left, b0, hg, _, _, hloop, hb, rfl⟩ := native_ok_iff.mp h
  injection hg with hg; injection hg with h1 h2; subst h1; subst h2
  obtain ⟨hv, _, rfl⟩ := finishBundle_ok_iff.mp hb
  refine ⟨invariants_of_BInv (nativeLoop_BInv hab.1 hloop (BInv_exec BInv_init c)) hv, allSpends, rfl, ?_⟩
  exact (postProcess_puzzleHashes _ ret st).trans (nativeLoop_puzzleHashes hloop)

/-- **C02 for `run_spendbundle`** (mempool path).  Every accepted spend bundle satisfies
`Invariants`; the reported puzzle hash of each spend is the tree hash of the puzzle revealed in the
corresponding coin spend, and that equals the puzzle hash declared by the coin. -/
theorem spendbundle_invariants (p : Params) (spends : List CoinSpendM) (puz : Nat → RunRes) (L : Nat)
    (b : Bundle) (pk : List (Bytes × Bytes)) (h : runSpendbundle p spends puz L = .ok (b, pk)) :
    Invariants b ∧ b.spends.map (·.puzzleHash) = spends.map (fun cs => Sexp.treeHash cs.puzzle) ∧
      ∀ cs ∈ spends, cs.puzzleHash = Sexp.treeHash cs.puzzle := by
  obtain ⟨_, _, ret, st, left, hloop, hv, rfl, _⟩ := runSpendbundle_ok_iff.mp h
  obtain ⟨hph, hdecl⟩ := bundleLoop_puzzleHashes hloop
  exact ⟨invariants_of_BInv (bundleLoop_BInv hloop BInv_init) hv, (postProcess_puzzleHashes _ ret st).trans hph, hdecl⟩

/-- **C02 for `run_block_generator`** (legacy ROM path): the conditions it reports are those of
`parse_spends` on the ROM's output, so `Invariants` holds for every accepted block. -/
theorem legacy_invariants (p : Params) (g : GenInput) (c : Nat) (out : Sexp) (L : Nat) (b : Bundle)
    (hab : out.AllBytes) (h : legacy p g (some (c, out)) L = .ok b) : Invariants b := by
  obtain ⟨_, _, _, _, rc, spends, args, ret, st, left, b0, hg, _, hloop, hb, rfl⟩ := legacy_ok_iff.mp h
  injection hg with hg; injection hg with h1 h2; subst h1; subst h2
  obtain ⟨hv, _, rfl⟩ := finishBundle_ok_iff.mp hb
  exact invariants_of_BInv (BInv_spendLoop _ 0 spends _ _ ret st left hab.1 hloop) hv

end ChiaModel.C02
