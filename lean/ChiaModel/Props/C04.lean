import ChiaModel.Lemmas.Cost
import ChiaModel.Lemmas.CostNative
import ChiaModel.Lemmas.EnterSpend
import ChiaModel.Props.C02
import ChiaModel.Lemmas.UnknownCost
/-
C04 — cost charged equals the consensus cost table and the limit is exact.
-/
namespace ChiaModel.C04
open ChiaModel ChiaModel.Cond ChiaModel.Spec

/-- **The limit is exact.**  If `parse_spends` accepts under limit `L` reporting cost `c`, then
`c ≤ L`, it accepts with the identical result under limit `c`, and under every smaller limit it
fails with cost-exceeded (never with another error, never accepting). -/
theorem limit_exact (env : Env) (sigOk : List (Bytes × Bytes) → Bool) (t : Sexp) (L cc : Nat)
    (b : Bundle) (st : PState) (h : parseSpends env sigOk t L cc = .ok (b, st)) :
    b.cost ≤ L ∧ parseSpends env sigOk t b.cost cc = .ok (b, st) ∧
    ∀ L', L' < b.cost → parseSpends env sigOk t L' cc = .error .costExceeded := by
  simp only [parseSpends_metered] at h ⊢
  cases hf : first t with
  | error e => rw [hf] at h; cases h
  | ok iter =>
    rw [hf] at h
    exact limitExact_of_countdown (cost := fun x => x.1.cost) (isCountdown_spendLoop ..) (fun _ _ => rfl) h

theorem cost_le_limit (env : Env) (sigOk : List (Bytes × Bytes) → Bool) (t : Sexp) (L cc : Nat)
    (b : Bundle) (st : PState) (h : parseSpends env sigOk t L cc = .ok (b, st)) : b.cost ≤ L :=
  (limit_exact env sigOk t L cc b st h).1

/-- **Cost equals the table sum.**  For an accepted tree, the reported cost is exactly the sum over
the spends of (per-spend charge + per-condition table cost), the condition-cost sub-total equals
it, and the per-spend condition costs are the per-spend terms, in order. -/
theorem cost_is_table_sum (env : Env) (sigOk : List (Bytes × Bytes) → Bool) (t iter : Sexp) (L cc : Nat)
    (b : Bundle) (st : PState) (hf : first t = .ok iter) (h : parseSpends env sigOk t L cc = .ok (b, st)) :
    b.cost = ((listElems iter).map (spendCostOf env.flags)).sum ∧ b.conditionCost = b.cost ∧
    b.spends.map (·.conditionCost) = (listElems iter).map (spendCostOf env.flags) := by
  obtain ⟨iter', ret, left, hf', hl, hv, rfl⟩ := C02.parseSpends_ok h
  rw [hf] at hf'; injection hf' with hf'; subst hf'
  -- along the loop: the budget goes down by, the condition cost goes up by, and each pushed record carries its tuple's table cost
  obtain ⟨c1, c2, c3⟩ := Rules.spendLoop_enter env cc (fun acc m ts =>
      acc.1.spends.map (·.conditionCost) = ts.map (spendCostOf env.flags) ∧
      acc.1.conditionCost = (ts.map (spendCostOf env.flags)).sum ∧ L = m + (ts.map (spendCostOf env.flags)).sum) iter
    (fun acc m done tree p _ ⟨q1, q2, q3⟩ hp _ hk _ => by
      have hc : spendCostOf env.flags tree = Rules.spendCost env.flags p := by
        obtain ⟨amt, conds, hps, -, -, -, -, -, hk⟩ := Rules.parseSpend_tree hp
        simp only [spendCostOf, hps, hk, Rules.spendCost]
      rw [Rules.enterSpend_spends, Rules.enterSpend_conditionCost, List.map_append, List.map_append, List.sum_append, q1, q2]
      simp only [List.map_singleton, List.sum_singleton, hc]
      refine ⟨?_, trivial, by omega⟩
      simp only [Rules.spendRec_eq])
    {} {} _ L ret st left [] hl ⟨rfl, rfl, rfl⟩
  rw [List.nil_append] at c1 c2 c3
  -- `post_process` rewrites the flags of the records and nothing else
  rw [Rules.postProcess_eq, List.map_map]
  dsimp only
  exact ⟨by omega, by rw [c2]; omega, c1⟩

/-- AGG_SIG_* always cost 1 200 000; CREATE_COIN 1 800 000 before and 1 350 000 after the cost fork;
a spend costs 450 000 after it; announcement/message conditions 700 and all other parsed conditions
200 after it, nothing before. -/
theorem table_values :
    Gen.aggSigCost = 1200000 ∧ Gen.createCoinCost = 1800000 ∧ Gen.newCreateCoinCost = 1350000 ∧
    Gen.spendCost = 450000 ∧ Gen.messageConditionCost = 700 ∧ Gen.genericConditionCost = 200 := by decide

theorem preCharge_table (flags op : Nat) :
    preCharge flags op =
      (if op = Gen.opCreateCoin then (if hasFlag flags Gen.flagCostConditions then 1350000 else 1800000)
       else if isAggSig op then 1200000
       else if isAnnounceClass op then (if hasFlag flags Gen.flagCostConditions then 700 else 0)
       else (if hasFlag flags Gen.flagCostConditions then 200 else 0)) := by
  unfold preCharge
  simp only [table_values]

/-- **Two-byte opcode costs.**  The table the code computes with 64-bit integers and periodic
renormalisation equals, on all 256 slots, the documented closed form: `100·17^k/16^k` in exact
arithmetic, truncated to three significant figures. -/
theorem unknown_cost_closed_form :
    ∀ k, k < 256 → Gen.unknownCostTable.getD k 0 = trunc3 (100 * 17 ^ k / 16 ^ k) :=
  unknownCostTable_getD

theorem unknown_cost_fn (op : Nat) : Gen.computeUnknownConditionCost op = unknownConditionCost op :=
  Cond.unknown_cost_fn op

open ChiaModel.Gn

/-- **The block-level limit is exact (native path).**  If `run_block_generator2` accepts under
limit `L` reporting cost `c` (byte cost + CLVM cost of generator and puzzles + condition costs),
then `c ≤ L`, it returns the identical result under limit `c`, and under every smaller limit it
fails with cost-exceeded. -/
theorem native_limit_exact (p : Params) (g : GenInput) (genRun : RunRes) (puz : Nat → RunRes) (L : Nat)
    (b : Bundle) (h : native p g genRun puz L = .ok b) :
    b.cost ≤ L ∧ native p g genRun puz b.cost = .ok b ∧
    ∀ L', L' < b.cost → native p g genRun puz L' = .error .costExceeded := by
  have hq := (native_ok_iff.mp h).1
  simp only [native_eq, if_neg hq] at h ⊢
  exact limitExact_of_countdown (cost := Bundle.cost) (isCountdown_nativeCountdown ..) (fun _ _ => rfl) h

/-- **The limit is exact for `run_spendbundle`** (mempool path). -/
theorem runSpendbundle_limit_exact (p : Params) (spends : List CoinSpendM) (puz : Nat → RunRes) (L : Nat)
    (b : Bundle) (pk : List (Bytes × Bytes)) (h : runSpendbundle p spends puz L = .ok (b, pk)) :
    b.cost ≤ L ∧ runSpendbundle p spends puz b.cost = .ok (b, pk) ∧
    ∀ L', L' < b.cost → runSpendbundle p spends puz L' = .error .costExceeded := by
  simp only [runSpendbundle_metered] at h ⊢
  exact limitExact_of_countdown (cost := fun x => x.1.cost) (isCountdown_bundleCountdown ..) (fun _ _ => rfl) h

/-- **The block-level limit is exact (legacy ROM path).**  The cost reported by `run_block_generator`
(byte cost + cost of the ROM run + condition costs) is at most the limit; with the limit set to
exactly that cost the result is identical, and every smaller limit fails with cost-exceeded. -/
theorem legacy_limit_exact (p : Params) (g : GenInput) (romRun : RunRes) (L : Nat)
    (b : Bundle) (h : legacy p g romRun L = .ok b) :
    b.cost ≤ L ∧ legacy p g romRun b.cost = .ok b ∧
    ∀ L', L' < b.cost → legacy p g romRun L' = .error .costExceeded := by
  obtain ⟨hq, hr, _⟩ := legacy_ok_iff.mp h
  simp only [legacy_eq, if_neg hq, if_neg hr] at h ⊢
  exact limitExact_of_countdown (cost := Bundle.cost) (isCountdown_legacyCountdown ..) (fun _ _ => rfl) h

theorem postProcess_costs (env : Env) (ret : Bundle) (st : PState) :
    (postProcess env ret st).executionCost = ret.executionCost ∧ (postProcess env ret st).conditionCost = ret.conditionCost := by
  unfold postProcess; split <;> exact ⟨rfl, rfl⟩

/-- **Cost decomposition, native path.**  The cost `run_block_generator2` reports for an accepted
block is exactly byte cost (serialised length or interned size, times cost-per-byte) + execution
cost (generator run + puzzle runs) + condition cost (the table sum of C04 `cost_is_table_sum`). -/
theorem native_cost_decomposition (p : Params) (g : GenInput) (genRun : RunRes) (puz : Nat → RunRes) (L : Nat) (b : Bundle)
    (h : native p g genRun puz L = .ok b) :
    b.cost = nativeBase p g + b.executionCost + b.conditionCost := by
  obtain ⟨_, _, hB, _, gc, allSpends, args, ret, st, left, b0, _, hgc, _, hloop, hb, rfl⟩ := native_ok_iff.mp h
  obtain ⟨_, _, rfl⟩ := finishBundle_ok_iff.mp hb
  obtain ⟨pc1, pc2⟩ := postProcess_costs (nativeEnv p) ret st
  have e2 := nativeLoop_cost_balance hloop
  simp only [pc1, pc2] at e2 ⊢
  omega

/-- **Cost decomposition, mempool path** (`run_spendbundle`). -/
theorem runSpendbundle_cost_decomposition (p : Params) (spends : List CoinSpendM) (puz : Nat → RunRes) (L : Nat)
    (b : Bundle) (pk : List (Bytes × Bytes)) (h : runSpendbundle p spends puz L = .ok (b, pk)) :
    b.cost = bundleBase p spends + b.executionCost + b.conditionCost := by
  obtain ⟨hB, _, ret, st, left, hloop, _, rfl, _⟩ := runSpendbundle_ok_iff.mp h
  obtain ⟨pc1, pc2⟩ := postProcess_costs (mpEnv p) ret st
  have e2 := bundleLoop_cost_balance hloop
  simp only [pc1, pc2] at e2 ⊢
  omega

end ChiaModel.C04
