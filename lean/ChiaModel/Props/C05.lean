import ChiaModel.Lemmas.EnterSpend
import ChiaModel.Model.AggSig
import ChiaModel.Props.C02
/-
C05 — signature acceptance binds each AGG_SIG condition to its domain-separated text.
-/
namespace ChiaModel.Cond
open ChiaModel ChiaModel.TL

/-! the contribution of a spend tuple to a list that `parse_spends` accumulates (here: the pairs handed to signature
verification), as a function of the tuple: its attributes (`treeAttrs`) and its parsed conditions -/

/-- the loop-stable attributes of the spend being parsed -/
structure Attrs where
  parentId : Bytes
  puzzleHash : Bytes
  coinId : Bytes
  coinAmount : Nat

def attrsOf (sp : Spend) : Attrs := ⟨sp.parentId, sp.puzzleHash, sp.coinId, sp.coinAmount⟩

/-- the attributes `process_single_spend` derives from a spend tuple (when it is well-formed) -/
def treeAttrs (tree : Sexp) : Option (Attrs × Sexp) :=
  match parseSingleSpend tree with
  | .ok (.atom parent, .atom ph, .atom amt, conds) =>
    (match sanitizeUint amt 8 with
     | .ok v => some (⟨parent, ph, coinId parent ph amt, v⟩, conds)
     | _ => none)
  | _ => none

def spendContrib {X : Type} (flags : Nat) (contrib : Attrs → Cond → List X) (tree : Sexp) : List X :=
  match treeAttrs tree with
  | some (a, conds) => (parsedConds flags conds).flatMap (contrib a)
  | none => []

theorem spendContrib_eq {X : Type} {flags : Nat} (contrib : Attrs → Cond → List X) {sp : Sexp} {p : Rules.PSpend}
    (h : Rules.parseSpend flags sp = some p) :
    spendContrib flags contrib sp =
      (itemConds p.items).flatMap (contrib ⟨p.attrs.parentId, p.attrs.puzzleHash, p.attrs.coinId, p.attrs.amount⟩) := by
  obtain ⟨amt, conds, t⟩ := Rules.parseSpend_tree h
  simp only [spendContrib, treeAttrs, t.tuple, t.amount_val, t.coinId_eq, t.conds_eq]

end ChiaModel.Cond

namespace ChiaModel.C05
open ChiaModel ChiaModel.Cond ChiaModel.Sig ChiaModel.TL

/-- the seven domain-separation constants of TEST_CONSTANTS (regenerated from the source) are
32 bytes each and pairwise distinct -/
theorem distinct_consts :
    [Gen.aggSigMeAdditionalData, Gen.aggSigParentAdditionalData, Gen.aggSigPuzzleAdditionalData,
     Gen.aggSigAmountAdditionalData, Gen.aggSigPuzzleAmountAdditionalData, Gen.aggSigParentAmountAdditionalData,
     Gen.aggSigParentPuzzleAdditionalData].Nodup ∧
    ∀ c ∈ [Gen.aggSigMeAdditionalData, Gen.aggSigParentAdditionalData, Gen.aggSigPuzzleAdditionalData,
     Gen.aggSigAmountAdditionalData, Gen.aggSigPuzzleAmountAdditionalData, Gen.aggSigParentAmountAdditionalData,
     Gen.aggSigParentPuzzleAdditionalData], c.length = 32 := by decide

theorem opcode_values :
    Gen.opAggSigParent = 43 ∧ Gen.opAggSigPuzzle = 44 ∧ Gen.opAggSigAmount = 45 ∧ Gen.opAggSigPuzzleAmount = 46 ∧
    Gen.opAggSigParentAmount = 47 ∧ Gen.opAggSigParentPuzzle = 48 ∧ Gen.opAggSigUnsafe = 49 ∧ Gen.opAggSigMe = 50 := by decide

/-- **The text the code appends is the prescribed one.**  The suffix `parse_conditions` appends to an
AGG_SIG message (using the generated `u64_to_bytes` ladder) equals the specification's suffix
(canonical amount) for every spend whose amount is a u64. -/
theorem suffix_eq_spec (op : Nat) (sp : Spend) (h : sp.coinAmount < 2^64) :
    aggSigSuffix op sp = specSuffix op sp.parentId sp.puzzleHash sp.coinId sp.coinAmount := by
  simp only [aggSigSuffix, specSuffix, C11.u64ToBytes_canon sp.coinAmount h]

/-- **`make_aggsig_final_message` yields the same texts.**  For the seven coin-bound opcodes the helper
returns message ‖ prescribed suffix, where the coin id is SHA-256(parent ‖ puzzle hash ‖ canonical
amount); for any other opcode it returns the message unchanged. -/
theorem finalMessage_spec (op : Nat) (msg parent ph : Bytes) (amount : Nat) (h : amount < 2^64) :
    makeAggsigFinalMessage op msg parent ph amount =
      msg ++ specSuffix op parent ph (sha256 (parent ++ ph ++ canonNat amount)) amount := by
  simp only [makeAggsigFinalMessage, specSuffix, C11.u64ToBytes_canon amount h, C11.coinIdAmount_canon amount h,
    opcode_values.1, opcode_values.2.1, opcode_values.2.2.1, opcode_values.2.2.2.1, opcode_values.2.2.2.2.1,
    opcode_values.2.2.2.2.2.1, opcode_values.2.2.2.2.2.2.2]
  by_cases h43 : op = 43
  · subst h43; simp
  by_cases h44 : op = 44
  · subst h44; simp
  by_cases h45 : op = 45
  · subst h45; simp
  by_cases h46 : op = 46
  · subst h46; simp
  by_cases h47 : op = 47
  · subst h47; simp
  by_cases h48 : op = 48
  · subst h48; simp
  by_cases h50 : op = 50
  · subst h50; simp
  simp [h43, h44, h45, h46, h47, h48, h50]

theorem endsWith_append (a c : Bytes) : endsWith (a ++ c) c = true := by
  simp [endsWith]

theorem text_ends_with_const (op : Nat) (msg parent ph id : Bytes) (amount : Nat) (hc : coinBound op = true) :
    ∃ pre, msg ++ specSuffix op parent ph id amount = pre ++ constOf op := by
  simp only [coinBound, Bool.or_eq_true, decide_eq_true_eq] at hc
  simp only [specSuffix, constOf]
  rcases hc with (((((h | h) | h) | h) | h) | h) | h <;> subst h
  · exact ⟨msg ++ id, by simp [opcode_values]⟩
  · exact ⟨msg ++ parent, by simp [opcode_values]⟩
  · exact ⟨msg ++ ph, by simp [opcode_values]⟩
  · exact ⟨msg ++ canonNat amount, by simp [opcode_values]⟩
  · exact ⟨msg ++ ph ++ canonNat amount, by simp [opcode_values]⟩
  · exact ⟨msg ++ parent ++ canonNat amount, by simp [opcode_values]⟩
  · exact ⟨msg ++ parent ++ ph, by simp [opcode_values]⟩

theorem constOf_length (op : Nat) (hc : coinBound op = true) : (constOf op).length = 32 := by
  simp only [coinBound, Bool.or_eq_true, decide_eq_true_eq] at hc
  rcases hc with (((((h | h) | h) | h) | h) | h) | h <;> subst h <;> decide

theorem constOf_injective (op op' : Nat) (hc : coinBound op = true) (hc' : coinBound op' = true)
    (h : constOf op = constOf op') : op = op' := by
  simp only [coinBound, Bool.or_eq_true, decide_eq_true_eq] at hc hc'
  rcases hc with (((((h1 | h1) | h1) | h1) | h1) | h1) | h1 <;>
    rcases hc' with (((((h2 | h2) | h2) | h2) | h2) | h2) | h2 <;> subst h1 <;> subst h2 <;>
    first | rfl | (exfalso; revert h; decide)

/-- **Domain separation.**  Two prescribed texts of coin-bound AGG_SIG opcodes can only coincide if
the opcodes are the same: a signature made for one opcode is never valid for another. -/
theorem domain_separation (op op' : Nat) (msg msg' parent parent' ph ph' id id' : Bytes) (amount amount' : Nat)
    (hc : coinBound op = true) (hc' : coinBound op' = true)
    (h : msg ++ specSuffix op parent ph id amount = msg' ++ specSuffix op' parent' ph' id' amount') : op = op' := by
  obtain ⟨p1, e1⟩ := text_ends_with_const op msg parent ph id amount hc
  obtain ⟨p2, e2⟩ := text_ends_with_const op' msg' parent' ph' id' amount' hc'
  rw [e1, e2] at h
  exact constOf_injective op op' hc hc' (List.append_inj_right' h (by rw [constOf_length op hc, constOf_length op' hc']))

/-- **AGG_SIG_UNSAFE cannot imitate a coin-bound text.**  A message accepted for AGG_SIG_UNSAFE (the
suffix ban) differs from every prescribed text of a coin-bound opcode. -/
theorem unsafe_separated (m : Bytes) (op : Nat) (msg parent ph id : Bytes) (amount : Nat)
    (hok : unsafeMsgOk m = true) (hc : coinBound op = true) : m ≠ msg ++ specSuffix op parent ph id amount := by
  intro heq
  obtain ⟨pre, e⟩ := text_ends_with_const op msg parent ph id amount hc
  rw [e] at heq
  have hlen := constOf_length op hc
  have hmem : constOf op ∈ sevenSuffixes := by
    simp only [coinBound, Bool.or_eq_true, decide_eq_true_eq] at hc
    simp only [sevenSuffixes, constOf]
    rcases hc with (((((h | h) | h) | h) | h) | h) | h <;> subst h <;> simp [opcode_values]
  simp only [unsafeMsgOk, Bool.or_eq_true, decide_eq_true_eq, Bool.not_eq_true', List.any_eq_false] at hok
  rcases hok with hlt | hno
  · rw [heq, List.length_append, hlen] at hlt; omega
  · have := hno (constOf op) hmem
    rw [heq, endsWith_append] at this
    exact this rfl

def pairContrib (validate : Bool) (a : Attrs) : Cond → List (Bytes × Bytes)
  | .aggSig op pk msg =>
    if validate then [(pk, msg ++ aggSigSuffix op ⟨a.parentId, a.coinAmount, a.puzzleHash, a.coinId, none, none, none, none, none, none,
      [], [], [], [], [], [], [], [], 0, 0, 0⟩)] else []
  | _ => []

theorem aggSigSuffix_attrs (op : Nat) (sp sp' : Spend) (h : attrsOf sp = attrsOf sp') : aggSigSuffix op sp = aggSigSuffix op sp' := by
  simp only [attrsOf, Attrs.mk.injEq] at h
  obtain ⟨h1, h2, h3, h4⟩ := h
  simp only [aggSigSuffix, h1, h2, h3, h4]

theorem pairContrib_eq (d : Bool) (a : Rules.Attrs) (cs : List Cond) :
    cs.flatMap (pairContrib (!d) ⟨a.parentId, a.puzzleHash, a.coinId, a.amount⟩) =
      if d then [] else cs.filterMap (Rules.signedPairOf a) := by
  induction cs with
  | nil => cases d <;> rfl
  | cons c cs ih =>
    rw [List.flatMap_cons, ih]
    cases d <;> cases c <;> rfl

/-- **Exactly the prescribed pairs are verified, in order.**  For an accepted generator output the
list handed to BLS aggregate verification is the concatenation, over the spends in order, of
(public key, message ‖ suffix) for each AGG_SIG condition of the spend — nothing missing, nothing
extra (empty when signature validation is switched off). -/
theorem pairs_spec (env : Env) (sigOk : List (Bytes × Bytes) → Bool) (t iter : Sexp) (L cc : Nat) (b : Bundle) (st : PState)
    (hf : first t = .ok iter) (h : parseSpends env sigOk t L cc = .ok (b, st)) :
    st.pkmPairs = (listElems iter).flatMap
      (spendContrib env.flags (pairContrib (!hasFlag env.flags Gen.flagDontValidateSignature))) := by
  obtain ⟨iter', ret, left, hf', hl, _, _⟩ := C02.parseSpends_ok h
  rw [hf] at hf'; injection hf' with hf'; subst hf'
  have := Rules.spendLoop_enter env cc (fun acc _ ts => acc.2.pkmPairs = ts.flatMap
      (spendContrib env.flags (pairContrib (!hasFlag env.flags Gen.flagDontValidateSignature)))) iter
    (fun acc _ done tree p _ hq hp _ _ _ => by
      rw [Rules.enterSpend_eq, List.flatMap_append, ← hq, List.flatMap_singleton, spendContrib_eq _ hp, pairContrib_eq])
    {} {} _ L ret st left [] hl rfl
  simpa using this

/-- the signature check is exactly a check of those pairs: with validation on, acceptance implies the
BLS verdict on the collected pairs is positive … -/
theorem sig_needed (env : Env) (sigOk : List (Bytes × Bytes) → Bool) (t : Sexp) (L cc : Nat) (b : Bundle) (st : PState)
    (hv : hasFlag env.flags Gen.flagDontValidateSignature = false)
    (h : parseSpends env sigOk t L cc = .ok (b, st)) : sigOk st.pkmPairs = true := by
  obtain ⟨_, _, _, _, _, _, hb, _⟩ := parseSpends_ok_iff.mp h
  exact (finishBundle_ok_iff.mp hb).2.1 hv

/-- … and conversely the verdict depends on the signature only through that check: a bundle accepted
with an always-true oracle is accepted for any oracle that approves its pairs. -/
theorem sig_sufficient (env : Env) (sigOk : List (Bytes × Bytes) → Bool) (t : Sexp) (L cc : Nat) (b : Bundle) (st : PState)
    (h : parseSpends env (fun _ => true) t L cc = .ok (b, st)) (hs : sigOk st.pkmPairs = true) :
    parseSpends env sigOk t L cc = .ok (b, st) := by
  obtain ⟨iter, ret, left, ret', hi, hl, hb, hcost⟩ := parseSpends_ok_iff.mp h
  obtain ⟨h1, _, h3⟩ := finishBundle_ok_iff.mp hb
  exact parseSpends_ok_iff.mpr ⟨iter, ret, left, ret', hi, hl, finishBundle_ok_iff.mpr ⟨h1, fun _ => hs, h3⟩, hcost⟩

/-- **Bad keys.**  An AGG_SIG condition whose key is not a valid, non-infinity G1 point (as judged by
blst: the `pkOk` oracle) makes the bundle invalid, for every opcode, flag set and message. -/
theorem bad_key_rejected (env : Env) (s : CSt) (op : Nat) (pk msg : Bytes) (hbad : env.pkOk pk = false) :
    ∃ e, applyCond env s (.aggSig op pk msg) = .error e := by
  simp only [applyCond, toKey, hbad, Bool.false_eq_true, if_false]
  split
  · split
    · exact ⟨_, rfl⟩
    · exact ⟨_, rfl⟩
  · exact ⟨_, rfl⟩

end ChiaModel.C05
