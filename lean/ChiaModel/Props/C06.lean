import ChiaModel.Props.C01
import ChiaModel.Lemmas.Strict
import ChiaModel.Lemmas.PermBundle
/-
C06 — strict modes only restrict, and ordering never changes the verdict.

Theorems about the executable model of `parse_spends` (Model/Conditions.lean).

Part 1 (strictness): `StricterThan e1 e2` (Lemmas/Strict.lean) says that `e1` and `e2` use
the same visitor, the same key validity, the same COST_CONDITIONS and DONT_VALIDATE_SIGNATURE bits and
that each of NO_UNKNOWN_CONDS, STRICT_ARGS_COUNT, LIMIT_SPENDS that is set in `e2` is set in `e1`.

Part 2 (order of the conditions of one spend): proved for the effect of the parsed conditions
(`applyCond`, the big `match` of `parse_conditions`: `perm_conditions_partial`), for the whole condition
loop `condLoop` including argument parsing, cost countdown and visitor (`perm_conditions_loop_partial`) and
for one spend (`perm_conditions_spend_partial`); these describe the per-spend state up to listing order and
ELIGIBLE_FOR_FF.

Part 3 (whole bundle, via the refinement `C01.C01_refines` to the order-free rules): the order of the
spends of a bundle (`perm_spends`, `perm_spends_accept_iff`) and the order of the conditions of one spend
seen through the whole of `parse_spends`, i.e. through the remaining spends and the deferred validation
(`perm_conditions_bundle`, `perm_conditions_bundle_accept_iff`).  Lemmas: Lemmas/PermBundle.lean.
-/
namespace ChiaModel.C06
open ChiaModel ChiaModel.Cond

/-- **Strict modes only restrict.**  If `parse_spends` accepts under an environment `e1` that is at
least as strict as `e2` (and otherwise reads the same: same fork flags COST_CONDITIONS /
DONT_VALIDATE_SIGNATURE, same visitor, same key validity), then it accepts under `e2` with the
identical bundle summary (every field, including `cost`) and the identical parse state. -/
theorem strict_monotone {e1 e2 : Env} (h : StricterThan e1 e2) (sigOk : List (Bytes × Bytes) → Bool)
    (t : Sexp) (L cc : Nat) (b : Bundle) (st : PState)
    (hacc : parseSpends e1 sigOk t L cc = .ok (b, st)) : parseSpends e2 sigOk t L cc = .ok (b, st) :=
  (parseSpends_mono h sigOk t L cc).imp (b, st) hacc

/-- `strict_monotone` in terms of flag words: or-ing any bits `S` that do not touch the two fork flags
the model reads (COST_CONDITIONS, DONT_VALIDATE_SIGNATURE) into the flag word can only turn an
acceptance into a rejection, never change an accepted result. -/
theorem strict_flags_only_restrict (env : Env) (S : Nat) (h1 : S &&& Gen.flagCostConditions = 0)
    (h2 : S &&& Gen.flagDontValidateSignature = 0) (sigOk : List (Bytes × Bytes) → Bool)
    (t : Sexp) (L cc : Nat) (r : Bundle × PState)
    (hacc : parseSpends { env with flags := env.flags ||| S } sigOk t L cc = .ok r) :
    parseSpends env sigOk t L cc = .ok r :=
  (parseSpends_mono (stricterThan_or env S h1 h2) sigOk t L cc).imp r hacc

/-- **Mempool admission never admits what a block would reject.**  For `S` any bitwise-or of the three
strictness flag constants NO_UNKNOWN_CONDS, STRICT_ARGS_COUNT, LIMIT_SPENDS (`strictMask` enumerates the
eight combinations), acceptance with `flags ||| S` implies acceptance with `flags`, with the identical
summary and parse state. -/
theorem strict_mask_only_restrict (env : Env) (nu sac ls : Bool) (sigOk : List (Bytes × Bytes) → Bool)
    (t : Sexp) (L cc : Nat) (r : Bundle × PState)
    (hacc : parseSpends { env with flags := env.flags ||| strictMask nu sac ls } sigOk t L cc = .ok r) :
    parseSpends env sigOk t L cc = .ok r :=
  strict_flags_only_restrict env _ (strictMask_disjoint nu sac ls).1 (strictMask_disjoint nu sac ls).2
    sigOk t L cc r hacc

theorem strictMask_values :
    strictMask false false false = 0 ∧
    strictMask true false false = Gen.flagNoUnknownConds ∧
    strictMask false true false = Gen.flagStrictArgsCount ∧
    strictMask false false true = Gen.flagLimitSpends ∧
    strictMask true true false = Gen.flagNoUnknownConds ||| Gen.flagStrictArgsCount ∧
    strictMask true false true = Gen.flagNoUnknownConds ||| Gen.flagLimitSpends ∧
    strictMask false true true = Gen.flagStrictArgsCount ||| Gen.flagLimitSpends ∧
    strictMask true true true = Gen.flagNoUnknownConds ||| Gen.flagStrictArgsCount ||| Gen.flagLimitSpends := by
  decide

/-- **Equal cost.**  An accepted strict run and the accepted non-strict run of the same tree report the
same cost (and in fact the same summary). -/
theorem cost_strict_equal {e1 e2 : Env} (h : StricterThan e1 e2) (sigOk : List (Bytes × Bytes) → Bool)
    (t : Sexp) (L cc : Nat) (b1 b2 : Bundle) (st1 st2 : PState)
    (h1 : parseSpends e1 sigOk t L cc = .ok (b1, st1)) (h2 : parseSpends e2 sigOk t L cc = .ok (b2, st2)) :
    b1.cost = b2.cost ∧ b1.conditionCost = b2.conditionCost ∧ b1.executionCost = b2.executionCost := by
  have h3 := strict_monotone h sigOk t L cc b1 st1 h1
  rw [h2] at h3
  injection h3 with h3; injection h3 with h3 _
  subst h3
  exact ⟨rfl, rfl, rfl⟩

/-- non-vacuity of `StricterThan`: the full mempool strictness mask over any flag word -/
example (env : Env) :
    StricterThan { env with flags := env.flags ||| (Gen.flagNoUnknownConds ||| Gen.flagStrictArgsCount ||| Gen.flagLimitSpends) } env :=
  stricterThan_or env _ (by decide) (by decide)

/-- `StricterThan` really orders the flags: with the mask the three strictness bits are on -/
example : hasFlag (0 ||| strictMask true true true) Gen.flagNoUnknownConds = true ∧
    hasFlag (0 ||| strictMask true true true) Gen.flagStrictArgsCount = true ∧
    hasFlag (0 ||| strictMask true true true) Gen.flagLimitSpends = true ∧
    hasFlag 0 Gen.flagNoUnknownConds = false := by decide

/-- **Order of conditions, effect of the parsed conditions.**  Let `l1`, `l2` be two lists of already
parsed conditions that are permutations of each other, applied in order with `applyCond` (the `match cva`
of `parse_conditions`) from the same per-spend state `s`.  If `l1` is accepted then `l2` is accepted,
and the two final states are `CEquiv`: they agree on *every* field of the bundle summary, the spend
record, the parse state, the announcement countdown and the condition counter, except that the
list-valued fields (`create_coin`, the eight `agg_sig_*` lists, the announcement / assertion / message
lists and the (pk, msg) pairs) are permutations of each other.

`_partial`: relative to the C06 sentence "reordering the conditions within a spend never changes
acceptance, cost or any aggregate", this covers the effect of the conditions on the summary and the
acceptance decisions made by that effect (duplicate CREATE_COIN, RESERVE_FEE overflow, impossible
relative/birth constraints, ASSERT_MY_*, key validity, the 1024-announcement limit).  Not covered
here: (a) the argument parser and the cost countdown of `condLoop`, (b) the visitor's `flags` updates —
both are covered by `perm_conditions_loop_partial` —, and (c) the deferred bundle-level validation
(`validate_conditions`), see `perm_conditions_bundle`. -/
theorem perm_conditions_partial (env : Env) (s : CSt) {l1 l2 : List Cond} (hp : List.Perm l1 l2) {t1 : CSt}
    (h1 : applyAll env s l1 = .ok t1) : ∃ t2, applyAll env s l2 = .ok t2 ∧ CEquiv t1 t2 := by
  obtain ⟨⟨ha, hb⟩, rfl⟩ := (Rules.applyAll_ok_iff env s l1 t1).mp h1
  exact ⟨_, (Rules.applyAll_ok_iff env s l2 _).mpr
      ⟨⟨(Rules.accepts_perm env _ 0 _ hp).mp ha, (Rules.compatible_perm s hp).mp hb⟩, rfl⟩,
    Rules.stateAfter_perm env s hp ha.birthHeights_eq ha.birthSeconds_eq⟩

/-- **Acceptance is independent of the order** of a list of parsed conditions (same scope as
`perm_conditions_partial`). -/
theorem perm_accept_iff_partial (env : Env) (s : CSt) {l1 l2 : List Cond} (hp : List.Perm l1 l2) :
    (∃ t1, applyAll env s l1 = .ok t1) ↔ (∃ t2, applyAll env s l2 = .ok t2) := by
  constructor
  · rintro ⟨t1, h⟩; obtain ⟨t2, h2, _⟩ := perm_conditions_partial env _ hp h; exact ⟨t2, h2⟩
  · rintro ⟨t2, h⟩; obtain ⟨t1, h1, _⟩ := perm_conditions_partial env _ hp.symm h; exact ⟨t1, h1⟩

/-- `perm_accept`: swapping the first two conditions of an accepted list gives an accepted list
(the pairwise rules — duplicate coins, fee overflow, relative/birth constraints, the announcement
countdown — are symmetric). -/
theorem perm_accept (env : Env) (s : CSt) (a b : Cond) (l : List Cond) {t : CSt}
    (h : applyAll env s (a :: b :: l) = .ok t) : ∃ t', applyAll env s (b :: a :: l) = .ok t' ∧ CEquiv t t' :=
  perm_conditions_partial env s (List.Perm.swap b a l) h

/-- When both orders are accepted the results agree on every aggregate of the summary and of the spend
record; the created coins agree up to order. -/
theorem perm_conditions_fields_partial (env : Env) (s : CSt) {l1 l2 : List Cond} (hp : List.Perm l1 l2) {t1 t2 : CSt}
    (h1 : applyAll env s l1 = .ok t1) (h2 : applyAll env s l2 = .ok t2) :
    t1.ret.reserveFee = t2.ret.reserveFee ∧ t1.ret.heightAbsolute = t2.ret.heightAbsolute ∧
    t1.ret.secondsAbsolute = t2.ret.secondsAbsolute ∧
    t1.ret.beforeHeightAbsolute = t2.ret.beforeHeightAbsolute ∧
    t1.ret.beforeSecondsAbsolute = t2.ret.beforeSecondsAbsolute ∧
    t1.ret.additionAmount = t2.ret.additionAmount ∧
    t1.spend.heightRelative = t2.spend.heightRelative ∧ t1.spend.secondsRelative = t2.spend.secondsRelative ∧
    t1.spend.beforeHeightRelative = t2.spend.beforeHeightRelative ∧
    t1.spend.beforeSecondsRelative = t2.spend.beforeSecondsRelative ∧
    t1.spend.birthHeight = t2.spend.birthHeight ∧ t1.spend.birthSeconds = t2.spend.birthSeconds ∧
    t1.spend.flags = t2.spend.flags ∧ t1.countdown = t2.countdown ∧
    List.Perm t1.spend.createCoin t2.spend.createCoin ∧
    List.Perm t1.ret.aggSigUnsafe t2.ret.aggSigUnsafe ∧ List.Perm t1.spend.aggSigMe t2.spend.aggSigMe ∧
    List.Perm t1.st.pkmPairs t2.st.pkmPairs ∧ List.Perm t1.st.messages t2.st.messages := by
  obtain ⟨t2', h2', e⟩ := perm_conditions_partial env _ hp h1
  rw [h2] at h2'; injection h2' with h2'; subst h2'
  exact ⟨e.ret_reserveFee, e.ret_heightAbsolute, e.ret_secondsAbsolute, e.ret_beforeHeightAbsolute,
    e.ret_beforeSecondsAbsolute, e.ret_additionAmount, e.spend_heightRelative, e.spend_secondsRelative,
    e.spend_beforeHeightRelative, e.spend_beforeSecondsRelative, e.spend_birthHeight, e.spend_birthSeconds,
    e.spend_flags, e.countdown, e.spend_createCoin, e.ret_aggSigUnsafe, e.spend_aggSigMe, e.st_pkmPairs,
    e.st_messages⟩

/-- non-vacuity: two different conditions, both orders accepted from a fresh spend record -/
example : ∃ t, applyAll ⟨0, false, fun _ => true⟩
    { ret := {}, st := {}, spend := { parentId := [], coinAmount := 5, puzzleHash := [], coinId := [] } }
    [.reserveFee 3, .createCoin [1] 2 none, .assertHeightRelative 7, .assertBeforeHeightRelative 9] = .ok t :=
  ⟨_, rfl⟩

/-- **Order of conditions, the condition loop of `parse_conditions`.**  Let `t`, `t'` be NIL-terminated
condition lists whose elements are permutations of each other (`sexpList`).  If `condLoop` (opcode
recognition, pre-charge, argument parsing under the flags, visitor, effect, SOFTFORK charge, for every
element) accepts `t` from per-spend state `s` with cost countdown `m`, leaving countdown `m1`, then it
accepts `t'` leaving the *same* countdown `m1` (so the same cost is charged), and

* the final states agree on every field up to the listing order of list-valued items (`CEquiv`) after
  ELIGIBLE_FOR_FF is cleared in the spend flags of both (`wrapF (false, true) · 0 0` only clears that bit);
* they agree up to listing order outright — including ELIGIBLE_FOR_FF and ELIGIBLE_FOR_DEDUP — if the
  visitor is the empty one (block validation) or no element parses to ASSERT_MY_PARENT_ID, the one
  condition whose treatment by the mempool visitor depends on its position (`condition_counter`).

Which error is reported for a rejected list may depend on the order (cost-exceeded vs. reject); the
theorem is about acceptance.  `_partial`: one condition loop; see `perm_conditions_bundle`. -/
theorem perm_conditions_loop_partial (env : Env) {t t' : Sexp} {cs cs' : List Sexp}
    (ht : sexpList t = some cs) (ht' : sexpList t' = some cs') (hp : List.Perm cs cs')
    {s : CSt} {m : Nat} {s1 : CSt} {m1 : Nat} (hrun : condLoop env t s m = .ok (s1, m1)) :
    ∃ s2, condLoop env t' s m = .ok (s2, m1) ∧
      CEquiv (wrapF (false, true) s1 0 0) (wrapF (false, true) s2 0 0) ∧
      ((env.mempool = false ∨ ∀ items, parseAll env.flags cs = .ok items → NoParentId items) → CEquiv s1 s2) := by
  obtain ⟨items, hps, hK, hm1, u, hu, hs1⟩ := (condLoop_iff env cs t ht s m s1 m1).mp hrun
  obtain ⟨items', hps', hip⟩ := parseAll_perm env.flags hp hps
  obtain ⟨u', hu', he⟩ := perm_conditions_partial env _ (itemConds_perm hip) hu
  have hc := totalCost_perm env.flags hip
  obtain ⟨h1, h2⟩ := Rules.wrapF_items_perm env s.counter hip he
  exact ⟨wrapF (allBits env.mempool s.counter items') u' (totalCount items') (totalCost env.flags items'),
    (condLoop_iff env cs' t' ht' s m _ _).mpr ⟨items', hps', by omega, by omega, u', hu', rfl⟩,
    hs1 ▸ h1, fun hno => hs1 ▸ h2 (hno.imp id (fun h => h items hps))⟩

theorem wrapF_clear_ff (s : CSt) :
    wrapF (false, true) s 0 0 = { s with spend := { s.spend with flags := clearFlag s.spend.flags ELIGIBLE_FOR_FF } } := rfl

/-- **Order of conditions, one spend** (`process_single_spend` + `parse_conditions`): with the condition
list of the spend permuted, the spend is accepted iff it was, the same cost budget is left, and the
per-spend states from which the two results are finished (`finishSpend`) are related as in
`perm_conditions_loop_partial`.  `_partial`: one spend; the effect on the later spends of the bundle and on
`validate_conditions` is `perm_conditions_bundle`. -/
theorem perm_conditions_spend_partial (env : Env) {conds conds' : Sexp} {cs cs' : List Sexp}
    (ht : sexpList conds = some cs) (ht' : sexpList conds' = some cs') (hp : List.Perm cs cs')
    {ret : Bundle} {st : PState} {parent ph amount : Sexp} {cc m : Nat} {r1 : Bundle} {p1 : PState} {m1 : Nat}
    (h : processSingleSpend env ret st parent ph amount conds cc m = .ok ((r1, p1), m1)) :
    ∃ s1 s2, (r1, p1) = finishSpend env s1 ∧
      processSingleSpend env ret st parent ph amount conds' cc m = .ok (finishSpend env s2, m1) ∧
      CEquiv (wrapF (false, true) s1 0 0) (wrapF (false, true) s2 0 0) ∧
      ((env.mempool = false ∨ ∀ items, parseAll env.flags cs = .ok items → NoParentId items) → CEquiv s1 s2) := by
  obtain ⟨s0, s1, hh, hc, hl, hf⟩ := processSingleSpend_iff.mp h
  obtain ⟨s2, hl2, he, he'⟩ := perm_conditions_loop_partial env ht ht' hp hl
  exact ⟨s1, s2, hf, processSingleSpend_iff.mpr ⟨s0, s2, hh, hc, hl2, rfl⟩, he, he'⟩

/-- **The condition loop, order-free**: `condLoop` accepts a NIL-terminated list iff every element parses
(`parseAll`), the total charge (`totalCost`, a sum) fits the countdown, and the parsed conditions are
accepted in order by `applyAll`; the result is the state reached by `applyAll` with the total charge
booked, the conditions counted and the visitor's flags cleared. -/
theorem condLoop_factorisation (env : Env) (cs : List Sexp) (t : Sexp) (ht : sexpList t = some cs)
    (s : CSt) (m : Nat) (s' : CSt) (m' : Nat) :
    condLoop env t s m = .ok (s', m') ↔
      ∃ items, parseAll env.flags cs = .ok items ∧ totalCost env.flags items ≤ m ∧ m' = m - totalCost env.flags items ∧
        ∃ u, applyAll env s (itemConds items) = .ok u ∧
          s' = wrapF (allBits env.mempool s.counter items) u (totalCount items) (totalCost env.flags items) :=
  condLoop_iff env cs t ht s m s' m'

/-- non-vacuity of the side condition: a list without ASSERT_MY_PARENT_ID -/
example : NoParentId [.unknown, .known Gen.opReserveFee (.reserveFee 1)] := by
  intro it hit op id
  simp only [List.mem_cons, List.mem_nil_iff, or_false] at hit
  rcases hit with rfl | rfl <;> simp

open ChiaModel.Rules in
/-- **Order of the spends.**  Let the spend list `t'` be a permutation of the spend list `t` (the tails `tl`,
`tl'` after the spend list are free), and let the signature verdict not depend on the order of the
(public key, signed text) pairs (true of BLS aggregate verification).  If `parse_spends` accepts `(t . tl)`
under cost limit `L`, it accepts `(t' . tl')` under the same limit, and the two summaries agree on

* `cost`, `condition_cost`, `execution_cost`, the removal and addition amounts, `reserve_fee`, the four
  absolute locks, the number of spends and `validated_signature`;
* the spend records: `b'.spends` is a permutation of `b.spends` — every field of every record, including
  the listing order inside a record and both mempool eligibility flags (a spend's record does not depend on
  its position in the bundle);
* the AGG_SIG_UNSAFE pairs, up to listing order.

Both visitors, all flags.  (What does depend on the order: the listing order of `spends` and
`agg_sig_unsafe`, nothing else.)  Proof: `C01.C01_refines` reduces `parse_spends` to the order-free rules
`BundleAccepts` over the parsed spends and to the fold `bundleSummary`; parsing is per spend
(`parseSpendList_perm`); the rules and the aggregates of the fold respect permutation
(`bundleAccepts_bperm`, `bundleSummary_bperm`; the two index-based deferred rules — ASSERT_EPHEMERAL and "a
spend with a relative or birth condition is not ephemeral" — are first put in index-free form,
`eph_clauses_iff`). -/
theorem perm_spends (env : Env) (sigOk : List (Bytes × Bytes) → Bool) (t t' tl tl' : Sexp) (xs xs' : List Sexp)
    (L cc : Nat) (b : Bundle) (st : PState)
    (hsig : ∀ pairs pairs', List.Perm pairs pairs' → sigOk pairs = sigOk pairs')
    (ht : sexpList t = some xs) (ht' : sexpList t' = some xs') (hp : List.Perm xs xs')
    (h : parseSpends env sigOk (.pair t tl) L cc = .ok (b, st)) :
    ∃ b' st', parseSpends env sigOk (.pair t' tl') L cc = .ok (b', st') ∧ b'.cost = b.cost ∧
      b'.conditionCost = b.conditionCost ∧ b'.executionCost = b.executionCost ∧
      b'.removalAmount = b.removalAmount ∧ b'.additionAmount = b.additionAmount ∧
      b'.reserveFee = b.reserveFee ∧ b'.heightAbsolute = b.heightAbsolute ∧
      b'.secondsAbsolute = b.secondsAbsolute ∧ b'.beforeHeightAbsolute = b.beforeHeightAbsolute ∧
      b'.beforeSecondsAbsolute = b.beforeSecondsAbsolute ∧ b'.spends.length = b.spends.length ∧
      b'.validatedSignature = b.validatedSignature ∧
      List.Perm b'.spends b.spends ∧ List.Perm b'.aggSigUnsafe b.aggSigUnsafe := by
  obtain ⟨ps, hpb, hacc, hsum⟩ := (C01.C01_refines env sigOk _ L cc b st).mp h
  simp only [parseBundle, ht] at hpb
  obtain ⟨ps', hps', hperm⟩ := parseSpendList_perm env.flags hp hpb
  have hb := BPerm.of_perm hperm
  have hacc' := bundleAccepts_bperm env sigOk hsig L cc hb hacc
  have hb1 : b = (bundleSummary env cc ps).1 := congrArg Prod.fst hsum
  obtain ⟨a1, a2, a3, a4, a5, a6, a7, a8, a9, a10, a11, a12, a13⟩ := bundleSummary_bperm env cc hb
  refine ⟨(bundleSummary env cc ps').1, (bundleSummary env cc ps').2,
    (C01.C01_refines env sigOk _ L cc _ _).mpr ⟨ps', by simp only [parseBundle, ht', hps'], hacc', rfl⟩, ?_⟩
  rw [hb1]
  exact ⟨a1, a2, a3, a4, a5, a6, a7, a8, a9, a10, a11, a12, (summary_spends_perm env cc hperm).symm, a13⟩

/-- **Acceptance does not depend on the order of the spends** (both directions). -/
theorem perm_spends_accept_iff (env : Env) (sigOk : List (Bytes × Bytes) → Bool) (t t' tl tl' : Sexp)
    (xs xs' : List Sexp) (L cc : Nat)
    (hsig : ∀ pairs pairs', List.Perm pairs pairs' → sigOk pairs = sigOk pairs')
    (ht : sexpList t = some xs) (ht' : sexpList t' = some xs') (hp : List.Perm xs xs') :
    (∃ r, parseSpends env sigOk (.pair t tl) L cc = .ok r) ↔ (∃ r, parseSpends env sigOk (.pair t' tl') L cc = .ok r) := by
  constructor
  · rintro ⟨⟨b, st⟩, h⟩
    obtain ⟨b', st', h', _⟩ := perm_spends env sigOk t t' tl tl' xs xs' L cc b st hsig ht ht' hp h
    exact ⟨_, h'⟩
  · rintro ⟨⟨b, st⟩, h⟩
    obtain ⟨b', st', h', _⟩ := perm_spends env sigOk t' t tl' tl xs' xs L cc b st hsig ht' ht hp.symm h
    exact ⟨_, h'⟩

open ChiaModel.Rules in
/-- **Order of the conditions of a spend, whole bundle.**  Let one spend of the bundle have its condition
list permuted (`conds` → `conds'`; the tails `rest`, `rest'` of the spend tuple and `tl`, `tl'` of the
generator output are free; the other spends `pre`, `post` are unchanged).  If `parse_spends` accepts the
original, it accepts the variant under the same cost limit, and the two summaries agree on

* `cost`, `condition_cost`, `execution_cost`, the removal and addition amounts, `reserve_fee`, the four
  absolute locks, the number of spends and `validated_signature`; the AGG_SIG_UNSAFE pairs up to listing order;
* the spend records: the records of all other spends are identical (every field, both eligibility flags),
  in the same positions; the record `s'` of the permuted spend equals the original `s` on every field up to
  the listing order of `create_coin` and of the seven `agg_sig_*` lists (`SpendEquiv`) once ELIGIBLE_FOR_FF is
  cleared in both, and — ELIGIBLE_FOR_FF included — outright if the visitor is the empty one or no condition
  of the spend parses to ASSERT_MY_PARENT_ID, the one condition the mempool visitor treats by its position.

Both visitors, all flags. -/
theorem perm_conditions_bundle (env : Env) (sigOk : List (Bytes × Bytes) → Bool) (pre post : List Sexp)
    (parent ph amount conds conds' rest rest' tl tl' t t' : Sexp) (cs cs' : List Sexp) (L cc : Nat) (b : Bundle) (st : PState)
    (hsig : ∀ pairs pairs', List.Perm pairs pairs' → sigOk pairs = sigOk pairs')
    (hc : sexpList conds = some cs) (hc' : sexpList conds' = some cs') (hp : List.Perm cs cs')
    (ht : sexpList t = some (pre ++ [.pair parent (.pair ph (.pair amount (.pair conds rest)))] ++ post))
    (ht' : sexpList t' = some (pre ++ [.pair parent (.pair ph (.pair amount (.pair conds' rest')))] ++ post))
    (h : parseSpends env sigOk (.pair t tl) L cc = .ok (b, st)) :
    ∃ b' st', parseSpends env sigOk (.pair t' tl') L cc = .ok (b', st') ∧ b'.cost = b.cost ∧
      b'.conditionCost = b.conditionCost ∧ b'.executionCost = b.executionCost ∧
      b'.removalAmount = b.removalAmount ∧
      b'.additionAmount = b.additionAmount ∧ b'.reserveFee = b.reserveFee ∧
      b'.heightAbsolute = b.heightAbsolute ∧ b'.secondsAbsolute = b.secondsAbsolute ∧
      b'.beforeHeightAbsolute = b.beforeHeightAbsolute ∧ b'.beforeSecondsAbsolute = b.beforeSecondsAbsolute ∧
      b'.spends.length = b.spends.length ∧ b'.validatedSignature = b.validatedSignature ∧
      List.Perm b'.aggSigUnsafe b.aggSigUnsafe ∧
      ∃ sa s s' sc, b.spends = sa ++ s :: sc ∧ b'.spends = sa ++ s' :: sc ∧ sa.length = pre.length ∧
        SpendEquiv { s with flags := clearFlag s.flags ELIGIBLE_FOR_FF } { s' with flags := clearFlag s'.flags ELIGIBLE_FOR_FF } ∧
        ((env.mempool = false ∨ ∀ items, parseAll env.flags cs = .ok items → NoParentId items) → SpendEquiv s s') := by
  obtain ⟨ps, hpb, hacc, hsum⟩ := (C01.C01_refines env sigOk _ L cc b st).mp h
  simp only [parseBundle, ht, List.append_assoc, List.singleton_append] at hpb
  obtain ⟨a, p, c, ha, hpx, hpc, rfl⟩ := (parseSpendList_split env.flags _ post pre ps).mp hpb
  obtain ⟨p', hpx', he, hitems⟩ := parseSpend_conds_perm env.flags (rest := rest) (rest' := rest') hc hc' hp p hpx
  have hps' : parseSpendList env.flags (pre ++ .pair parent (.pair ph (.pair amount (.pair conds' rest'))) :: post) =
      some (a ++ p' :: c) := (parseSpendList_split env.flags _ post pre _).mpr ⟨a, p', c, ha, hpx', hpc, rfl⟩
  have hb := BPerm.replace he a c
  have hacc' := bundleAccepts_bperm env sigOk hsig L cc hb hacc
  have hb1 : b = (bundleSummary env cc (a ++ p :: c)).1 := congrArg Prod.fst hsum
  obtain ⟨a1, a2, a3, a4, a5, a6, a7, a8, a9, a10, a11, a12, a13⟩ := bundleSummary_bperm env cc hb
  obtain ⟨sa, s, s', sc, e1, e2, e3, e4, e5⟩ := summary_spends_replace env cc a c he (hacc.2.2.2.1 p (by simp))
  refine ⟨(bundleSummary env cc (a ++ p' :: c)).1, (bundleSummary env cc (a ++ p' :: c)).2,
    (C01.C01_refines env sigOk _ L cc _ _).mpr
      ⟨a ++ p' :: c, by simp only [parseBundle, ht', List.append_assoc, List.singleton_append, hps'], hacc', rfl⟩, ?_⟩
  rw [hb1]
  refine ⟨a1, a2, a3, a4, a5, a6, a7, a8, a9, a10, a11, a12, a13, sa, s, s', sc, e1, e2,
    by rw [e3, parseSpendList_length _ _ _ ha], e4, ?_⟩
  intro hno
  refine e5 (hno.imp id (fun hn => hn p.items hitems))

/-- **Acceptance does not depend on the order of the conditions of a spend** (both directions). -/
theorem perm_conditions_bundle_accept_iff (env : Env) (sigOk : List (Bytes × Bytes) → Bool) (pre post : List Sexp)
    (parent ph amount conds conds' rest rest' tl tl' t t' : Sexp) (cs cs' : List Sexp) (L cc : Nat)
    (hsig : ∀ pairs pairs', List.Perm pairs pairs' → sigOk pairs = sigOk pairs')
    (hc : sexpList conds = some cs) (hc' : sexpList conds' = some cs') (hp : List.Perm cs cs')
    (ht : sexpList t = some (pre ++ [.pair parent (.pair ph (.pair amount (.pair conds rest)))] ++ post))
    (ht' : sexpList t' = some (pre ++ [.pair parent (.pair ph (.pair amount (.pair conds' rest')))] ++ post)) :
    (∃ r, parseSpends env sigOk (.pair t tl) L cc = .ok r) ↔ (∃ r, parseSpends env sigOk (.pair t' tl') L cc = .ok r) := by
  constructor
  · rintro ⟨⟨b, st⟩, h⟩
    obtain ⟨b', st', h', _⟩ := perm_conditions_bundle env sigOk pre post parent ph amount conds conds' rest rest' tl tl' t t'
      cs cs' L cc b st hsig hc hc' hp ht ht' h
    exact ⟨_, h'⟩
  · rintro ⟨⟨b, st⟩, h⟩
    obtain ⟨b', st', h', _⟩ := perm_conditions_bundle env sigOk pre post parent ph amount conds' conds rest' rest tl' tl t' t
      cs' cs L cc b st hsig hc' hc hp.symm ht' ht h
    exact ⟨_, h'⟩

/-! non-vacuity of the hypotheses of `perm_spends` / `perm_conditions_bundle`: a parent spend `exA` (creates a
coin, reserves a fee, announces) and the spend `exB` of the coin it creates (ASSERT_EPHEMERAL, asserts the
announcement); the bundle is accepted in both orders and with the conditions of `exA` reversed, and the
cross-spend rules are really exercised (`exB` alone is rejected) -/

section
open ChiaModel.Rules

/-- `[exA, exB]` is accepted, by evaluation; the two reordered bundles below are then accepted by the theorems -/
theorem exAB_accepted :
    ∃ r, parseSpends envB (fun _ => true) (.pair (slist [exA, exB]) (.atom [])) 11000000000 0 = .ok r :=
  okB_true (by decide +kernel)

example : ∃ b st, parseSpends envB (fun _ => true) (.pair (slist [exA, exB]) (.atom [])) 11000000000 0 = .ok (b, st) := by
  obtain ⟨⟨b, st⟩, h⟩ := exAB_accepted
  exact ⟨b, st, h⟩
example : sexpList (slist [exA, exB]) = some [exA, exB] ∧ sexpList (slist [exB, exA]) = some [exB, exA] ∧
    List.Perm [exA, exB] [exB, exA] := ⟨rfl, rfl, List.Perm.swap _ _ _⟩
example : ∀ pairs pairs' : List (Bytes × Bytes), List.Perm pairs pairs' → (fun _ => true) pairs = (fun _ => true) pairs' :=
  fun _ _ _ => rfl
example : okB (parseSpends envB (fun _ => true) (.pair (slist [exB, exA]) (.atom [])) 11000000000 0) = true := by
  obtain ⟨r, h⟩ := (perm_spends_accept_iff envB (fun _ => true) (slist [exA, exB]) (slist [exB, exA]) (.atom []) (.atom [])
    [exA, exB] [exB, exA] 11000000000 0 (fun _ _ _ => rfl) rfl rfl (List.Perm.swap _ _ _)).mp exAB_accepted
  rw [h]; rfl
example : ∃ e, parseSpends envB (fun _ => true) (.pair (slist [exB]) (.atom [])) 11000000000 0 = .error e :=
  okB_false (by decide +kernel)
-- `perm_conditions_bundle`: `exA = (parent ph amount conds)`, `exA'` has the conditions reversed; pre = [], post = [exB]
example : ∃ parent ph amount conds conds' rest rest' cs cs',
    exA = .pair parent (.pair ph (.pair amount (.pair conds rest))) ∧
    exA' = .pair parent (.pair ph (.pair amount (.pair conds' rest'))) ∧
    sexpList conds = some cs ∧ sexpList conds' = some cs' ∧ List.Perm cs cs' ∧ cs ≠ cs' ∧
    sexpList (slist [exA, exB]) = some ([] ++ [.pair parent (.pair ph (.pair amount (.pair conds rest)))] ++ [exB]) ∧
    sexpList (slist [exA', exB]) = some ([] ++ [.pair parent (.pair ph (.pair amount (.pair conds' rest')))] ++ [exB]) :=
  ⟨_, _, _, _, _, _, _, [cnd 51 [h32 2, [4]], cnd 52 [[1]], cnd 60 [[7]]], [cnd 60 [[7]], cnd 52 [[1]], cnd 51 [h32 2, [4]]],
    rfl, rfl, rfl, rfl,
    (List.Perm.swap _ _ _).trans ((List.Perm.cons _ (List.Perm.swap _ _ _)).trans (List.Perm.swap _ _ _)),
    by decide, rfl, rfl⟩
example : okB (parseSpends envB (fun _ => true) (.pair (slist [exA', exB]) (.atom [])) 11000000000 0) = true := by
  obtain ⟨r, h⟩ := (perm_conditions_bundle_accept_iff envB (fun _ => true) [] [exB] (.atom (h32 1)) (.atom (h32 2)) (.atom [10])
    (slist [cnd 51 [h32 2, [4]], cnd 52 [[1]], cnd 60 [[7]]]) (slist [cnd 60 [[7]], cnd 52 [[1]], cnd 51 [h32 2, [4]]])
    (.atom []) (.atom []) (.atom []) (.atom []) (slist [exA, exB]) (slist [exA', exB]) _ _ 11000000000 0 (fun _ _ _ => rfl)
    rfl rfl ((List.Perm.swap _ _ _).trans ((List.Perm.cons _ (List.Perm.swap _ _ _)).trans (List.Perm.swap _ _ _)))
    rfl rfl).mp exAB_accepted
  rw [h]; rfl
end

end ChiaModel.C06
