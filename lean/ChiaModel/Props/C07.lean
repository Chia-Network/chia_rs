import ChiaModel.Model.Generator
import ChiaModel.Props.C04
import ChiaModel.Lemmas.GenPaths
/-
C07 — both block-generator execution paths agree.
Theorems about the two path models (Model/Generator.lean).  The interpreter is a parameter: `genRun`,
`puz i`, `romRun` are the unbounded-run results of the generator, of the i-th puzzle and of the ROM
(what is assumed of the interpreter is built into `runWithLimit`).
-/
namespace ChiaModel.C07
open ChiaModel ChiaModel.Cond ChiaModel.Gn

/-- **Both paths refuse what the fork rules refuse.**  Under SIMPLE_GENERATOR a generator whose
serialisation does not start with a quote, or that comes with block references, is rejected by the
legacy and by the native path alike, whatever the interpreter returns. -/
theorem simple_generator_rules (p : Params) (g : GenInput) (genRun romRun : RunRes) (puz : Nat → RunRes) (L : Nat)
    (hs : simpleGen p.flags = true) (hbad : g.startsQuote = false ∨ g.nrefs > 0) :
    (∃ e, legacy p g romRun L = .error e) ∧ (∃ e, native p g genRun puz L = .error e) := by
  -- an accepting run of either path has passed both tests (`legacy_ok_iff`, `native_ok_iff`)
  have hno : ¬(¬(simpleGen p.flags ∧ (!g.startsQuote) = true) ∧ ¬(simpleGen p.flags ∧ g.nrefs > 0)) := by
    rintro ⟨h1, h2⟩
    rcases hbad with hq | hr
    · exact h1 ⟨hs, by rw [hq]; rfl⟩
    · exact h2 ⟨hs, hr⟩
  constructor
  · cases hl : legacy p g romRun L with
    | error e => exact ⟨e, rfl⟩
    | ok b => exact absurd ⟨(legacy_ok_iff.mp hl).1, (legacy_ok_iff.mp hl).2.1⟩ hno
  · cases hn : native p g genRun puz L with
    | error e => exact ⟨e, rfl⟩
    | ok b => exact absurd ⟨(native_ok_iff.mp hn).1, (native_ok_iff.mp hn).2.1⟩ hno

/-- **The legacy path never reports a cost above its limit**, and its reported cost is the byte cost
plus the ROM's execution cost plus a third summand: what the spend loop of `parse_spends` took off the same
countdown (three guarded subtractions from one countdown).  The statement leaves that summand existential and
does not tie it to `condition_cost`. -/
theorem legacy_cost (p : Params) (g : GenInput) (romRun : RunRes) (L : Nat) (b : Bundle)
    (h : legacy p g romRun L = .ok b) :
    b.cost ≤ L ∧ ∃ romCost condCost, b.cost = g.len * p.costPerByte + romCost + condCost ∧ b.executionCost = romCost := by
  obtain ⟨_, _, _, _, rc, spends, args, ret, st, left, b0, _, _, hloop, _, rfl⟩ := legacy_ok_iff.mp h
  have hl := ((isCountdown_spendLoop ..).of_ok hloop).1
  exact ⟨Nat.sub_le _ _, rc, L - g.len * p.costPerByte - rc - left, by show L - left = _; omega, rfl⟩

/-- `RomSpec`: the ROM transcription is exact on accepted runs — whenever the ROM run succeeds, its
output is the tree `romModel` builds from the generator run and the puzzle runs (checked per case by
the harness, which runs the real ROM in clvmr). -/
def RomSpec (romRun genRun : RunRes) (puz : Nat → RunRes) : Prop :=
  ∀ c out, romRun = some (c, out) → romModel genRun puz = some out

/-- `RomCostDominates`: the ROM's cost is at least the generator's cost plus the sum of the costs of the
puzzle runs of the spends in the generator's output (an assumption about CLVM cost accounting: the ROM
*contains* these runs; monitored per case). -/
def RomCostDominates (romRun genRun : RunRes) (puz : Nat → RunRes) : Prop :=
  ∀ rc out gc spends args, romRun = some (rc, out) → genRun = some (gc, .pair spends args) →
    gc + puzCostSum puz spends 0 ≤ rc

/-- what "the same conditions" means between the two block paths: the spends are equal, in order,
up to the per-spend `execution_cost` field (the legacy path passes `clvm_cost = 0` to
`process_single_spend`), and every bundle-level field except `cost` and `execution_cost` is equal. -/
def SameConditions (bn bl : Bundle) : Prop :=
  bn.spends.map eraseExec = bl.spends.map eraseExec ∧
  bn.reserveFee = bl.reserveFee ∧ bn.heightAbsolute = bl.heightAbsolute ∧ bn.secondsAbsolute = bl.secondsAbsolute ∧
  bn.beforeHeightAbsolute = bl.beforeHeightAbsolute ∧ bn.beforeSecondsAbsolute = bl.beforeSecondsAbsolute ∧
  bn.aggSigUnsafe = bl.aggSigUnsafe ∧ bn.removalAmount = bl.removalAmount ∧ bn.additionAmount = bl.additionAmount ∧
  bn.conditionCost = bl.conditionCost ∧ bn.validatedSignature = bl.validatedSignature

theorem sameConditions_of_execRel {a b : Bundle} (h : ExecRel a b) (ca ea cb eb : Nat) :
    SameConditions { a with cost := ca, executionCost := ea } { b with cost := cb, executionCost := eb } := by
  obtain ⟨h1, h2⟩ := h
  refine ⟨h1, ?_⟩
  rw [h2]
  exact ⟨rfl, rfl, rfl, rfl, rfl, rfl, rfl, rfl, rfl, rfl⟩

theorem surplus {a rc gc s : Nat} (h1 : rc ≤ a) (h2 : gc + s ≤ rc) : a - rc + s ≤ a - gc := by omega

def nativeSize (p : Params) (g : GenInput) : Nat :=
  if hasFlag p.flags Gen.flagInternedGenerator then internedVbytes g.prog else g.len

/-- **Legacy accepts ⇒ native accepts** — general form: it suffices that the native size measure does not
exceed the byte length (`nativeSize p g ≤ g.len`; always true without INTERNED_GENERATOR, and with it
exactly when `interned_vbytes ≤ len` — the recorded finding is a generator where this fails). -/
theorem legacy_accepts_native_accepts_size (p : Params) (g : GenInput) (genRun romRun : RunRes) (puz : Nat → RunRes)
    (L : Nat) (bl : Bundle)
    (hrom : RomSpec romRun genRun puz) (hdom : RomCostDominates romRun genRun puz)
    (hsize : nativeSize p g ≤ g.len)
    (h : legacy p g romRun L = .ok bl) :
    ∃ bn, native p g genRun puz L = .ok bn ∧ SameConditions bn bl ∧ bn.cost ≤ bl.cost ∧
      bn.executionCost ≤ bl.executionCost := by
  obtain ⟨hq, hr, hbase, hnode, rc, l, args, ret0, st, left, bl0, hrun, hrc, hloop, hfin, rfl⟩ := legacy_ok_iff.mp h
  obtain ⟨gc, coinSpends, args', l', hgen, hrec, e⟩ := romModel_ok (hrom rc _ hrun)
  injection e with e1 e2; subst e1; subst e2
  have hd := hdom rc _ gc coinSpends args hrun hgen
  have hB : nativeBase p g ≤ g.len * p.costPerByte := Nat.mul_le_mul_right _ hsize
  obtain ⟨retN, hN, hrelN, hexN⟩ := nativeLoop_of_spendLoop (nativeEnv p) puz coinSpends 0 l hrec {} { executionCost := gc } {}
    (spendLimit p.flags) _ ret0 st left hloop ⟨rfl, rfl⟩
  have hgc : gc ≤ L - nativeBase p g :=
    Nat.le_trans (Nat.le_trans (Nat.le_of_add_right_le hd) hrc) (Nat.sub_le_sub_left hB L)
  -- the native countdown has paid less before the loop, so it enters it with a surplus `δ`, which is left over
  obtain ⟨δ, hδ⟩ := Nat.exists_eq_add_of_le
    (Nat.le_trans (surplus hrc hd) (Nat.sub_le_sub_right (Nat.sub_le_sub_left hB L) gc))
  have hN := (isCountdown_nativeLoop ..).shiftUp _ _ _ hN δ
  rw [← hδ] at hN
  obtain ⟨bn0, hfinN, hrel0, hex0⟩ := finishBundle_execRel (env := nativeEnv p) rfl p.sigOk hrelN st hfin
  refine ⟨{ bn0 with cost := L - (left + δ) },
    native_ok_iff.mpr ⟨hq, hr, Nat.le_trans hB hbase, hnode, gc, coinSpends, args, retN, st, _, bn0, hgen, hgc,
      romRecurse_allExtract3 puz _ _ _ hrec, hN, hfinN, rfl⟩,
    sameConditions_of_execRel hrel0 _ bn0.executionCost _ _, Nat.sub_le_sub_left (Nat.le_add_right ..) _, ?_⟩
  show bn0.executionCost ≤ rc
  rw [hex0, hexN]
  exact hd

/-- **Legacy accepts ⇒ native accepts, with the same conditions and no higher cost.**
Hypotheses: the ROM transcription is exact (`RomSpec`), the ROM's cost dominates the generator's cost
plus the puzzle costs (`RomCostDominates`), and `INTERNED_GENERATOR` is not set (with it the native
base cost is a different quantity — the recorded finding).  Claim: if the legacy path accepts under
limit `L`, the native path accepts under the same limit; the two results have the same conditions
(`SameConditions`: spends equal in order up to the per-spend `execution_cost`, all bundle-level
condition fields, the addition/removal amounts, the condition cost and the signature flag equal);
the native path reports no higher cost and no higher execution cost. -/
theorem legacy_accepts_native_accepts (p : Params) (g : GenInput) (genRun romRun : RunRes) (puz : Nat → RunRes)
    (L : Nat) (bl : Bundle)
    (hrom : RomSpec romRun genRun puz) (hdom : RomCostDominates romRun genRun puz)
    (hint : hasFlag p.flags Gen.flagInternedGenerator = false)
    (h : legacy p g romRun L = .ok bl) :
    ∃ bn, native p g genRun puz L = .ok bn ∧ SameConditions bn bl ∧ bn.cost ≤ bl.cost ∧
      bn.executionCost ≤ bl.executionCost :=
  legacy_accepts_native_accepts_size p g genRun romRun puz L bl hrom hdom
    (by simp [nativeSize, hint]) h

/-- **Both reject**: under the same hypotheses, whatever the native path rejects the legacy path rejects. -/
theorem native_rejects_legacy_rejects (p : Params) (g : GenInput) (genRun romRun : RunRes) (puz : Nat → RunRes)
    (L : Nat) (e : Err)
    (hrom : RomSpec romRun genRun puz) (hdom : RomCostDominates romRun genRun puz)
    (hint : hasFlag p.flags Gen.flagInternedGenerator = false)
    (h : native p g genRun puz L = .error e) : ∃ e', legacy p g romRun L = .error e' := by
  cases hl : legacy p g romRun L with
  | error e' => exact ⟨e', rfl⟩
  | ok bl =>
    obtain ⟨bn, hn, _⟩ := legacy_accepts_native_accepts p g genRun romRun puz L bl hrom hdom hint hl
    rw [h] at hn; cases hn

/-- Native accepts ⇒ legacy accepts with the same conditions, or fails for cost, or the ROM run raises —
whatever size measure the native path charged: if it charged more than the bytes, the legacy path only has
more budget left; if it charged less, failing for cost is among the permitted outcomes. -/
theorem native_accepts_legacy_any_size (p : Params) (g : GenInput) (genRun romRun : RunRes) (puz : Nat → RunRes)
    (L : Nat) (bn : Bundle) (hrom : RomSpec romRun genRun puz) (h : native p g genRun puz L = .ok bn) :
    (∃ bl, legacy p g romRun L = .ok bl ∧ SameConditions bn bl) ∨
    legacy p g romRun L = .error .costExceeded ∨ romRun = none := by
  obtain ⟨hq, hr, _, hnode, gc, allSpends, args, retN, st, left, bn0, hgen, _, _, hloop, hfin, rfl⟩ := native_ok_iff.mp h
  cases romRun with
  | none => exact Or.inr (Or.inr rfl)
  | some q =>
    obtain ⟨rc, out⟩ := q
    obtain ⟨gc', cs, args', l, hgen', hrec, rfl⟩ := romModel_ok (hrom rc out rfl)
    rw [hgen] at hgen'
    injection hgen' with hgen'; injection hgen' with e1 e2; injection e2 with e2 e3
    subst e1; subst e2; subst e3
    obtain ⟨hsum, retL, hL, hrelL⟩ := spendLoop_of_nativeLoop (retL := {}) hrec hloop ⟨rfl, rfl⟩
    obtain ⟨bl0, hfinL, hrel0, _⟩ := finishBundle_execRel (env := nativeEnv p) rfl p.sigOk hrelL st hfin
    -- from a budget that pays for the bytes and the ROM run on top of what the native loop needed, the legacy
    -- countdown ends where the native one did; so under `L` it either fails for cost or ends with the same bundle
    obtain ⟨K, hk⟩ : ∃ K, Countdown (legacyCountdown p g (some (rc, .pair l args))) K (.ok (retL, st)) :=
      ⟨_, ((isCountdown_legacyCountdown ..).of_ok ((legacyCountdown_add hnode rc l args _).trans hL)).2⟩
    rw [legacy_eq, if_neg hq, if_neg hr]
    unfold metered
    rw [hk L]
    by_cases hlt : L < K
    · rw [if_pos hlt]
      exact Or.inr (Or.inl rfl)
    · rw [if_neg hlt]
      simp only [Except.map, hfinL]
      exact Or.inl ⟨_, rfl, (sameConditions_of_execRel hrel0.symm _ _ _ _ :
        SameConditions { bn0 with cost := _, executionCost := bn0.executionCost } _)⟩

/-- **Native accepts ⇒ legacy accepts with the same conditions, or legacy fails for cost, or the ROM
run itself raises** (the permitted asymmetry: the legacy path pays the ROM's own execution cost and
runs inside the interpreter's resource limits).  Hypotheses: `RomSpec` and no `INTERNED_GENERATOR`.
No assumption on CLVM cost accounting is needed for this direction. -/
theorem native_accepts_legacy (p : Params) (g : GenInput) (genRun romRun : RunRes) (puz : Nat → RunRes)
    (L : Nat) (bn : Bundle)
    (hrom : RomSpec romRun genRun puz)
    (hint : hasFlag p.flags Gen.flagInternedGenerator = false)
    (h : native p g genRun puz L = .ok bn) :
    (∃ bl, legacy p g romRun L = .ok bl ∧ SameConditions bn bl) ∨
    legacy p g romRun L = .error .costExceeded ∨ romRun = none :=
  native_accepts_legacy_any_size p g genRun romRun puz L bn hrom h

/-! ## non-vacuity of the hypotheses -/
namespace Witness

def p0 : Params := { flags := 0, pkOk := fun _ => true, sigOk := fun _ => true }
def g0 : GenInput := { len := 5, startsQuote := true, prog := Sexp.nil, nrefs := 0 }
def spend0 : Sexp := Sexp.ofList [.atom (List.replicate 32 7), .atom [1], .atom [], Sexp.nil]
def genRun0 : RunRes := some (10, .pair (Sexp.ofList [spend0]) Sexp.nil)
def puz0 : Nat → RunRes := fun _ => some (5, Sexp.nil)
def romRun0 : RunRes :=
  some (50, .pair (Sexp.ofList [Sexp.ofList [.atom (List.replicate 32 7), .atom (Sexp.treeHash (.atom [1])), .atom [], Sexp.nil]]) Sexp.nil)

example : RomSpec romRun0 genRun0 puz0 := by
  intro c out h
  injection h with h; injection h with h1 h2
  subst h2; rfl

/-- 50 ≥ 10 + 5 -/
example : RomCostDominates romRun0 genRun0 puz0 := by
  intro rc out gc spends args h1 h2
  injection h1 with h1; injection h1 with h1 _
  injection h2 with h2; injection h2 with h2 h3; injection h3 with h3 _
  subst h1; subst h2; subst h3
  decide

/-- and the legacy path accepts it, so `legacy_accepts_native_accepts` is not vacuous -/
example : ∃ bl, legacy p0 g0 romRun0 1000000 = .ok bl := ⟨_, rfl⟩

/-- the native path accepts it as well (`native_accepts_legacy` is not vacuous) -/
example : ∃ bn, native p0 g0 genRun0 puz0 1000000 = .ok bn := ⟨_, rfl⟩

end Witness

end ChiaModel.C07
