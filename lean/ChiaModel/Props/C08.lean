import ChiaModel.Model.Generator
import ChiaModel.Props.C11
import ChiaModel.Props.C04
import ChiaModel.Lemmas.BundleBlock
/-
C08 — what the mempool validated is what the block yields.
-/
namespace ChiaModel.C08
open ChiaModel ChiaModel.Gn ChiaModel.Cond

theorem serialize_ofList_length (l : List Sexp) (term : Sexp) :
    (Sexp.serialize (Sexp.ofList l term)).length = (l.map (fun x => 1 + (Sexp.serialize x).length)).sum + (Sexp.serialize term).length := by
  induction l with
  | nil => simp [Sexp.ofList]
  | cons a t ih =>
    simp only [Sexp.ofList, List.foldr_cons, Sexp.serialize, List.length_cons, List.length_append, List.map_cons, List.sum_cons] at ih ⊢
    rw [ih]; omega

theorem serAtom_len32 (b : Bytes) (h : b.length = 32) : (Sexp.serAtom b).length = 33 := by
  rw [C11.serAtom_len_short b (by omega) (by omega), h]

theorem serialize_nil : (Sexp.serialize Sexp.nil).length = 1 := by decide

/-- a coin spend as it occurs in a spend bundle: 32-byte parent id, u64 amount, reveals serialised plainly -/
def WF (s : CoinSpendM) : Prop :=
  s.parent.length = 32 ∧ s.amount < 2^64 ∧ s.puzzleLen = (Sexp.serialize s.puzzle).length ∧ s.solutionLen = (Sexp.serialize s.solution).length

theorem item_length (s : CoinSpendM) (h : WF s) :
    1 + (Sexp.serialize (Sexp.ofList [.atom s.parent, s.puzzle, .atom (canonNat s.amount), s.solution])).length
      = Gen.genLenPerSpend + s.puzzleLen + Gen.clvmBytesLen s.amount + s.solutionLen := by
  obtain ⟨h1, h2, h3, h4⟩ := h
  rw [serialize_ofList_length]
  simp only [List.map_cons, List.map_nil, List.sum_cons, List.sum_nil, Sexp.serialize, serAtom_len32 _ h1, serialize_nil]
  have := C11.clvmBytesLen_ok s.amount h2
  simp only [Sexp.serialize] at this
  rw [h3, h4, this]
  have : Gen.genLenPerSpend = 39 := by decide
  rw [this]
  show 1 + (1 + 33 + (1 + _ + (1 + _ + (1 + _ + 0))) + (Sexp.serAtom []).length) = _
  have : (Sexp.serAtom []).length = 1 := by decide
  rw [this]; omega

/-- **The predicted generator length is the actual serialised length**, for every spend bundle whose
reveals are plainly serialised (any number of spends, any amounts). -/
theorem generator_length (css : List CoinSpendM) (h : ∀ s ∈ css, WF s) :
    calculateGeneratorLength css = (Sexp.serialize (buildGenerator css)).length := by
  simp only [calculateGeneratorLength, buildGenerator, Sexp.serialize, List.length_cons, List.length_append]
  rw [serialize_ofList_length]
  have hb : Gen.genLenBase = 5 := by decide
  have h1 : (Sexp.serAtom [1]).length = 1 := by decide
  rw [hb, h1, serialize_nil]
  have hsum : ((css.map (fun s => Sexp.ofList [.atom s.parent, s.puzzle, .atom (canonNat s.amount), s.solution])).reverse.map
      (fun x => 1 + (Sexp.serialize x).length)).sum
      = (css.map (fun s => Gen.genLenPerSpend + s.puzzleLen + Gen.clvmBytesLen s.amount + s.solutionLen)).sum := by
    rw [List.map_reverse, List.sum_reverse, List.map_map]
    congr 1
    apply List.map_congr_left
    intro s hs
    exact item_length s (h s hs)
  rw [hsum]
  show _ = _ + 1 + (_ + 1 + 1) 
  omega

/-- **Fixed quote-wrapper overhead of the size cost.**  In byte-cost mode the block path's base cost on
the generator built from a bundle exceeds the bundle path's base cost by exactly two bytes' worth
(the `(q . …)` wrapper), for every well-formed bundle. -/
theorem base_cost_offset (css : List CoinSpendM) (h : ∀ s ∈ css, WF s) (cpb : Nat) :
    (Sexp.serialize (buildGenerator css)).length * cpb = (calculateGeneratorLength css - QUOTE_BYTES) * cpb + 2 * cpb := by
  rw [← generator_length css h]
  have : calculateGeneratorLength css ≥ 5 := by
    simp only [calculateGeneratorLength]; have : Gen.genLenBase = 5 := by decide
    omega
  simp only [QUOTE_BYTES]
  rw [← Nat.add_mul]; congr 1; omega

theorem calculateGeneratorLength_reverse (css : List CoinSpendM) :
    calculateGeneratorLength css.reverse = calculateGeneratorLength css := by
  simp only [calculateGeneratorLength, List.map_reverse, List.sum_reverse]

theorem calculateGeneratorLength_replicate (n : Nat) (cs : CoinSpendM) :
    calculateGeneratorLength (List.replicate n cs) =
      Gen.genLenBase + n * (Gen.genLenPerSpend + cs.puzzleLen + Gen.clvmBytesLen cs.amount + cs.solutionLen) := by
  simp only [calculateGeneratorLength, List.map_replicate, List.sum_replicate_nat]

/-- the fixed difference between the cost (and the limit) of the block path on `build_generator css` and of the
bundle path on `css`: the quote's execution cost 20, plus — in byte-cost mode only — the two bytes of the quote
wrapper.  Under INTERNED_GENERATOR both paths intern the SAME tree (`build_generator css`, wrapper included),
so the size costs coincide. -/
def offset (p : Params) : Nat :=
  if hasFlag p.flags Gen.flagInternedGenerator then 20 else 20 + 2 * p.costPerByte

def wrapperCost (p : Params) : Nat := if hasFlag p.flags Gen.flagInternedGenerator then 0 else 2 * p.costPerByte

theorem offset_eq (p : Params) : offset p = 20 + wrapperCost p := by
  unfold offset wrapperCost; split <;> rfl

theorem bundleBase_byte_cost {p : Params} (css : List CoinSpendM) (hint : hasFlag p.flags Gen.flagInternedGenerator = false) :
    bundleBase p css = (calculateGeneratorLength css - QUOTE_BYTES) * p.costPerByte := by
  unfold bundleBase
  rw [if_neg (by simp [hint])]

/-- **Size costs of the two paths, every flag value**: the block path's size cost of `build_generator css`
(plain serialisation) is the bundle path's base cost plus `wrapperCost` — two bytes' worth in byte-cost mode,
NOTHING under INTERNED_GENERATOR. -/
theorem base_cost_offset_all_flags (p : Params) (css : List CoinSpendM) (h : ∀ s ∈ css, WF s) :
    nativeBase p (builtInput css) = bundleBase p css + wrapperCost p := by
  unfold nativeBase bundleBase wrapperCost
  by_cases hint : hasFlag p.flags Gen.flagInternedGenerator = true
  · simp only [hint, if_true, Nat.add_zero]; rfl
  · simp only [hint, if_false, Bool.false_eq_true]
    exact base_cost_offset css h p.costPerByte

/-- what a serialisation `d` bytes shorter than the plain one saves on the block path: `d` bytes' worth in byte-cost
mode, nothing under INTERNED_GENERATOR (the size cost is that of the tree) -/
def saving (p : Params) (d : Nat) : Nat := if hasFlag p.flags Gen.flagInternedGenerator then 0 else d * p.costPerByte

theorem saving_zero (p : Params) : saving p 0 = 0 := by
  unfold saving; split <;> simp

/-- **The bundle path against ANY serialisation of its generator, every flag value.**  Let `g'` describe any byte
string that decodes to `build_generator css` (plain, back-reference compressed, …: decoded program
`build_generator css`, the `ff 01` quote prefix, no references), `d` bytes shorter than the plain serialisation (the
length is irrelevant under INTERNED_GENERATOR), and let the limits satisfy `L' + saving = L + offset`.  Then
`run_spendbundle css` under `L` and `run_block_generator2` on `g'` under `L'` accept together, with the same
conditions (`SameUpToVisitorRev`), block cost + saving = bundle cost + offset, execution cost + 20.  In particular
the cost the mempool computed at admission, plus the fixed `offset`, is an upper bound of the block cost of every
serialisation and is attained by the plain one: a fee-per-cost decision made at admission is not invalidated at
block inclusion. -/
theorem bundle_path_eq_block_path_any_serialization (p : Params) (css : List CoinSpendM) (puz : Nat → RunRes) (L L' d : Nat)
    (hwf : ∀ s ∈ css, WF s) (hph : ∀ s ∈ css, s.puzzleHash = Sexp.treeHash s.puzzle)
    (hlen : css.length < 2^64)
    (hsig : ∀ pairs pairs', List.Perm pairs pairs' → p.sigOk pairs = p.sigOk pairs')
    (g' : GenInput) (hprog : g'.prog = buildGenerator css) (hq : g'.startsQuote = true) (hr : g'.nrefs = 0)
    (hd : hasFlag p.flags Gen.flagInternedGenerator = false → (Sexp.serialize (buildGenerator css)).length = g'.len + d)
    (hL : L' + saving p d = L + offset p) :
    let genRun : RunRes := some (20, quoted g'.prog)
    let puzG : Nat → RunRes := fun i => puz (css.length - 1 - i)
    (∀ bb pairs, runSpendbundle p css puz L = .ok (bb, pairs) →
      (hasFlag p.flags Gen.flagDontValidateSignature = true ∨ p.sigOk pairs = true) →
      ∃ bn, native p g' genRun puzG L' = .ok bn ∧ SameUpToVisitorRev bn bb ∧
        bn.cost + saving p d = bb.cost + offset p ∧ bn.executionCost = bb.executionCost + 20) ∧
    (∀ bn, native p g' genRun puzG L' = .ok bn →
      ∃ bb pairs, runSpendbundle p css puz L = .ok (bb, pairs) ∧
        (hasFlag p.flags Gen.flagDontValidateSignature = true ∨ p.sigOk pairs = true) ∧ SameUpToVisitorRev bn bb ∧
        bn.cost + saving p d = bb.cost + offset p ∧ bn.executionCost = bb.executionCost + 20) := by
  intro genRun puzG
  have hg : Built g' css.reverse := ⟨by rw [hprog, buildGenerator_eq, List.map_reverse], hq, hr⟩
  -- what `g'` is charged for its size, plus the saving, is the size cost of the plain serialisation
  have hN : nativeBase p g' + saving p d = bundleBase p css + wrapperCost p := by
    rw [← base_cost_offset_all_flags p css hwf]
    unfold nativeBase saving
    by_cases hint : hasFlag p.flags Gen.flagInternedGenerator = true
    · simp only [hint, if_true, Nat.add_zero, hprog]; rfl
    · simp only [hint, if_false, Bool.false_eq_true]
      rw [← Nat.add_mul, ← hd (by simpa using hint)]; rfl
  obtain ⟨h1, h2, _⟩ := paths_reversed (bundleBase p css) (nativeBase p g') p css puz L L' g' hg rfl
    (by rw [offset_eq] at hL; omega) hph hlen hsig
  rw [runSpendbundle_with]
  refine ⟨fun bb pairs hb hs => ?_, fun bn hn => ?_⟩
  · obtain ⟨bn, hn, hsame, hc, he⟩ := h1 bb pairs hb hs
    exact ⟨bn, hn, hsame, by rw [offset_eq]; omega, he⟩
  · obtain ⟨bb, pairs, hb, hs, hsame, hc, he⟩ := h2 bn hn
    exact ⟨bb, pairs, hb, hs, hsame, by rw [offset_eq]; omega, he⟩

/-- **The bundle path and the block path agree, for ALL flag values** (INTERNED_GENERATOR included) —
`run_spendbundle` on a spend bundle against `run_block_generator2` on the generator `build_generator` builds
from it.  For a bundle `css` of well-formed
coin spends (32-byte parents, u64 amounts, plainly serialised reveals) whose declared puzzle hashes match and
which has fewer than 2^64 spends, with a signature verdict that does not depend on the order of the (public key,
signed text) pairs (true of BLS aggregate verification): let `g` be `build_generator css` — which lists the spends
in REVERSE order —, let its run be the value of the quote at cost 20, let the puzzle runs of the block path be
those of the bundle path re-indexed to the generator's order (`puz (n − 1 − i)`), and give the block path the limit
`L + offset p`.  Then

* if `run_spendbundle` accepts under `L` and the signature check passes on the pairs it returns (or
  signatures are not validated), `run_block_generator2` accepts; and
* if `run_block_generator2` accepts, `run_spendbundle` accepts and the signature check passes on its pairs;

in both cases the conditions are the same modulo the visitor and the order of the spends
(`SameUpToVisitorRev`), the block cost is the bundle cost plus exactly `offset p` — `20 + 2·cost_per_byte` in
byte-cost mode and `20` under INTERNED_GENERATOR, where the bundle path interns `build_generator css` itself, the
very tree the block path interns after decoding —, and the block execution cost is the bundle's plus 20. -/
theorem bundle_path_eq_block_path_all_flags (p : Params) (css : List CoinSpendM) (puz : Nat → RunRes) (L : Nat)
    (hwf : ∀ s ∈ css, WF s) (hph : ∀ s ∈ css, s.puzzleHash = Sexp.treeHash s.puzzle)
    (hlen : css.length < 2^64)
    (hsig : ∀ pairs pairs', List.Perm pairs pairs' → p.sigOk pairs = p.sigOk pairs') :
    let g : GenInput := { len := (Sexp.serialize (buildGenerator css)).length, startsQuote := true,
                          prog := buildGenerator css, nrefs := 0 }
    let genRun : RunRes := some (20, quoted g.prog)
    let L' := L + offset p
    let puzG : Nat → RunRes := fun i => puz (css.length - 1 - i)
    (∀ bb pairs, runSpendbundle p css puz L = .ok (bb, pairs) →
      (hasFlag p.flags Gen.flagDontValidateSignature = true ∨ p.sigOk pairs = true) →
      ∃ bn, native p g genRun puzG L' = .ok bn ∧ SameUpToVisitorRev bn bb ∧
        bn.cost = bb.cost + offset p ∧ bn.executionCost = bb.executionCost + 20) ∧
    (∀ bn, native p g genRun puzG L' = .ok bn →
      ∃ bb pairs, runSpendbundle p css puz L = .ok (bb, pairs) ∧
        (hasFlag p.flags Gen.flagDontValidateSignature = true ∨ p.sigOk pairs = true) ∧ SameUpToVisitorRev bn bb ∧
        bn.cost = bb.cost + offset p ∧ bn.executionCost = bb.executionCost + 20) := by
  intro g genRun L' puzG
  have h := bundle_path_eq_block_path_any_serialization p css puz L L' 0 hwf hph hlen hsig g rfl rfl rfl (fun _ => rfl)
    (by rw [saving_zero]; rfl)
  simp only [saving_zero, Nat.add_zero] at h
  exact h

/-- **Byte-cost mode** (no `INTERNED_GENERATOR`; goal form of `bundle_path_eq_block_path_all_flags` with the flag
clear): the limit of the block path and its cost exceed the bundle path's by exactly `20 + 2·cost_per_byte` — the
quote's execution cost and the two bytes of the `(q . …)` wrapper (`base_cost_offset`). -/
theorem bundle_path_eq_block_path (p : Params) (css : List CoinSpendM) (puz : Nat → RunRes) (L : Nat)
    (hwf : ∀ s ∈ css, WF s) (hph : ∀ s ∈ css, s.puzzleHash = Sexp.treeHash s.puzzle)
    (hint : hasFlag p.flags Gen.flagInternedGenerator = false) (hlen : css.length < 2^64)
    (hsig : ∀ pairs pairs', List.Perm pairs pairs' → p.sigOk pairs = p.sigOk pairs') :
    let g : GenInput := { len := (Sexp.serialize (buildGenerator css)).length, startsQuote := true,
                          prog := buildGenerator css, nrefs := 0 }
    let genRun : RunRes := some (20, quoted g.prog)
    let L' := L + 20 + 2 * p.costPerByte
    let puzG : Nat → RunRes := fun i => puz (css.length - 1 - i)
    (∀ bb pairs, runSpendbundle p css puz L = .ok (bb, pairs) →
      (hasFlag p.flags Gen.flagDontValidateSignature = true ∨ p.sigOk pairs = true) →
      ∃ bn, native p g genRun puzG L' = .ok bn ∧ SameUpToVisitorRev bn bb ∧
        bn.cost = bb.cost + (20 + 2 * p.costPerByte) ∧ bn.executionCost = bb.executionCost + 20) ∧
    (∀ bn, native p g genRun puzG L' = .ok bn →
      ∃ bb pairs, runSpendbundle p css puz L = .ok (bb, pairs) ∧
        (hasFlag p.flags Gen.flagDontValidateSignature = true ∨ p.sigOk pairs = true) ∧ SameUpToVisitorRev bn bb ∧
        bn.cost = bb.cost + (20 + 2 * p.costPerByte) ∧ bn.executionCost = bb.executionCost + 20) := by
  have h := bundle_path_eq_block_path_all_flags p css puz L hwf hph hlen hsig
  have ho : offset p = 20 + 2 * p.costPerByte := by unfold offset; rw [if_neg (by simp [hint])]
  rw [ho, ← Nat.add_assoc L 20] at h
  exact h

/-- **INTERNED_GENERATOR mode** (goal form of `bundle_path_eq_block_path_all_flags` with the flag set): accept iff
accept, the same conditions, and the block cost is the bundle cost plus EXACTLY 20 — the quote's execution cost;
no size-cost term, because both paths charge the interned size of the same tree `build_generator css`. -/
theorem bundle_path_eq_block_path_interned (p : Params) (css : List CoinSpendM) (puz : Nat → RunRes) (L : Nat)
    (hwf : ∀ s ∈ css, WF s) (hph : ∀ s ∈ css, s.puzzleHash = Sexp.treeHash s.puzzle)
    (hint : hasFlag p.flags Gen.flagInternedGenerator = true) (hlen : css.length < 2^64)
    (hsig : ∀ pairs pairs', List.Perm pairs pairs' → p.sigOk pairs = p.sigOk pairs') :
    let g : GenInput := { len := (Sexp.serialize (buildGenerator css)).length, startsQuote := true,
                          prog := buildGenerator css, nrefs := 0 }
    let genRun : RunRes := some (20, quoted g.prog)
    let L' := L + 20
    let puzG : Nat → RunRes := fun i => puz (css.length - 1 - i)
    (∀ bb pairs, runSpendbundle p css puz L = .ok (bb, pairs) →
      (hasFlag p.flags Gen.flagDontValidateSignature = true ∨ p.sigOk pairs = true) →
      ∃ bn, native p g genRun puzG L' = .ok bn ∧ SameUpToVisitorRev bn bb ∧
        bn.cost = bb.cost + 20 ∧ bn.executionCost = bb.executionCost + 20) ∧
    (∀ bn, native p g genRun puzG L' = .ok bn →
      ∃ bb pairs, runSpendbundle p css puz L = .ok (bb, pairs) ∧
        (hasFlag p.flags Gen.flagDontValidateSignature = true ∨ p.sigOk pairs = true) ∧ SameUpToVisitorRev bn bb ∧
        bn.cost = bb.cost + 20 ∧ bn.executionCost = bb.executionCost + 20) := by
  have h := bundle_path_eq_block_path_all_flags p css puz L hwf hph hlen hsig
  have ho : offset p = 20 := by unfold offset; rw [if_pos hint]
  rw [ho] at h
  exact h

theorem nativeBase_builtInput_reverse {p : Params} {css : List CoinSpendM} (hwf : ∀ s ∈ css, WF s)
    (hint : hasFlag p.flags Gen.flagInternedGenerator = false) :
    nativeBase p (builtInput css.reverse) = bundleBase p css + 2 * p.costPerByte := by
  have := base_cost_offset_all_flags p css.reverse (fun s hs => hwf s (List.mem_reverse.mp hs))
  unfold wrapperCost at this
  rw [if_neg (by simp [hint])] at this
  rw [bundleBase_byte_cost _ hint, calculateGeneratorLength_reverse, ← bundleBase_byte_cost _ hint] at this
  exact this

/-- **Same spend order, byte-cost mode.**  For a bundle `css` of well-formed coin spends whose declared puzzle
hashes match, fewer than 2^64 of them, without `INTERNED_GENERATOR`: against the generator that lists these spends
*in bundle order* (`build_generator` of the reversed bundle), its run the value of the quote at cost 20, the block
path under `L + 20 + 2·cost_per_byte` accepts iff `run_spendbundle` accepts under `L` and the signature check passes
on its pairs; the conditions are the same modulo the visitor (`SameUpToVisitor`), the block cost is the bundle cost
plus `20 + 2·cost_per_byte`, the execution cost 20 more.  (`_partial`: the generator `build_generator css` itself
lists the spends in reverse; that is `bundle_path_eq_block_path`.) -/
theorem bundle_path_eq_block_path_partial (p : Params) (css : List CoinSpendM) (puz : Nat → RunRes) (L : Nat)
    (hwf : ∀ s ∈ css, WF s) (hph : ∀ s ∈ css, s.puzzleHash = Sexp.treeHash s.puzzle)
    (hint : hasFlag p.flags Gen.flagInternedGenerator = false) (hlen : css.length < 2^64) :
    let g : GenInput := { len := (Sexp.serialize (buildGenerator css.reverse)).length, startsQuote := true,
                          prog := buildGenerator css.reverse, nrefs := 0 }
    let genRun : RunRes := some (20, quoted g.prog)
    let L' := L + 20 + 2 * p.costPerByte
    (∀ bb pairs, runSpendbundle p css puz L = .ok (bb, pairs) →
      (hasFlag p.flags Gen.flagDontValidateSignature = true ∨ p.sigOk pairs = true) →
      ∃ bn, native p g genRun puz L' = .ok bn ∧ SameUpToVisitor bn bb ∧
        bn.cost = bb.cost + (20 + 2 * p.costPerByte) ∧ bn.executionCost = bb.executionCost + 20) ∧
    (∀ bn, native p g genRun puz L' = .ok bn →
      ∃ bb pairs, runSpendbundle p css puz L = .ok (bb, pairs) ∧
        (hasFlag p.flags Gen.flagDontValidateSignature = true ∨ p.sigOk pairs = true) ∧ SameUpToVisitor bn bb ∧
        bn.cost = bb.cost + (20 + 2 * p.costPerByte) ∧ bn.executionCost = bb.executionCost + 20) := by
  intro g genRun L'
  have hN := nativeBase_builtInput_reverse (p := p) hwf hint
  obtain ⟨h1, h2⟩ := paths_accept_same_order (bundleBase p css) _ p css puz L L' g (built_builtInput_reverse css) hN
    (by show L + 20 + 2 * p.costPerByte + _ = _; omega) hph hlen
  rw [runSpendbundle_with]
  refine ⟨fun bb pairs hb hs => ?_, fun bn hn => ?_⟩
  · obtain ⟨bn, hn, hsame, hc, he⟩ := h1 bb pairs hb hs
    exact ⟨bn, hn, hsame, by omega, he⟩
  · obtain ⟨bb, pairs, hb, hs, hsame, hc, he⟩ := h2 bn hn
    exact ⟨bb, pairs, hb, hs, hsame, by omega, he⟩

/-- the same read from the generator's side: `build_generator css` against the bundle `css.reverse` -/
theorem bundle_path_eq_block_path_reversed_partial (p : Params) (css : List CoinSpendM) (puz : Nat → RunRes) (L : Nat)
    (hwf : ∀ s ∈ css, WF s) (hph : ∀ s ∈ css, s.puzzleHash = Sexp.treeHash s.puzzle)
    (hint : hasFlag p.flags Gen.flagInternedGenerator = false) (hlen : css.length < 2^64) :
    let g : GenInput := { len := (Sexp.serialize (buildGenerator css)).length, startsQuote := true,
                          prog := buildGenerator css, nrefs := 0 }
    let genRun : RunRes := some (20, quoted g.prog)
    let L' := L + 20 + 2 * p.costPerByte
    (∀ bb pairs, runSpendbundle p css.reverse puz L = .ok (bb, pairs) →
      (hasFlag p.flags Gen.flagDontValidateSignature = true ∨ p.sigOk pairs = true) →
      ∃ bn, native p g genRun puz L' = .ok bn ∧ SameUpToVisitor bn bb ∧
        bn.cost = bb.cost + (20 + 2 * p.costPerByte) ∧ bn.executionCost = bb.executionCost + 20) ∧
    (∀ bn, native p g genRun puz L' = .ok bn →
      ∃ bb pairs, runSpendbundle p css.reverse puz L = .ok (bb, pairs) ∧
        (hasFlag p.flags Gen.flagDontValidateSignature = true ∨ p.sigOk pairs = true) ∧ SameUpToVisitor bn bb ∧
        bn.cost = bb.cost + (20 + 2 * p.costPerByte) ∧ bn.executionCost = bb.executionCost + 20) := by
  have h := bundle_path_eq_block_path_partial p css.reverse puz L
    (fun s hs => hwf s (List.mem_reverse.mp hs)) (fun s hs => hph s (List.mem_reverse.mp hs)) hint
    (by rw [List.length_reverse]; exact hlen)
  rw [List.reverse_reverse] at h
  exact h

/-- the error kind of a result (`none` = accepted); used to let the kernel compute verdicts -/
def errKind {α : Type} : R α → Option Err
  | .ok _ => none
  | .error e => some e

theorem errKind_some {α : Type} {x : R α} {e : Err} (h : errKind x = some e) : x = .error e := by
  cases x with
  | ok a => cases h
  | error e' => injection h with h; rw [h]

def okCost : R Bundle → Option Nat
  | .ok b => some b.cost
  | .error _ => none

/-- **Full verdict, same spend order, every flag value.**  `css` against the quoted generator that lists its
spends in the SAME order (`build_generator css.reverse`, plainly serialised), limits related by
`L' − size cost of the block path = L − base cost of the bundle path + 20` (written without subtraction; in
byte-cost mode this is `L' = L + 20 + 2·cost_per_byte`, see `verdict_same_order_byte_cost`).  When the bundle has
no more spends than LIMIT_SPENDS allows:

* if `run_spendbundle` fails, `run_block_generator2` fails with the SAME error kind;
* if `run_block_generator2` fails with kind `e`, then `run_spendbundle` fails with the same kind `e`, or it
  accepts and the failure is the signature stage (`e = reject`, the check fails on the returned pairs);
* accept/accept with the same conditions modulo the visitor and the exact cost relation. -/
theorem verdict_same_order (p : Params) (css : List CoinSpendM) (puz : Nat → RunRes) (L L' : Nat)
    (hph : ∀ s ∈ css, s.puzzleHash = Sexp.treeHash s.puzzle) (hlen : css.length < 2^64)
    (hm : ¬(hasFlag p.flags Gen.flagLimitSpends ∧ css.length > MAX_SPENDS_PER_BLOCK)) :
    let g : GenInput := { len := (Sexp.serialize (buildGenerator css.reverse)).length, startsQuote := true,
                          prog := buildGenerator css.reverse, nrefs := 0 }
    let genRun : RunRes := some (20, quoted g.prog)
    L' + bundleBase p css = L + 20 + nativeBase p g →
    (∀ e, runSpendbundle p css puz L = .error e → native p g genRun puz L' = .error e) ∧
    (∀ e, native p g genRun puz L' = .error e →
      runSpendbundle p css puz L = .error e ∨
      (e = .reject ∧ ∃ bb pairs, runSpendbundle p css puz L = .ok (bb, pairs) ∧
        ¬(hasFlag p.flags Gen.flagDontValidateSignature = true ∨ p.sigOk pairs = true))) ∧
    (∀ bb pairs, runSpendbundle p css puz L = .ok (bb, pairs) →
      (hasFlag p.flags Gen.flagDontValidateSignature = true ∨ p.sigOk pairs = true) →
      ∃ bn, native p g genRun puz L' = .ok bn ∧ SameUpToVisitor bn bb ∧
        bn.cost + bundleBase p css = bb.cost + 20 + nativeBase p g ∧ bn.executionCost = bb.executionCost + 20) := by
  intro g genRun hL
  obtain ⟨h1, h2⟩ := paths_same_order (bundleBase p css) (nativeBase p g) p css puz L L' g (built_builtInput_reverse css) rfl hL
    hph hlen hm
  rw [runSpendbundle_with]
  refine ⟨h1, fun e hn => ?_, fun bb pairs hb hs => ((h2 bb pairs hb).1 hs)⟩
  cases hb : runBundleWith (bundleBase p css) p css puz L with
  | error e' =>
    rw [h1 e' hb] at hn; injection hn with hn; subst hn
    exact Or.inl rfl
  | ok q =>
    obtain ⟨bb, pairs⟩ := q
    by_cases hs : SigFine p pairs
    · obtain ⟨bn, hn', _⟩ := (h2 bb pairs hb).1 hs
      rw [hn] at hn'; cases hn'
    · rw [(h2 bb pairs hb).2 hs] at hn; injection hn with hn; subst hn
      exact Or.inr ⟨rfl, bb, pairs, rfl, hs⟩

/-- `verdict_same_order` in byte-cost mode, for plainly serialised reveals: the limit relation is
`L' = L + 20 + 2·cost_per_byte` -/
theorem verdict_same_order_byte_cost (p : Params) (css : List CoinSpendM) (puz : Nat → RunRes) (L : Nat)
    (hwf : ∀ s ∈ css, WF s) (hph : ∀ s ∈ css, s.puzzleHash = Sexp.treeHash s.puzzle)
    (hint : hasFlag p.flags Gen.flagInternedGenerator = false) (hlen : css.length < 2^64)
    (hm : ¬(hasFlag p.flags Gen.flagLimitSpends ∧ css.length > MAX_SPENDS_PER_BLOCK)) :
    let g : GenInput := { len := (Sexp.serialize (buildGenerator css.reverse)).length, startsQuote := true,
                          prog := buildGenerator css.reverse, nrefs := 0 }
    let genRun : RunRes := some (20, quoted g.prog)
    let L' := L + 20 + 2 * p.costPerByte
    (∀ e, runSpendbundle p css puz L = .error e → native p g genRun puz L' = .error e) ∧
    (∀ e, native p g genRun puz L' = .error e →
      runSpendbundle p css puz L = .error e ∨
      (e = .reject ∧ ∃ bb pairs, runSpendbundle p css puz L = .ok (bb, pairs) ∧
        ¬(hasFlag p.flags Gen.flagDontValidateSignature = true ∨ p.sigOk pairs = true))) := by
  intro g genRun L'
  have hN : nativeBase p g = bundleBase p css + 2 * p.costPerByte := nativeBase_builtInput_reverse hwf hint
  have h := verdict_same_order p css puz L L' hph hlen hm (by show L' + _ = L + 20 + nativeBase p g; rw [hN]; omega)
  exact ⟨h.1, h.2.1⟩

/-- **Too many spends: both paths fail, not necessarily alike.**  With LIMIT_SPENDS set and more than 6000 spends,
`run_spendbundle` fails with `reject` (TooManySpends is tested before the first spend; `costExceeded` when the
size cost alone exceeds the limit), and `run_block_generator2` on `build_generator css` fails under EVERY limit and
puzzle results — but it tests the limit inside the loop, after 6000 spends have been run and parsed, so it may
report a different kind (`error_kind_differs_too_many_spends`). -/
theorem verdict_too_many (p : Params) (css : List CoinSpendM) (puz puzG : Nat → RunRes) (L L' : Nat)
    (hm : hasFlag p.flags Gen.flagLimitSpends ∧ css.length > MAX_SPENDS_PER_BLOCK) :
    let g : GenInput := { len := (Sexp.serialize (buildGenerator css)).length, startsQuote := true,
                          prog := buildGenerator css, nrefs := 0 }
    let genRun : RunRes := some (20, quoted g.prog)
    runSpendbundle p css puz L = .error (if bundleBase p css ≤ L then .reject else .costExceeded) ∧
    ∃ e, native p g genRun puzG L' = .error e := by
  intro g genRun
  have hmr : TooMany p css.reverse := by unfold TooMany; rw [List.length_reverse]; exact hm
  rw [runSpendbundle_with]
  exact ⟨runBundleWith_tooMany hm,
    (paths_too_many (bundleBase p css) (nativeBase p g) p css.reverse puzG L L' g (built_builtInput css) rfl hmr).2⟩

/-- **Reject iff reject, for `build_generator`'s own order and every flag value.**  Setting of
`bundle_path_eq_block_path_all_flags`.  If `run_spendbundle` fails then `run_block_generator2` fails; if
`run_block_generator2` fails then `run_spendbundle` fails, or it accepts and the signature stage is what failed
(then the kind is `reject`); and when the limit does not even cover the size cost both report `costExceeded`.
The error KINDS of two failing runs can differ — `error_kind_differs_reversed_order` (a cost-exceeded race in
the reversed order) and `error_kind_differs_too_many_spends` —; for equal spend order and at most 6000 spends
they agree (`verdict_same_order`). -/
theorem both_fail (p : Params) (css : List CoinSpendM) (puz : Nat → RunRes) (L : Nat)
    (hwf : ∀ s ∈ css, WF s) (hph : ∀ s ∈ css, s.puzzleHash = Sexp.treeHash s.puzzle)
    (hlen : css.length < 2^64)
    (hsig : ∀ pairs pairs', List.Perm pairs pairs' → p.sigOk pairs = p.sigOk pairs') :
    let g : GenInput := { len := (Sexp.serialize (buildGenerator css)).length, startsQuote := true,
                          prog := buildGenerator css, nrefs := 0 }
    let genRun : RunRes := some (20, quoted g.prog)
    let L' := L + offset p
    let puzG : Nat → RunRes := fun i => puz (css.length - 1 - i)
    (∀ e, runSpendbundle p css puz L = .error e → ∃ e', native p g genRun puzG L' = .error e') ∧
    (∀ e', native p g genRun puzG L' = .error e' →
      (∃ e, runSpendbundle p css puz L = .error e) ∨
      (e' = .reject ∧ ∃ bb pairs, runSpendbundle p css puz L = .ok (bb, pairs) ∧
        ¬(hasFlag p.flags Gen.flagDontValidateSignature = true ∨ p.sigOk pairs = true))) ∧
    (L < bundleBase p css → runSpendbundle p css puz L = .error .costExceeded ∧
      native p g genRun puzG L' = .error .costExceeded) := by
  intro g genRun L' puzG
  have hgB : Built g css.reverse := built_builtInput css
  have hN : nativeBase p g = bundleBase p css + wrapperCost p := base_cost_offset_all_flags p css hwf
  have hL : L' + bundleBase p css = L + 20 + (bundleBase p css + wrapperCost p) := by
    show L + offset p + _ = _; rw [offset_eq]; omega
  obtain ⟨ha, hb, hc⟩ := paths_reversed _ _ p css puz L L' g hgB hN hL hph hlen hsig
  rw [runSpendbundle_with]
  refine ⟨fun e he => ?_, fun e' hn => ?_, fun hlt => ⟨runBundleWith_small hlt, native_built_small hgB hN (by omega)⟩⟩
  · cases hn : native p g genRun puzG L' with
    | error e' => exact ⟨e', rfl⟩
    | ok bn =>
      obtain ⟨bb, pairs, hb', _⟩ := hb bn hn
      rw [he] at hb'; cases hb'
  · cases hbb : runBundleWith (bundleBase p css) p css puz L with
    | error e => exact Or.inl ⟨e, rfl⟩
    | ok q =>
      obtain ⟨bb, pairs⟩ := q
      by_cases hs : SigFine p pairs
      · obtain ⟨bn, hn', _⟩ := ha bb pairs hbb hs
        rw [hn] at hn'; cases hn'
      · rw [hc bb pairs hbb hs] at hn
        injection hn with hn
        exact Or.inr ⟨hn.symm, bb, pairs, rfl, hs⟩

/-- **The block path reads the generator bytes only through (length, quote prefix, decoded program, number of
references).**  For two serialisations `g₁`, `g₂` of the same program (same decoded tree — plain or
back-reference compressed —, same quote prefix, same references):

* under INTERNED_GENERATOR the results of `run_block_generator2` are EQUAL — verdict, error kind, conditions and
  cost — under every limit: the size cost is that of the interned tree, not of the bytes;
* in byte-cost mode, if `g₂` is `d` bytes longer, then its result under `L + d·cost_per_byte` is the result of
  `g₁` under `L` with `d·cost_per_byte` added to the cost: same verdict, same error kind, same conditions
  (both directions, since this is an equation). -/
theorem serialization_independent (p : Params) (g₁ g₂ : GenInput) (genRun : RunRes) (puz : Nat → RunRes) (L : Nat)
    (hq : g₁.startsQuote = g₂.startsQuote) (hp : g₁.prog = g₂.prog) (hr : g₁.nrefs = g₂.nrefs) :
    (hasFlag p.flags Gen.flagInternedGenerator = true →
      native p g₂ genRun puz L = native p g₁ genRun puz L) ∧
    (hasFlag p.flags Gen.flagInternedGenerator = false → ∀ d, g₂.len = g₁.len + d →
      native p g₂ genRun puz (L + d * p.costPerByte) =
        (native p g₁ genRun puz L).map (fun b => { b with cost := b.cost + d * p.costPerByte })) := by
  constructor
  · intro hint
    have hb : nativeBase p g₂ = nativeBase p g₁ + 0 := by
      unfold nativeBase
      simp only [hint, if_true, hp, Nat.add_zero]
    rw [← Nat.add_zero L, native_rebase p g₁ g₂ genRun puz L 0 hq hp hr hb]
    cases native p g₁ genRun puz L <;> rfl
  · intro hint d hd
    have hb : nativeBase p g₂ = nativeBase p g₁ + d * p.costPerByte := by
      unfold nativeBase
      simp only [hint, Bool.false_eq_true, if_false, hd, Nat.add_mul]
    exact native_rebase p g₁ g₂ genRun puz L _ hq hp hr hb

/-- the accepted case of `serialization_independent` in byte-cost mode, spelled out in both directions -/
theorem serialization_independent_accept (p : Params) (g₁ g₂ : GenInput) (genRun : RunRes) (puz : Nat → RunRes) (L d : Nat)
    (hq : g₁.startsQuote = g₂.startsQuote) (hp : g₁.prog = g₂.prog) (hr : g₁.nrefs = g₂.nrefs)
    (hint : hasFlag p.flags Gen.flagInternedGenerator = false) (hd : g₂.len = g₁.len + d) :
    (∀ b₁, native p g₁ genRun puz L = .ok b₁ →
      native p g₂ genRun puz (L + d * p.costPerByte) = .ok { b₁ with cost := b₁.cost + d * p.costPerByte }) ∧
    (∀ b₂, native p g₂ genRun puz (L + d * p.costPerByte) = .ok b₂ →
      ∃ b₁, native p g₁ genRun puz L = .ok b₁ ∧ b₂ = { b₁ with cost := b₁.cost + d * p.costPerByte }) := by
  have h := (serialization_independent p g₁ g₂ genRun puz L hq hp hr).2 hint d hd
  constructor
  · intro b₁ h1
    rw [h, h1]; rfl
  · intro b₂ h2
    rw [h] at h2
    cases h1 : native p g₁ genRun puz L with
    | error e => rw [h1] at h2; cases h2
    | ok b₁ =>
      rw [h1] at h2
      injection h2 with h2
      exact ⟨b₁, rfl, h2.symm⟩

/-! ## non-vacuity of the hypotheses -/
namespace Witness

def p0 : Params := { flags := 0, pkOk := fun _ => true, sigOk := fun _ => true }
def cs0 : CoinSpendM :=
  { parent := List.replicate 32 7, puzzleHash := Sexp.treeHash (.atom [1]), amount := 0,
    puzzle := .atom [1], solution := Sexp.nil, puzzleLen := 1, solutionLen := 1 }
def puz0 : Nat → RunRes := fun _ => some (5, Sexp.nil)

/-- a second coin (other parent id): a two-spend bundle, so that the reversed order of `build_generator`
matters; the signature verdict of `p0` is order-free -/
def cs1 : CoinSpendM := { cs0 with parent := List.replicate 32 8 }
def pI : Params := { flags := Gen.flagInternedGenerator, pkOk := fun _ => true, sigOk := fun _ => true }

/-- Every run of the witness bundles that the examples below speak of, evaluated by the kernel in one go: the runs
share their coin ids and puzzle hashes, and SHA-256 is nearly all of the work, so one evaluation of the conjunction
costs what a single run costs. -/
theorem runs :
    (runSpendbundle p0 [cs0] puz0 1000000).toBool = true ∧
    (runSpendbundle p0 [cs0, cs1] puz0 2000000).toBool = true ∧
    (runSpendbundle pI [cs0, cs1] puz0 2000000).toBool = true ∧
    (okCost ((runSpendbundle pI [cs0, cs1] puz0 2000000).map (·.1)) = some 1200010 ∧
      okCost (native pI (builtInput [cs0, cs1]) (some (20, quoted (buildGenerator [cs0, cs1]))) (fun i => puz0 (2 - 1 - i))
        (2000000 + 20)) = some 1200030) ∧
    (native p0 (builtInput [cs0, cs1]) (some (20, quoted (buildGenerator [cs0, cs1]))) puz0 2000000).toBool = true := by
  decide +kernel

example : ∀ s ∈ [cs0], WF s := by
  intro s hs
  simp only [List.mem_cons, List.mem_nil_iff, or_false] at hs
  subst hs
  exact ⟨by decide, by decide, by decide, by decide⟩

example : ∀ s ∈ [cs0], s.puzzleHash = Sexp.treeHash s.puzzle := by
  intro s hs
  simp only [List.mem_cons, List.mem_nil_iff, or_false] at hs
  subst hs; rfl

/-- the bundle path accepts this bundle: the first half of `bundle_path_eq_block_path_partial` is not vacuous -/
example : (runSpendbundle p0 [cs0] puz0 1000000).toBool = true := runs.1


example : ∀ s ∈ [cs0, cs1], WF s := by
  intro s hs
  simp only [List.mem_cons, List.mem_nil_iff, or_false] at hs
  rcases hs with rfl | rfl <;> exact ⟨by decide, by decide, by decide, by decide⟩

example : ∀ s ∈ [cs0, cs1], s.puzzleHash = Sexp.treeHash s.puzzle := by
  intro s hs
  simp only [List.mem_cons, List.mem_nil_iff, or_false] at hs
  rcases hs with rfl | rfl <;> rfl

example : ∀ pairs pairs' : List (Bytes × Bytes), List.Perm pairs pairs' → p0.sigOk pairs = p0.sigOk pairs' :=
  fun _ _ _ => rfl

/-- the bundle path accepts the two-spend bundle: the first half of `bundle_path_eq_block_path` is not vacuous -/
example : (runSpendbundle p0 [cs0, cs1] puz0 2000000).toBool = true := runs.2.1


example : hasFlag pI.flags Gen.flagInternedGenerator = true := by decide

/-- under INTERNED_GENERATOR the bundle path accepts the two-spend bundle: `bundle_path_eq_block_path_interned`
and `bundle_path_eq_block_path_all_flags` are not vacuous in that mode … -/
example : (runSpendbundle pI [cs0, cs1] puz0 2000000).toBool = true := runs.2.2.1

/-- … and on it the costs are what the theorem says: interned size 100 → 100·12000 + 2·5 on the bundle path, 20
more on the block path under the limit `L + 20` -/
example : okCost ((runSpendbundle pI [cs0, cs1] puz0 2000000).map (·.1)) = some 1200010 ∧
    okCost (native pI (builtInput [cs0, cs1]) (some (20, quoted (buildGenerator [cs0, cs1]))) (fun i => puz0 (2 - 1 - i))
      (2000000 + 20)) = some 1200030 := runs.2.2.2.1

def csA : CoinSpendM :=
  { cs0 with puzzle := .pair (item cs1) Sexp.nil, puzzleHash := Sexp.treeHash (.pair (item cs1) Sexp.nil),
             puzzleLen := (Sexp.serialize (.pair (item cs1) Sexp.nil)).length }

example : ∀ s ∈ [csA, cs1], WF s := by
  intro s hs
  simp only [List.mem_cons, List.mem_nil_iff, or_false] at hs
  rcases hs with rfl | rfl <;> exact ⟨by decide, by decide, by decide +kernel, by decide⟩

/-- **The interned size of `build_generator` depends on the ORDER of the spends** (a spine cell of the spend list
coincides with a subtree of a reveal in one order only): this is why, under INTERNED_GENERATOR, the comparison of
`run_spendbundle css` is with `build_generator css` itself — for which both paths intern the same tree — and why
the same-order statement `verdict_same_order` relates the limits through both size costs instead of a constant. -/
example : internedVbytes (buildGenerator [csA, cs1]) = 106 ∧ internedVbytes (buildGenerator [cs1, csA]) = 103 := by
  decide +kernel

/-- the first puzzle raises, every other one costs more than any limit used here -/
def puzR : Nat → RunRes := fun i => if i = 0 then none else some (1000000000000, Sexp.nil)

/-- **Counterexample: for `build_generator`'s own (reversed) order the error kinds can differ.**  A well-formed
two-spend bundle with matching puzzle hashes whose first puzzle raises and whose second puzzle is too costly:
`run_spendbundle` meets the raising puzzle first (`reject`), `run_block_generator2` on `build_generator css` meets
the costly one first (`costExceeded`).  So "same error kind" is FALSE in the setting of
`bundle_path_eq_block_path_all_flags`; `both_fail` is what holds. -/
theorem error_kind_differs_reversed_order :
    runSpendbundle p0 [cs0, cs1] puzR 1000000000 = .error .reject ∧
    native p0 (builtInput [cs0, cs1]) (some (20, quoted (buildGenerator [cs0, cs1]))) (fun i => puzR (2 - 1 - i))
      (1000000000 + offset p0) = .error .costExceeded :=
  ⟨errKind_some (by decide +kernel), errKind_some (by decide +kernel)⟩

def pL : Params := { flags := Gen.flagLimitSpends, pkOk := fun _ => true, sigOk := fun _ => true }
def many : List CoinSpendM := List.replicate 6001 cs0
def puzBig : Nat → RunRes := fun _ => some (1000000000000, Sexp.nil)

theorem many_wf : ∀ s ∈ many, WF s := by
  intro s hs
  rw [List.eq_of_mem_replicate hs]
  exact ⟨by decide, by decide, by decide, by decide⟩

/-- **Counterexample: with more spends than LIMIT_SPENDS allows the error kinds can differ** (same spend order:
the bundle is 6001 copies of one spend, so it equals its reverse).  `run_spendbundle` tests the number of spends
before running anything (`reject`); `run_block_generator2` runs the first puzzle first, which exceeds the limit
(`costExceeded`).  So the side condition "at most 6000 spends" of `verdict_same_order` cannot be dropped;
`verdict_too_many` is what holds. -/
theorem error_kind_differs_too_many_spends :
    (hasFlag pL.flags Gen.flagLimitSpends ∧ many.length > MAX_SPENDS_PER_BLOCK) ∧ many.reverse = many ∧
    runSpendbundle pL many puzBig 4000000000 = .error .reject ∧
    native pL (builtInput many) (some (20, quoted (buildGenerator many))) puzBig (4000000000 + offset pL)
      = .error .costExceeded := by
  have hmany : TooMany pL many := ⟨by decide, by rw [many, List.length_replicate]; decide⟩
  have hB : bundleBase pL many = 3024540000 := by
    rw [bundleBase_byte_cost many (by decide), many, calculateGeneratorLength_replicate]
    decide
  have hN : nativeBase pL (builtInput many) = 3024564000 := by
    rw [base_cost_offset_all_flags pL many many_wf, hB]; decide
  have hrev : many.reverse = cs0 :: List.replicate 6000 cs0 := by rw [many, List.reverse_replicate]; rfl
  refine ⟨hmany, by rw [many, List.reverse_replicate], ?_, ?_⟩
  · rw [runSpendbundle_with, runBundleWith_tooMany hmany, if_pos (by rw [hB]; decide)]
  · show native pL (builtInput many) (some (20, quoted (builtInput many).prog)) _ _ = _
    rw [native_built_loop (built_builtInput many) hN (by decide), hrev, List.map_cons,
      nativeLoop_cons_costExceeded (c := 1000000000000) (conds := Sexp.nil) _ _ _ _ _ _ _ (by decide) rfl (by decide)]

/-- the block path accepts `build_generator [cs0, cs1]`, plainly serialised: the accepted case of
`serialization_independent` is not vacuous … -/
example : (native p0 (builtInput [cs0, cs1]) (some (20, quoted (buildGenerator [cs0, cs1]))) puz0 2000000).toBool = true :=
  runs.2.2.2.2

/-- … and a serialisation of the same tree that is 3 bytes shorter (as a back-reference form would be) satisfies its
hypotheses -/
example : (builtInput [cs0, cs1]).len = ({ builtInput [cs0, cs1] with len := (builtInput [cs0, cs1]).len - 3 } : GenInput).len + 3 := by
  decide +kernel

end Witness

end ChiaModel.C08
