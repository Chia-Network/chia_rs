import ChiaModel.Lemmas.Builders
import ChiaModel.Lemmas.BuilderBundles
import ChiaModel.Gen.Builder
import ChiaModel.Props.C04
/-
C10 — block builders emit exactly the accepted bundles within the cost limit.

Theorems about the two builder state machines of Model/Builders.lean (`ISt` = InternedBlockBuilder,
`CSt` = BlockBuilder with clvmr's incremental serializer as an oracle under `SerContract`).
Hypotheses used where sums are involved (`Cfg`, `Add.Small`): the limit is below 2^62 and at least the
cost of the empty generator, every declared cost is at most 2^63 and no single batch's byte cost
overflows; under them no `u64` sum of the code can wrap (the model itself wraps like a release build).

Two sentences of the property do NOT hold for the compressed builder on the unchanged code; they are
stated in full (`…_full`), refuted on a concrete history (`…_full_false`, replayed on the real code by
the harness) and proved with the exact exclusion (`…_partial`):  the running estimate of a builder no
attempt has yet reached the serializer of is 20, below the final cost 20 + 5·cost_per_byte; and the
first attempt rejected after serialization changes that estimate.
-/
namespace ChiaModel.C10
open ChiaModel ChiaModel.Gn ChiaModel.Bld

/-- **The constants of both builder files are the specified ones**: 6 skipped items, the 6 000 000
near-full threshold, initial block cost 20 (one quote), initial byte cost 0, and for the interned
builder `WRAPPER_VBYTES` = 11 and `COST_CONS` = 3. -/
theorem builder_consts :
    Gen.cbMaxSkippedItems = maxSkipped ∧ Gen.cbMinCostThreshold = minCostThreshold ∧ Gen.cbInitialBlockCost = quoteCost ∧
    Gen.cbInitialByteCost = 0 ∧ Gen.ibMaxSkippedItems = maxSkipped ∧ Gen.ibMinCostThreshold = minCostThreshold ∧
    Gen.ibInitialBlockCost = quoteCost ∧ Gen.ibInitialByteCost = 0 ∧
    Gen.ibWrapperVbytes = wrapperVbytes ∧ Gen.ibCostCons = costCons := by decide

/-- **`WRAPPER_VBYTES` is the interned weight of the empty generator `(q . (() . ()))`, and `COST_CONS`
the weight of one pair** — the two numbers the estimate's soundness rests on. -/
theorem wrapper_weight : internedVbytes (generator []) = Gen.ibWrapperVbytes ∧ ∀ a b, wt (.pair a b) = Gen.ibCostCons := by
  refine ⟨by decide, fun _ _ => rfl⟩

/-- **Each attempt is all-or-nothing (interned builder; no hypotheses, wrapping arithmetic included).**
A call that does not report `added` (rejected by any of the three guards, or failing on a reveal that
does not deserialize) leaves every field of the builder except `num_skipped` exactly as it was; a call
that reports `added` conses exactly the batch's spends (last spend first) onto the spend list, appends
exactly the batch's signatures, adds the declared cost and the batch's byte weight, and does not touch
`num_skipped`. -/
theorem interned_all_or_nothing (s : ISt) (op : Add) :
    (isAdded (s.step op).2 = false ∧ (s.step op).1 = { s with numSkipped := (s.step op).1.numSkipped }) ∨
    (isAdded (s.step op).2 = true ∧
      (s.step op).1 = { s with byteCost := wadd s.byteCost (newByteCost s.cpb op.items.reverse), spends := op.items ++ s.spends,
                               blockCost := wadd s.blockCost op.cost, sig := s.sig ++ op.tags }) := by
  rcases s.step_cases op with ⟨a, _, n, e⟩ | ⟨a, _, _, _, _, e⟩
  · exact Or.inl ⟨a, by rw [e]⟩
  · exact Or.inr ⟨a, e⟩

/-- **A rejected attempt leaves the interned builder's later output unchanged.**  After any attempt
that was not added, every later attempt gets the same verdict, the same adds are accepted, `cost()`
is the same and `finalize` returns the same generator, signature and cost (or panics alike) as if
the rejected attempt had never been made; only `num_skipped` (hence the `done` hint) differs. -/
theorem interned_rejected_no_effect (s : ISt) (op : Add) (later : List Add) (h : isAdded (s.step op).2 = false) :
    ((s.step op).1.run later).finalize = (s.run later).finalize ∧ ((s.step op).1.run later).cost = (s.run later).cost ∧
    (s.step op).1.accepted later = s.accepted later := by
  rcases s.step_cases op with ⟨_, _, n, e⟩ | ⟨a, _⟩
  · obtain ⟨r1, r2⟩ := ISt.Same.run later (s := (s.step op).1) (t := s) (by rw [e]; exact ⟨rfl, rfl, rfl, rfl, rfl, rfl⟩)
    exact ⟨r1.finalize.1, r1.finalize.2, r2⟩
  · rw [h] at a; cases a

/-- **Contents (interned builder; every history, no hypotheses).**  Whatever `finalize` returns after
any sequence of attempts on a fresh builder is the tree `(q . (L . nil))` where `L` lists exactly the
spends `(parent puzzle amount solution)` of the accepted attempts, newest attempt first and inside an
attempt last spend first (the builder's order). -/
theorem interned_contents (cpb maxCost : Nat) (ops : List Add) (r : Sexp × List Nat × Nat)
    (h : ((ISt.init cpb maxCost).run ops).finalize = some r) :
    r.1 = generator (((ISt.init cpb maxCost).accepted ops).reverse.flatMap Add.items) := by
  rw [ISt.finalize_some h, ISt.run_spends]
  exact congrArg generator (List.append_nil _)

/-- **Signature (interned builder; every history, no hypotheses).**  The signature `finalize` returns
is the aggregate of exactly the signatures of the bundles of the accepted attempts (formal signatures:
the list of aggregated tags, in order).  The second conjunct is the law that reads this under every
interpretation of aggregation as an associative operation with unit (`Mon`; commutativity is not needed):
evaluation takes concatenation of tag lists to the product, so the returned list evaluates to the product of
the accepted attempts' own aggregates. -/
theorem interned_signature (cpb maxCost : Nat) (ops : List Add) (r : Sexp × List Nat × Nat)
    (h : ((ISt.init cpb maxCost).run ops).finalize = some r) :
    r.2.1 = ((ISt.init cpb maxCost).accepted ops).flatMap Add.tags ∧
    ∀ {M : Type} (m : Mon M) (f : Nat → M) (a b : List Nat), m.eval f (a ++ b) = m.mul (m.eval f a) (m.eval f b) := by
  refine ⟨?_, fun m f a b => Mon.eval_append m f a b⟩
  rw [ISt.finalize_some h, ISt.run_sig]
  rfl

/-- **Triangle inequality.**  The interned weight of a union of node sets is at most the sum of the
weights (`vb` = weight of the set of members), it is monotone in the set, and in tree form: a pair
weighs at most 3 plus its two sides. -/
theorem triangle (A B : List Sexp) (t u : Sexp) :
    vb (A ++ B) ≤ vb A + vb B ∧ ((∀ x ∈ A, x ∈ B) → vb A ≤ vb B) ∧
    internedVbytes (.pair t u) ≤ 3 + internedVbytes t + internedVbytes u :=
  ⟨vb_append_le A B, vb_mono, internedVbytes_pair_le t u⟩

/-- **The estimate is an upper bound at every point of every history (interned builder).**  For
constants `Cfg` and a history of small adds, in the state reached: the exact cost `finalize` would
return now is at most `cost()`, `cost()` is at most the limit, neither sum wraps, and `cost()` is
literally byte estimate + 11·cost_per_byte + block cost. -/
theorem interned_estimate_upper (cpb maxCost : Nat) (hc : Cfg wrapperVbytes cpb maxCost) (ops : List Add)
    (hs : AllSmall cpb ops) :
    let s := (ISt.init cpb maxCost).run ops
    s.finalCost ≤ s.cost ∧ s.cost ≤ maxCost ∧
    s.finalCost = internedVbytes (generator s.spends) * cpb + s.blockCost ∧
    s.cost = s.byteCost + wrapperVbytes * cpb + s.blockCost := by
  obtain ⟨e1, e2, e3, e4⟩ := (IInv.run ops (IInv.init hc) hs).1.final_le
  have o3 : ((ISt.init cpb maxCost).run ops).cpb = cpb := ISt.run_cpb _ _
  have o4 : ((ISt.init cpb maxCost).run ops).maxCost = maxCost := ISt.run_maxCost _ _
  rw [o3] at e1 e2; rw [o4] at e4
  exact ⟨e3, e4, e1, e2⟩

/-- **Within the limit, and `finalize` cannot panic (interned builder, unconditional on the
serializer).**  For constants `Cfg` and any history of small adds, `finalize` returns (its `assert!`
does not fire), the returned cost is at most the maximum block cost and at most the last `cost()`. -/
theorem interned_within_limit (cpb maxCost : Nat) (hc : Cfg wrapperVbytes cpb maxCost) (ops : List Add)
    (hs : AllSmall cpb ops) :
    ∃ r, ((ISt.init cpb maxCost).run ops).finalize = some r ∧ r.2.2 ≤ maxCost ∧ r.2.2 ≤ ((ISt.init cpb maxCost).run ops).cost := by
  obtain ⟨h1, h2, _, _⟩ := interned_estimate_upper cpb maxCost hc ops hs
  have o4 : ((ISt.init cpb maxCost).run ops).maxCost = maxCost := ISt.run_maxCost _ _
  exact ⟨_, ISt.finalize_eq (by rw [o4]; exact Nat.le_trans h1 h2), Nat.le_trans h1 h2, h1⟩

/-- **The limit is exact (interned builder): `>` not `>=`.**  In every reachable state, a small add
whose reveals decode is accepted if and only if the near-full guard does not fire and the true total
(estimate so far + the batch's own weight + declared cost) is at most the limit — in particular an
add that lands EXACTLY on the limit is accepted, one unit more is rejected. -/
theorem interned_exact_limit (cpb maxCost : Nat) (hc : Cfg wrapperVbytes cpb maxCost) (ops : List Add)
    (hs : AllSmall cpb ops) (op : Add) (ho : op.Small cpb) :
    let s := (ISt.init cpb maxCost).run ops
    isAdded (s.step op).2 = true ↔
      (¬ s.byteCost + wrapperVbytes * cpb + s.blockCost + minCostThreshold > maxCost ∧ op.bad = false ∧
       s.byteCost + byteSum cpb op.items + wrapperVbytes * cpb + s.blockCost + op.cost ≤ maxCost) := by
  have o3 : ((ISt.init cpb maxCost).run ops).cpb = cpb := ISt.run_cpb _ _
  have o4 : ((ISt.init cpb maxCost).run ops).maxCost = maxCost := ISt.run_maxCost _ _
  have := ISt.step_spec (IInv.run ops (IInv.init hc) hs).1 (op := op) (by rw [o3]; exact ho)
  rw [o3, o4] at this
  exact this

/-- the sentence "each attempt is all-or-nothing" for the compressed builder, in full: a call that is
not added leaves every field but `num_skipped` unchanged -/
def compressed_all_or_nothing_full : Prop :=
  ∀ (s : CSt) (op : Add), SerContract s op → isAdded (s.step op).2 = false →
    (s.step op).1 = { s with numSkipped := (s.step op).1.numSkipped }

/-- **The full sentence fails on the unchanged code**: on a fresh builder (cost_per_byte 12000, limit
10^7) an attempt that serializes to 1000 bytes is rejected after serialization and restored (the
serializer is back at 3 bytes: the contract holds), but `byte_cost` — and with it `cost()` — has moved
from 0 to 5·12000.  Replayed on the real code by the harness (`prop=VIOLATED:rejected-changed-estimate`). -/
theorem compressed_all_or_nothing_full_false : ¬ compressed_all_or_nothing_full := by
  intro h
  have := h (CSt.init 12000 10000000) { bundles := [], cost := 0, sizeAfter := 1000, sizeRestored := 3 }
    ⟨rfl, by decide⟩ (by decide)
  have hb := congrArg CSt.byteCost this
  revert hb
  decide

/-- **All-or-nothing, compressed builder, with the exact exclusion.**  Under the serializer contract
for this add: a call that is not added leaves spends, signature, block cost, serializer size and
constants unchanged, and `byte_cost` becomes (or stays) `(size + 2)·cost_per_byte` — unchanged whenever
it already mirrored the serializer, i.e. always except on a builder no attempt has reached the
serializer of; a call that is added appends exactly the batch's spends (as the last part of the list,
inside the batch last spend first), exactly its signatures and its declared cost. -/
theorem compressed_all_or_nothing_partial (s : CSt) (op : Add) (hc : SerContract s op) :
    (isAdded (s.step op).2 = false ∧
      (s.step op).1 = { s with numSkipped := (s.step op).1.numSkipped, byteCost := (s.step op).1.byteCost } ∧
      ((s.step op).1.byteCost = s.byteCost ∨ (s.step op).1.byteCost = byteCostOf s.size s.cpb)) ∨
    (isAdded (s.step op).2 = true ∧
      (s.step op).1 = { s with size := op.sizeAfter, byteCost := byteCostOf op.sizeAfter s.cpb, spends := s.spends ++ op.items,
                               blockCost := wadd s.blockCost op.cost, sig := s.sig ++ op.tags }) := by
  rcases s.step_cases op with ⟨a, _, n, e⟩ | ⟨a, _, e⟩ | ⟨a, _, _, _, _, e⟩
  · exact Or.inl ⟨a, by rw [e], Or.inl (by rw [e])⟩
  · exact Or.inl ⟨a, by rw [e, hc.restore_undoes], Or.inr (by rw [e, hc.restore_undoes])⟩
  · exact Or.inr ⟨a, e⟩

/-- **Contents (compressed builder; every history, no hypotheses on the numbers).**  The tree whose
serialization the builder has fed to the serializer when `finalize` returns is `(q . (L . nil))` with
`L` exactly the spends of the accepted attempts, oldest attempt first, inside an attempt last spend
first.  (That the returned BYTES decode, back-references resolved, to this tree is the decoding clause
of the serializer contract; it is checked on every case by decoding the real bytes.) -/
theorem compressed_contents (cpb maxCost : Nat) (ops : List Add) (f : Nat) (r : Sexp × List Nat × Nat)
    (h : ((CSt.init cpb maxCost).run ops).finalize f = some r) :
    r.1 = generator (((CSt.init cpb maxCost).accepted ops).flatMap Add.items) ∧
    r.2.1 = ((CSt.init cpb maxCost).accepted ops).flatMap Add.tags := by
  rw [CSt.finalize_some h, CSt.run_spends, CSt.run_sig]
  exact ⟨rfl, rfl⟩

/-- **Signature (compressed builder)**: the aggregate of exactly the accepted attempts' signatures. -/
theorem compressed_signature (cpb maxCost : Nat) (ops : List Add) (f : Nat) (r : Sexp × List Nat × Nat)
    (h : ((CSt.init cpb maxCost).run ops).finalize f = some r) :
    r.2.1 = ((CSt.init cpb maxCost).accepted ops).flatMap Add.tags :=
  (compressed_contents cpb maxCost ops f r h).2

/-- **Within the limit, and `finalize` cannot panic (compressed builder, under the serializer
contract).**  For constants `Cfg` (limit at least 20 + 5·cost_per_byte), a history of small adds along
which the serializer contract holds, and final bytes at most two longer than the serializer's size:
`finalize` returns, its cost is block cost + final length·cost_per_byte, at most the maximum block cost. -/
theorem compressed_within_limit (cpb maxCost : Nat) (hc : Cfg 5 cpb maxCost) (ops : List Add) (hs : AllSmall cpb ops)
    (hser : ContractAlong (CSt.init cpb maxCost) ops) (f : Nat) (hf : FinContract ((CSt.init cpb maxCost).run ops) f) :
    ∃ r, ((CSt.init cpb maxCost).run ops).finalize f = some r ∧ r.2.2 ≤ maxCost ∧
      r.2.2 = ((CSt.init cpb maxCost).run ops).blockCost + f * cpb := by
  obtain ⟨r, h1, h2, h3, _⟩ := (CInv.run ops (CInv.init hc) hs hser).1.finalize hf
  have o3 : ((CSt.init cpb maxCost).run ops).cpb = cpb := CSt.run_cpb _ _
  have o4 : ((CSt.init cpb maxCost).run ops).maxCost = maxCost := CSt.run_maxCost _ _
  rw [o3] at h2; rw [o4] at h3
  exact ⟨r, h1, h3, h2⟩

/-- the sentence "the running cost estimate never underestimates the final cost" for the compressed
builder, in full -/
def compressed_estimate_upper_full : Prop :=
  ∀ (cpb maxCost : Nat), Cfg 5 cpb maxCost → ∀ (ops : List Add), AllSmall cpb ops → ContractAlong (CSt.init cpb maxCost) ops →
    ∀ f r, FinContract ((CSt.init cpb maxCost).run ops) f → ((CSt.init cpb maxCost).run ops).finalize f = some r →
      r.2.2 ≤ ((CSt.init cpb maxCost).run ops).cost

/-- **The full sentence fails on the unchanged code**: a fresh compressed builder (cost_per_byte 12000,
limit 11·10^9, empty history) reports `cost()` = 20 while `finalize` returns 20 + 5·12000 = 60020 (the
five bytes `ff 01 ff 80 80`).  Replayed on the real code (`prop=VIOLATED:estimate-below-final`). -/
theorem compressed_estimate_upper_full_false : ¬ compressed_estimate_upper_full := by
  intro h
  have := h 12000 11000000000 ⟨by decide, by decide⟩ [] (fun _ h => by cases h) trivial 5 (generator [], [], 60020)
    (by unfold FinContract; decide) (by decide)
  revert this
  decide

/-- **Estimate ≥ final cost, compressed builder, with the exact exclusion.**  Same hypotheses as
`compressed_within_limit`; whenever `byte_cost` mirrors the serializer in the final state (`Synced`:
true as soon as one attempt has reached the serializer, see `CInv.step`), the cost `finalize` returns is
at most `cost()`. -/
theorem compressed_estimate_upper_partial (cpb maxCost : Nat) (hc : Cfg 5 cpb maxCost) (ops : List Add) (hs : AllSmall cpb ops)
    (hser : ContractAlong (CSt.init cpb maxCost) ops) (f : Nat) (hf : FinContract ((CSt.init cpb maxCost).run ops) f)
    (hsync : ((CSt.init cpb maxCost).run ops).Synced) (r : Sexp × List Nat × Nat)
    (h : ((CSt.init cpb maxCost).run ops).finalize f = some r) :
    r.2.2 ≤ ((CSt.init cpb maxCost).run ops).cost := by
  obtain ⟨r', h1, _, _, h4⟩ := (CInv.run ops (CInv.init hc) hs hser).1.finalize hf
  rw [h] at h1; injection h1 with h1; rw [h1]; exact h4 hsync

/-- **The limit is exact (compressed builder): `>` not `>=`.**  In every reachable state, under the
contract, a small add whose reveals decode is accepted iff neither pre-check fires (near-full; the
declared cost on top of the current estimate) and the true total after serialization — (size after the
add + 2)·cost_per_byte + block cost + declared cost — is at most the limit; landing exactly on the
limit is accepted. -/
theorem compressed_exact_limit (cpb maxCost : Nat) (hc : Cfg 5 cpb maxCost) (ops : List Add) (hs : AllSmall cpb ops)
    (hser : ContractAlong (CSt.init cpb maxCost) ops) (op : Add) (ho : op.Small cpb)
    (hop : SerContract ((CSt.init cpb maxCost).run ops) op) :
    let s := (CSt.init cpb maxCost).run ops
    isAdded (s.step op).2 = true ↔
      (¬ s.byteCost + s.blockCost + minCostThreshold > maxCost ∧ ¬ s.byteCost + s.blockCost + op.cost > maxCost ∧ op.bad = false ∧
       (op.sizeAfter + 2) * cpb + s.blockCost + op.cost ≤ maxCost) := by
  have hi := (CInv.run ops (CInv.init hc) hs hser).1
  have o3 : ((CSt.init cpb maxCost).run ops).cpb = cpb := CSt.run_cpb _ _
  have o4 : ((CSt.init cpb maxCost).run ops).maxCost = maxCost := CSt.run_maxCost _ _
  simp only
  generalize (CSt.init cpb maxCost).run ops = s at hi o3 o4 hop
  subst o3 o4
  obtain ⟨g1, g2, _, g4, _, _⟩ := hi.guards ho hop
  rw [← g1, ← g2, ← g4]
  rcases s.step_cases op with ⟨a, c, _⟩ | ⟨a, c4, _⟩ | ⟨a, c1, c2, c3, c4, _⟩ <;> rw [a]
  · refine ⟨fun h => Bool.noConfusion h, fun ⟨n1, n2, n3, _⟩ => ?_⟩
    rcases c with c | c | c
    · exact absurd c n1
    · exact absurd c n2
    · rw [c] at n3; cases n3
  · exact ⟨fun h => Bool.noConfusion h, fun ⟨_, _, _, n4⟩ => absurd c4 (Nat.not_lt.mpr n4)⟩
  · exact ⟨fun _ => ⟨c1, c2, c3, Nat.not_lt.mp c4⟩, fun _ => rfl⟩

/-! ## non-vacuity of the hypotheses -/

example : Cfg wrapperVbytes Gen.costPerByte Gen.maxBlockCostClvm ∧ Cfg 5 Gen.costPerByte Gen.maxBlockCostClvm :=
  ⟨⟨by decide, by decide⟩, ⟨by decide, by decide⟩⟩

example : (Add.Small 12000 { bundles := [{ spends := [{ parent := [1], puzzle := .atom [1], amount := 1, solution := Sexp.nil }], sigTag := 1 }],
                              cost := 6000000, sizeAfter := 50, sizeRestored := 3 }) ∧
    SerContract (CSt.init 12000 11000000000) { bundles := [], cost := 0, sizeAfter := 50, sizeRestored := 3 } :=
  ⟨⟨by decide, by decide, by decide, by decide⟩, ⟨rfl, by decide⟩⟩

/-- an add landing exactly on the limit is accepted by the model (interned builder, executable check):
the spend weighs 20 vbytes (17 interned + the linking pair), so estimate 20 + 11·12000 + 20·12000 + declared 6000000 = limit -/
example : isAdded ((ISt.init 12000 (20 + 11 * 12000 + 20 * 12000 + 6000000)).step
    { bundles := [{ spends := [{ parent := [1], puzzle := .atom [1], amount := 1, solution := Sexp.nil }], sigTag := 1 }], cost := 6000000 }).2 = true
  ∧ isAdded ((ISt.init 12000 (20 + 11 * 12000 + 20 * 12000 + 6000000 - 1)).step
    { bundles := [{ spends := [{ parent := [1], puzzle := .atom [1], amount := 1, solution := Sexp.nil }], sigTag := 1 }], cost := 6000000 }).2 = false := by
  decide

/-- **Consensus cost of the interned builder's block.**  Take any builder state whose accumulated
block cost is the quote's 20 plus a total `D` of declared costs.  If `run_block_generator2` (model
`Gn.native`, under INTERNED_GENERATOR, same cost-per-byte) accepts the generator the builder emits
— the generator run being the quote returning the spend list at cost 20 — and the declared costs were
truthful in total, i.e. `D` = execution cost of the puzzles + condition cost of that very run, then the
cost `finalize` computes equals the cost consensus validation charges for the block (no wrap-around:
the sum stays below 2^64).  The decomposition of the consensus cost is C04 `native_cost_decomposition`. -/
theorem interned_consensus_cost (s : ISt) (D : Nat) (p : Params) (g : GenInput) (puz : Nat → RunRes) (L : Nat) (b : Cond.Bundle)
    (hflag : Cond.hasFlag p.flags Gen.flagInternedGenerator = true) (hcpb : p.costPerByte = s.cpb)
    (hprog : g.prog = generator s.spends) (hblock : s.blockCost = quoteCost + D)
    (hrun : native p g (some (quoteCost, .pair (Sexp.ofList s.spends) Sexp.nil)) puz L = .ok b)
    (htruth : quoteCost + D = b.executionCost + b.conditionCost)
    (hsmall : internedVbytes (generator s.spends) * s.cpb + s.blockCost < W) :
    s.finalCost = b.cost := by
  have hd := C04.native_cost_decomposition p g _ puz L b hrun
  unfold nativeBase at hd
  rw [if_pos hflag, hprog, hcpb] at hd
  unfold ISt.finalCost wadd wmul
  have h1 : internedVbytes (generator s.spends) * s.cpb < W := by omega
  rw [Nat.mod_eq_of_lt h1, Nat.mod_eq_of_lt hsmall]
  omega

/-- **Consensus cost of the compressed builder's block** (byte-cost mode): the same statement for
`BlockBuilder::finalize` — the cost it returns, `block_cost + len·cost_per_byte` with `len` the length
of the emitted bytes, is the cost `run_block_generator2` (without INTERNED_GENERATOR) charges for a
generator of that serialised length that decodes to the builder's spend list. -/
theorem compressed_consensus_cost (s : CSt) (finalSize D : Nat) (p : Params) (g : GenInput) (puz : Nat → RunRes) (L : Nat)
    (b : Cond.Bundle) (r : Sexp × List Nat × Nat)
    (hflag : Cond.hasFlag p.flags Gen.flagInternedGenerator = false) (hcpb : p.costPerByte = s.cpb)
    (hlen : g.len = finalSize) (hblock : s.blockCost = quoteCost + D)
    (hrun : native p g (some (quoteCost, .pair (Sexp.ofList s.spends) Sexp.nil)) puz L = .ok b)
    (htruth : quoteCost + D = b.executionCost + b.conditionCost)
    (hsmall : finalSize * s.cpb + s.blockCost < W)
    (hfin : s.finalize finalSize = some r) :
    r.2.2 = b.cost := by
  have hd := C04.native_cost_decomposition p g _ puz L b hrun
  unfold nativeBase at hd
  rw [hflag] at hd
  simp only [Bool.false_eq_true, if_false, hlen, hcpb] at hd
  rw [CSt.finalize_some hfin]
  show wadd s.blockCost (wmul finalSize s.cpb) = b.cost
  rw [wmul_exact (by omega), wadd_exact (by omega)]
  omega

namespace CostWitness
/-- non-vacuity of the two consensus-cost theorems: a one-spend block (identity puzzle creating one
coin; puzzle run 5, CREATE_COIN 1 800 000) whose declared cost is truthful -/
def spend1 : Sexp := Sexp.ofList [.atom (List.replicate 32 7), .atom [1], .atom [2], Sexp.nil]
def conds1 : Sexp := Sexp.ofList [Sexp.ofList [.atom [51], .atom (List.replicate 32 9), .atom [1]]]
def puz1 : Nat → RunRes := fun _ => some (5, conds1)
def pI : Params := { flags := Gen.flagInternedGenerator, pkOk := fun _ => true, sigOk := fun _ => true }
def pC : Params := { flags := 0, pkOk := fun _ => true, sigOk := fun _ => true }
def sI : ISt := { spends := [spend1], blockCost := quoteCost + 1800005, cpb := Gen.costPerByte, maxCost := 11000000000 }
def sC : CSt := { spends := [spend1], blockCost := quoteCost + 1800005, cpb := Gen.costPerByte, maxCost := 11000000000 }
def gI : GenInput := { len := 47, startsQuote := true, prog := generator sI.spends, nrefs := 0 }

example : (match native pI gI (some (quoteCost, .pair (Sexp.ofList sI.spends) Sexp.nil)) puz1 11000000000 with
    | .ok b => decide (quoteCost + 1800005 = b.executionCost + b.conditionCost ∧ sI.finalCost = b.cost)
    | .error _ => false) = true := by decide +kernel

example : (match native pC gI (some (quoteCost, .pair (Sexp.ofList sC.spends) Sexp.nil)) puz1 11000000000, sC.finalize 47 with
    | .ok b, some r => decide (quoteCost + 1800005 = b.executionCost + b.conditionCost ∧ r.2.2 = b.cost)
    | _, _ => false) = true := by decide +kernel
end CostWitness

/-! ## the declared costs are truthful in total: derived from the bundles' mempool validation

`interned_consensus_cost` / `compressed_consensus_cost` take "the declared costs are truthful in total" as a
hypothesis.  Here it is DERIVED from what the mempool did: every bundle handed to the builder was accepted by
`run_spendbundle` (`MpRun.Accepted`) and was declared with the execution + condition cost of that run
(`MpRun.declared` = reported cost − byte cost).  Both cost fields of an accepted run are sums, over the spends, of
a quantity read off the spend's own puzzle run (`Gn.runExec`, `Gn.runCond`; the sums: Lemmas/CostAdditive.lean), on the
mempool path and on the block path alike; so the totals agree whatever the order in which the builder lists the
spends.  ACCEPTANCE of the combined block is a hypothesis (it depends on cross-spend conditions); the WF /
puzzle-hash hypotheses of C08 are not needed for the cost equation.  The puzzle runs are tied together by a
function `run` of the listed item `(parent puzzle amount solution)`: the `j`-th run of a bundle is `run` of its
`j`-th item, the `i`-th run of the block is `run` of the `i`-th item of the emitted list (CLVM is deterministic:
the run of a spend is a function of its puzzle reveal and solution). -/

/-- **The block's execution and condition cost are the sums of the bundles' (any order of the spends).**
`rs` are spend bundles each accepted by `run_spendbundle`; `all` lists exactly their items, in any order
(`List.Perm`; the interned builder emits them all reversed, the compressed builder batch by batch, each batch
reversed).  If `run_block_generator2` accepts a generator whose run returns `all` at cost `c` (20 for the quote),
then its execution cost is `c` + the sum of the bundles' execution costs, its condition cost is the sum of the
bundles' condition costs, and so execution + condition cost = `c` + the sum of the declared costs. -/
theorem bundles_truthful_total (p : Params) (run : Sexp → RunRes) (rs : List MpRun) (all : List Sexp)
    (g : GenInput) (c : Nat) (puz : Nat → RunRes) (L : Nat) (b : Cond.Bundle)
    (hacc : ∀ r ∈ rs, r.Accepted p) (hor : ∀ r ∈ rs, r.Oracle run)
    (hall : all.Perm (rs.flatMap MpRun.items))
    (hpuz : ∀ i (h : i < all.length), puz i = run all[i])
    (hrun : native p g (some (c, .pair (Sexp.ofList all) Sexp.nil)) puz L = .ok b) :
    b.executionCost = c + (rs.map (·.conds.executionCost)).sum ∧
    b.conditionCost = (rs.map (·.conds.conditionCost)).sum ∧
    b.executionCost + b.conditionCost = c + (rs.map MpRun.declared).sum := by
  refine native_costs_of_runs p rs all g c puz L b hacc ?_ hrun
  rw [oracleVals_eq_map puz run all 0 (by intro j hj; rw [Nat.zero_add]; exact hpuz j hj),
    flatMap_congr' fun r hr => (hor r hr).runs_eq, ← List.map_flatMap]
  exact hall.map run

/-- **The same with positional puzzle oracles, in the interned builder's order** (the re-indexing of C08
`bundle_path_eq_block_path`: `fun i => puz (n − 1 − i)`).  `q` lists the puzzle runs of all coin spends of the
bundles `rs` in mempool order (bundle after bundle: `SegmentsOf q 0 rs`); the block lists all their items
REVERSED (last spend first, as `InternedBlockBuilder` conses them) and its `i`-th puzzle run is `q (N − 1 − i)`,
`N` the number of spends.  No assumption that equal items have equal runs. -/
theorem bundles_truthful_total_reversed (p : Params) (rs : List MpRun) (q : Nat → RunRes)
    (g : GenInput) (c : Nat) (puz : Nat → RunRes) (L : Nat) (b : Cond.Bundle)
    (hacc : ∀ r ∈ rs, r.Accepted p) (hseg : SegmentsOf q 0 rs)
    (hpuz : ∀ i, i < totalSpends rs → puz i = q (totalSpends rs - 1 - i))
    (hrun : native p g (some (c, .pair (Sexp.ofList (rs.flatMap MpRun.items).reverse) Sexp.nil)) puz L = .ok b) :
    b.executionCost = c + (rs.map (·.conds.executionCost)).sum ∧
    b.conditionCost = (rs.map (·.conds.conditionCost)).sum ∧
    b.executionCost + b.conditionCost = c + (rs.map MpRun.declared).sum := by
  refine native_costs_of_runs p rs _ g c puz L b hacc ?_ hrun
  rw [List.length_reverse, length_flatMap_items, oracleVals_reverse puz q _ hpuz, SegmentsOf.runs rs 0 hseg]
  exact List.reverse_perm _

/-- **The declared costs of the accepted batches are truthful in total**, for a block that lists their items in any
order: `bundles_truthful_total` over all bundles of all accepted batches. -/
theorem batches_truthful_total (p : Params) (run : Sexp → RunRes) (mp : Add → List MpRun) (acc : List Add)
    (hfrom : ∀ op ∈ acc, op.From p (mp op)) (hor : ∀ op ∈ acc, ∀ r ∈ mp op, r.Oracle run)
    (all : List Sexp) (hall : all.Perm (acc.flatMap Add.items))
    (g : GenInput) (c : Nat) (puz : Nat → RunRes) (L : Nat) (b : Cond.Bundle)
    (hpuz : ∀ i (h : i < all.length), puz i = run all[i])
    (hrun : native p g (some (c, .pair (Sexp.ofList all) Sexp.nil)) puz L = .ok b) :
    c + (acc.map (·.cost)).sum = b.executionCost + b.conditionCost := by
  obtain ⟨hacc, hcost, hperm⟩ := Add.From.flatMap mp acc hfrom
  obtain ⟨_, _, e3⟩ := bundles_truthful_total p run (acc.flatMap mp) all g c puz L b hacc
    (fun r hr => by obtain ⟨op, hop, hr⟩ := List.mem_flatMap.mp hr; exact hor op hop r hr) (hall.trans hperm) hpuz hrun
  rw [e3, hcost]

/-- in the state after a history of small adds, truthful declared costs in total give the consensus cost: the
step that `interned_consensus_cost_of_bundles` and its positional form share -/
theorem interned_final (cpb maxCost : Nat) (hc : Cfg wrapperVbytes cpb maxCost) (ops : List Add) (hs : AllSmall cpb ops)
    (p : Params) (g : GenInput) (puz : Nat → RunRes) (L : Nat) (b : Cond.Bundle)
    (hflag : Cond.hasFlag p.flags Gen.flagInternedGenerator = true) (hcpb : p.costPerByte = cpb)
    (hprog : g.prog = generator ((ISt.init cpb maxCost).run ops).spends)
    (hrun : native p g (some (quoteCost, .pair (Sexp.ofList ((ISt.init cpb maxCost).run ops).spends) Sexp.nil)) puz L = .ok b)
    (htruth : quoteCost + (((ISt.init cpb maxCost).accepted ops).map (·.cost)).sum = b.executionCost + b.conditionCost) :
    ((ISt.init cpb maxCost).run ops).blockCost = b.executionCost + b.conditionCost ∧
    ((ISt.init cpb maxCost).run ops).finalCost = b.cost ∧
    ∃ r, ((ISt.init cpb maxCost).run ops).finalize = some r ∧ r.2.2 = b.cost := by
  obtain ⟨hi, hbc⟩ := IInv.run ops (IInv.init hc) hs
  obtain ⟨u0, _, u1, u2⟩ := hi.final_le
  have o3 : ((ISt.init cpb maxCost).run ops).cpb = cpb := ISt.run_cpb _ _
  have o4 : ((ISt.init cpb maxCost).run ops).maxCost = maxCost := ISt.run_maxCost _ _
  have hsmall : internedVbytes (generator ((ISt.init cpb maxCost).run ops).spends) * ((ISt.init cpb maxCost).run ops).cpb +
      ((ISt.init cpb maxCost).run ops).blockCost < W := by
    have hmax := hc.max_lt
    have hW : W = 2 ^ 64 := rfl
    rw [← u0]; omega
  have hfc := interned_consensus_cost _ _ p g puz L b hflag (hcpb.trans o3.symm) hprog hbc hrun htruth hsmall
  exact ⟨hbc.trans htruth, hfc, _, ISt.finalize_eq (Nat.le_trans u1 u2), hfc⟩

/-- **Consensus cost of the interned builder's block, positional oracles.**  As
`interned_consensus_cost_of_bundles`, with the puzzle runs tied together by position instead of by a function of
the item: the builder's spend list is the items of all coin spends of all accepted bundles completely reversed
(first conclusion), `q` lists their puzzle runs in the order added, and the block's `i`-th run is `q (N − 1 − i)`. -/
theorem interned_consensus_cost_of_bundles_reindexed (cpb maxCost : Nat) (hc : Cfg wrapperVbytes cpb maxCost) (ops : List Add)
    (hs : AllSmall cpb ops) (p : Params) (q : Nat → RunRes) (mp : Add → List MpRun)
    (hfrom : ∀ op ∈ (ISt.init cpb maxCost).accepted ops, op.From p (mp op))
    (rs : List MpRun) (hrs : rs = ((ISt.init cpb maxCost).accepted ops).flatMap mp) (hseg : SegmentsOf q 0 rs)
    (s : ISt) (hsdef : s = (ISt.init cpb maxCost).run ops)
    (g : GenInput) (puz : Nat → RunRes) (L : Nat) (b : Cond.Bundle)
    (hflag : Cond.hasFlag p.flags Gen.flagInternedGenerator = true) (hcpb : p.costPerByte = cpb)
    (hprog : g.prog = generator s.spends)
    (hpuz : ∀ i, i < totalSpends rs → puz i = q (totalSpends rs - 1 - i))
    (hrun : native p g (some (quoteCost, .pair (Sexp.ofList s.spends) Sexp.nil)) puz L = .ok b) :
    s.spends = (rs.flatMap MpRun.items).reverse ∧
    quoteCost + (rs.map MpRun.declared).sum = b.executionCost + b.conditionCost ∧
    s.blockCost = b.executionCost + b.conditionCost ∧
    s.finalCost = b.cost ∧ ∃ r, s.finalize = some r ∧ r.2.2 = b.cost := by
  subst hsdef hrs
  obtain ⟨hacc, hdecl, _⟩ := Add.From.flatMap mp _ hfrom
  have hord := ISt.spends_reversed mp ops (ISt.init cpb maxCost) rfl hfrom
  have hrun' := hrun
  rw [hord] at hrun'
  obtain ⟨_, _, e3⟩ := bundles_truthful_total_reversed p _ q g quoteCost puz L b hacc hseg hpuz hrun'
  obtain ⟨f1, f2, f3⟩ := interned_final cpb maxCost hc ops hs p g puz L b hflag hcpb hprog hrun (by rw [e3, hdecl])
  exact ⟨hord, e3.symm, f1, f2, f3⟩

/-- **Consensus cost of the interned builder's block, from per-bundle mempool acceptance.**  Any history `ops`
of `add_spend_bundles` calls on a fresh builder (constants `Cfg`, small adds); every ACCEPTED batch `op` was
assembled from bundles `mp op` that `run_spendbundle` accepted, and declares the sum of their declared costs
(`Add.From`); the puzzle runs of the bundles and of the block are those of `run` (`MpRun.Oracle`, `hpuz`).  If `run_block_generator2` (INTERNED_GENERATOR, same cost-per-byte) accepts the generator the
builder emits, then: the hypothesis `htruth` of `interned_consensus_cost` holds (20 + the accepted declared
costs = execution + condition cost of the block's own run), that is the builder's `block_cost`, `finalize`
returns, and the cost it returns equals the cost consensus validation charges for the block. -/
theorem interned_consensus_cost_of_bundles (cpb maxCost : Nat) (hc : Cfg wrapperVbytes cpb maxCost) (ops : List Add)
    (hs : AllSmall cpb ops) (p : Params) (run : Sexp → RunRes) (mp : Add → List MpRun)
    (hfrom : ∀ op ∈ (ISt.init cpb maxCost).accepted ops, op.From p (mp op))
    (hor : ∀ op ∈ (ISt.init cpb maxCost).accepted ops, ∀ r ∈ mp op, r.Oracle run)
    (s : ISt) (hsdef : s = (ISt.init cpb maxCost).run ops)
    (g : GenInput) (puz : Nat → RunRes) (L : Nat) (b : Cond.Bundle)
    (hflag : Cond.hasFlag p.flags Gen.flagInternedGenerator = true) (hcpb : p.costPerByte = cpb)
    (hprog : g.prog = generator s.spends)
    (hpuz : ∀ i (h : i < s.spends.length), puz i = run s.spends[i])
    (hrun : native p g (some (quoteCost, .pair (Sexp.ofList s.spends) Sexp.nil)) puz L = .ok b) :
    quoteCost + (((ISt.init cpb maxCost).accepted ops).map (·.cost)).sum = b.executionCost + b.conditionCost ∧
    s.blockCost = b.executionCost + b.conditionCost ∧
    s.finalCost = b.cost ∧ ∃ r, s.finalize = some r ∧ r.2.2 = b.cost := by
  subst hsdef
  have htruth := batches_truthful_total p run mp _ hfrom hor _
    (by rw [ISt.run_spends, show (ISt.init cpb maxCost).spends = [] from rfl, List.append_nil]
        exact (List.reverse_perm _).flatMap_right _) g quoteCost puz L b hpuz hrun
  exact ⟨htruth, interned_final cpb maxCost hc ops hs p g puz L b hflag hcpb hprog hrun htruth⟩

/-- **Consensus cost of the compressed builder's block, from per-bundle mempool acceptance** (byte-cost mode).
Same setting for `BlockBuilder` (constants `Cfg`, small adds, serializer contract along the history and for the
closing bytes): if `run_block_generator2` (without INTERNED_GENERATOR) accepts a generator of the emitted
length `finalSize` that decodes to the builder's spend list, then 20 + the accepted declared costs =
execution + condition cost of that run = the builder's `block_cost`, `finalize` returns, and the cost it
returns equals the cost consensus validation charges for the block. -/
theorem compressed_consensus_cost_of_bundles (cpb maxCost : Nat) (hc : Cfg 5 cpb maxCost) (ops : List Add)
    (hs : AllSmall cpb ops) (hser : ContractAlong (CSt.init cpb maxCost) ops) (finalSize : Nat)
    (hf : FinContract ((CSt.init cpb maxCost).run ops) finalSize)
    (p : Params) (run : Sexp → RunRes) (mp : Add → List MpRun)
    (hfrom : ∀ op ∈ (CSt.init cpb maxCost).accepted ops, op.From p (mp op))
    (hor : ∀ op ∈ (CSt.init cpb maxCost).accepted ops, ∀ r ∈ mp op, r.Oracle run)
    (s : CSt) (hsdef : s = (CSt.init cpb maxCost).run ops)
    (g : GenInput) (puz : Nat → RunRes) (L : Nat) (b : Cond.Bundle)
    (hflag : Cond.hasFlag p.flags Gen.flagInternedGenerator = false) (hcpb : p.costPerByte = cpb)
    (hlen : g.len = finalSize)
    (hpuz : ∀ i (h : i < s.spends.length), puz i = run s.spends[i])
    (hrun : native p g (some (quoteCost, .pair (Sexp.ofList s.spends) Sexp.nil)) puz L = .ok b) :
    quoteCost + (((CSt.init cpb maxCost).accepted ops).map (·.cost)).sum = b.executionCost + b.conditionCost ∧
    s.blockCost = b.executionCost + b.conditionCost ∧
    ∃ r, s.finalize finalSize = some r ∧ r.2.2 = b.cost := by
  subst hsdef
  obtain ⟨_, hbc⟩ := CInv.run ops (CInv.init hc) hs hser
  have htruth := batches_truthful_total p run mp _ hfrom hor _
    (by rw [CSt.run_spends]; exact .refl _) g quoteCost puz L b hpuz hrun
  obtain ⟨r, hr, hle, hval⟩ := compressed_within_limit cpb maxCost hc ops hs hser finalSize hf
  have o3 : ((CSt.init cpb maxCost).run ops).cpb = cpb := CSt.run_cpb _ _
  have hsmall : finalSize * ((CSt.init cpb maxCost).run ops).cpb + ((CSt.init cpb maxCost).run ops).blockCost < W := by
    have hmax := hc.max_lt
    have hW : W = 2 ^ 64 := rfl
    rw [o3]; omega
  exact ⟨htruth, hbc.trans htruth, r, hr,
    compressed_consensus_cost _ finalSize _ p g puz L b r hflag (hcpb.trans o3.symm) hlen hbc hrun htruth hsmall hr⟩

namespace BundleWitness
open CostWitness
/-! non-vacuity of `interned_consensus_cost_of_bundles` / `compressed_consensus_cost_of_bundles`: two one-spend
bundles (the spend of `CostWitness` and the same spend of another coin), each validated by `run_spendbundle`
and declared with 1 800 005 = puzzle run 5 + CREATE_COIN 1 800 000, added by two calls; both calls are accepted,
and the block of both spends is accepted by `run_block_generator2`. -/
def csA : CoinSpendM :=
  { parent := List.replicate 32 7, puzzleHash := Sexp.treeHash (.atom [1]), amount := 2,
    puzzle := .atom [1], solution := Sexp.nil, puzzleLen := 1, solutionLen := 1 }
def csB : CoinSpendM := { csA with parent := List.replicate 32 8 }
def runW : Sexp → RunRes := fun _ => some (5, conds1)
def limitW : Nat := 11000000000
def opA (sizeAfter sizeRestored : Nat) : Add :=
  { bundles := [{ spends := [toSpend csA], sigTag := 1 }], cost := 1800005, sizeAfter := sizeAfter, sizeRestored := sizeRestored }
def opB (sizeAfter sizeRestored : Nat) : Add :=
  { bundles := [{ spends := [toSpend csB], sigTag := 2 }], cost := 1800005, sizeAfter := sizeAfter, sizeRestored := sizeRestored }
def opsW : List Add := [opA 50 3, opB 90 50]
def mpW (p : Params) : Add → List MpRun :=
  fun op => if op.tags = [1] then [mpRun p [csA] puz1 limitW] else [mpRun p [csB] puz1 limitW]

example : item csA = spend1 := by decide

theorem fromW (p : Params) (hA : (runSpendbundle p [csA] puz1 limitW).toBool = true)
    (hB : (runSpendbundle p [csB] puz1 limitW).toBool = true)
    (hdA : (mpRun p [csA] puz1 limitW).declared = 1800005) (hdB : (mpRun p [csB] puz1 limitW).declared = 1800005) :
    ∀ op ∈ opsW, op.From p (mpW p op) ∧ ∀ r ∈ mpW p op, r.Oracle runW := by
  intro op hop
  simp only [opsW, List.mem_cons, List.not_mem_nil, or_false] at hop
  rcases hop with rfl | rfl
  · have hm : mpW p (opA 50 3) = [mpRun p [csA] puz1 limitW] := rfl
    rw [hm]
    refine ⟨⟨by simp only [List.map_cons, List.map_nil, mpRun_css]; rfl, ?_, ?_⟩, ?_⟩
    · intro r hr; simp only [List.mem_cons, List.not_mem_nil, or_false] at hr; subst hr; exact mpRun_accepted hA
    · simp only [List.map_cons, List.map_nil, List.sum_cons, List.sum_nil, hdA]; rfl
    · intro r hr; simp only [List.mem_cons, List.not_mem_nil, or_false] at hr; subst hr
      intro j _; rw [mpRun_puz]; rfl
  · have hm : mpW p (opB 90 50) = [mpRun p [csB] puz1 limitW] := rfl
    rw [hm]
    refine ⟨⟨by simp only [List.map_cons, List.map_nil, mpRun_css]; rfl, ?_, ?_⟩, ?_⟩
    · intro r hr; simp only [List.mem_cons, List.not_mem_nil, or_false] at hr; subst hr; exact mpRun_accepted hB
    · simp only [List.map_cons, List.map_nil, List.sum_cons, List.sum_nil, hdB]; rfl
    · intro r hr; simp only [List.mem_cons, List.not_mem_nil, or_false] at hr; subst hr
      intro j _; rw [mpRun_puz]; rfl

theorem smallW : AllSmall Gen.costPerByte opsW := by
  intro op hop
  simp only [opsW, List.mem_cons, List.not_mem_nil, or_false] at hop
  rcases hop with rfl | rfl <;> exact ⟨by decide +kernel, by decide +kernel, by decide +kernel, by decide +kernel⟩

def sIW : ISt := (ISt.init Gen.costPerByte limitW).run opsW
def gIW : GenInput := { len := 0, startsQuote := true, prog := generator sIW.spends, nrefs := 0 }
def sCW : CSt := (CSt.init Gen.costPerByte limitW).run opsW
def gCW : GenInput := { len := 92, startsQuote := true, prog := generator sCW.spends, nrefs := 0 }

/-- Every run the witness needs — each bundle under each parameter set, and the two blocks — in one evaluation by the
kernel: they share the coin ids and puzzle hashes, and SHA-256 is nearly all of the work, so the conjunction costs
what one run costs. -/
theorem runsW :
    (declares pI [csA] puz1 limitW 1800005 = true ∧ declares pI [csB] puz1 limitW 1800005 = true ∧
      declares pC [csA] puz1 limitW 1800005 = true ∧ declares pC [csB] puz1 limitW 1800005 = true) ∧
    (native pI gIW (some (quoteCost, .pair (Sexp.ofList sIW.spends) Sexp.nil)) puz1 limitW).toBool = true ∧
    (native pC gCW (some (quoteCost, .pair (Sexp.ofList sCW.spends) Sexp.nil)) puz1 limitW).toBool = true := by
  decide +kernel

theorem checkedI :
    ((runSpendbundle pI [csA] puz1 limitW).toBool = true ∧ (mpRun pI [csA] puz1 limitW).declared = 1800005) ∧
    ((runSpendbundle pI [csB] puz1 limitW).toBool = true ∧ (mpRun pI [csB] puz1 limitW).declared = 1800005) :=
  ⟨mpRun_checked runsW.1.1, mpRun_checked runsW.1.2.1⟩

theorem checkedC :
    ((runSpendbundle pC [csA] puz1 limitW).toBool = true ∧ (mpRun pC [csA] puz1 limitW).declared = 1800005) ∧
    ((runSpendbundle pC [csB] puz1 limitW).toBool = true ∧ (mpRun pC [csB] puz1 limitW).declared = 1800005) :=
  ⟨mpRun_checked runsW.1.2.2.1, mpRun_checked runsW.1.2.2.2⟩

theorem fromWI : ∀ op ∈ opsW, op.From pI (mpW pI op) ∧ ∀ r ∈ mpW pI op, r.Oracle runW :=
  fromW pI checkedI.1.1 checkedI.2.1 checkedI.1.2 checkedI.2.2

theorem fromWC : ∀ op ∈ opsW, op.From pC (mpW pC op) ∧ ∀ r ∈ mpW pC op, r.Oracle runW :=
  fromW pC checkedC.1.1 checkedC.2.1 checkedC.1.2 checkedC.2.2

theorem forall_mem_pair {α : Type} {P : α → Prop} {a b : α} (ha : P a) (hb : P b) : ∀ x ∈ [a, b], P x :=
  List.forall_mem_cons.mpr ⟨ha, List.forall_mem_singleton.mpr hb⟩

theorem cfgW (floorBytes : Nat) (h : floorBytes ≤ 11) : Cfg floorBytes Gen.costPerByte limitW :=
  ⟨by decide, Nat.le_trans (Nat.add_le_add_right (Nat.mul_le_mul_right _ h) _) (by decide)⟩


theorem acceptedW : (ISt.init Gen.costPerByte limitW).accepted opsW = opsW := by
  have h1 : isAdded ((ISt.init Gen.costPerByte limitW).step (opA 50 3)).2 = true := by decide +kernel
  have h2 : isAdded (((ISt.init Gen.costPerByte limitW).step (opA 50 3)).1.step (opB 90 50)).2 = true := by decide +kernel
  simp only [opsW, ISt.accepted, h1, h2, if_true]
  rfl

theorem spendsIW : sIW.spends = [item csB, item csA] := by decide +kernel

theorem nativeIW : ∃ b, native pI gIW (some (quoteCost, .pair (Sexp.ofList sIW.spends) Sexp.nil)) puz1 limitW = .ok b :=
  toBool_ok runsW.2.1

/-- the interned builder accepts both calls, and all hypotheses of `interned_consensus_cost_of_bundles` hold
together: the theorem applies and yields the cost equation for an existing accepted block -/
example : ((ISt.init Gen.costPerByte limitW).accepted opsW).length = 2 ∧
    ∃ b, native pI gIW (some (quoteCost, .pair (Sexp.ofList sIW.spends) Sexp.nil)) puz1 limitW = .ok b ∧
      quoteCost + (1800005 + 1800005) = b.executionCost + b.conditionCost ∧ sIW.finalCost = b.cost := by
  obtain ⟨b, hn⟩ := nativeIW
  obtain ⟨t1, _, t3, _⟩ := interned_consensus_cost_of_bundles Gen.costPerByte limitW (cfgW _ (by decide)) opsW smallW pI runW (mpW pI)
    (fun op hop => (fromWI op (ISt.mem_accepted _ _ hop)).1) (fun op hop => (fromWI op (ISt.mem_accepted _ _ hop)).2)
    sIW rfl gIW puz1 limitW b (by decide) rfl rfl (fun _ _ => rfl) hn
  rw [acceptedW] at t1
  exact ⟨by rw [acceptedW]; rfl, b, hn, t1, t3⟩

/-- … and all hypotheses of the positional form `interned_consensus_cost_of_bundles_reindexed` hold together on the
same history (`q` = the two bundles' runs in the order added, the block reads them backwards) -/
example : ∃ b, native pI gIW (some (quoteCost, .pair (Sexp.ofList sIW.spends) Sexp.nil)) puz1 limitW = .ok b ∧
    sIW.spends = [item csB, item csA] ∧ sIW.finalCost = b.cost := by
  obtain ⟨b, hn⟩ := nativeIW
  have hrs : [mpRun pI [csA] puz1 limitW, mpRun pI [csB] puz1 limitW] =
      ((ISt.init Gen.costPerByte limitW).accepted opsW).flatMap (mpW pI) := by rw [acceptedW]; rfl
  have hseg : SegmentsOf puz1 0 [mpRun pI [csA] puz1 limitW, mpRun pI [csB] puz1 limitW] :=
    ⟨fun j _ => by rw [mpRun_puz]; rfl, fun j _ => by rw [mpRun_puz]; rfl, trivial⟩
  obtain ⟨_, _, _, t3, _⟩ := interned_consensus_cost_of_bundles_reindexed Gen.costPerByte limitW (cfgW _ (by decide)) opsW smallW
    pI puz1 (mpW pI) (fun op hop => (fromWI op (ISt.mem_accepted _ _ hop)).1)
    _ hrs hseg sIW rfl gIW puz1 limitW b (by decide) rfl rfl (fun _ _ => rfl) hn
  exact ⟨b, hn, spendsIW, t3⟩

/-- the hypotheses of the order-free form `bundles_truthful_total` hold together: the two accepted bundles, the
block listing their items in the other order -/
example : ∃ b, native pI gIW (some (quoteCost, .pair (Sexp.ofList [item csB, item csA]) Sexp.nil)) puz1 limitW = .ok b ∧
    b.executionCost + b.conditionCost =
      quoteCost + ([mpRun pI [csA] puz1 limitW, mpRun pI [csB] puz1 limitW].map MpRun.declared).sum := by
  obtain ⟨b, hn⟩ := nativeIW
  rw [spendsIW] at hn
  refine ⟨b, hn, (bundles_truthful_total pI runW _ [item csB, item csA] gIW quoteCost puz1 limitW b
    (forall_mem_pair (mpRun_accepted checkedI.1.1) (mpRun_accepted checkedI.2.1))
    (forall_mem_pair (fun j _ => by rw [mpRun_puz]; rfl) (fun j _ => by rw [mpRun_puz]; rfl)) ?_ (fun _ _ => rfl) hn).2.2⟩
  simp only [List.flatMap_cons, List.flatMap_nil, MpRun.items, mpRun_css, List.map_cons, List.map_nil, List.nil_append,
    List.cons_append]
  exact List.Perm.swap _ _ _


theorem contractW : ContractAlong (CSt.init Gen.costPerByte limitW) opsW :=
  ⟨⟨by decide +kernel, by decide +kernel⟩, ⟨by decide +kernel, by decide +kernel⟩, trivial⟩

/-- the same for the compressed builder (serializer sizes 3 → 50 → 90, final length 92) -/
example : ((CSt.init Gen.costPerByte limitW).accepted opsW).length = 2 ∧
    ∃ b r, native pC gCW (some (quoteCost, .pair (Sexp.ofList sCW.spends) Sexp.nil)) puz1 limitW = .ok b ∧
      sCW.finalize 92 = some r ∧ quoteCost + (1800005 + 1800005) = b.executionCost + b.conditionCost ∧ r.2.2 = b.cost := by
  have hacc : (CSt.init Gen.costPerByte limitW).accepted opsW = opsW := by
    have h1 : isAdded ((CSt.init Gen.costPerByte limitW).step (opA 50 3)).2 = true := by decide +kernel
    have h2 : isAdded (((CSt.init Gen.costPerByte limitW).step (opA 50 3)).1.step (opB 90 50)).2 = true := by decide +kernel
    simp only [opsW, CSt.accepted, h1, h2, if_true]
    rfl
  obtain ⟨b, hn⟩ : ∃ b, native pC gCW (some (quoteCost, .pair (Sexp.ofList sCW.spends) Sexp.nil)) puz1 limitW = .ok b :=
    toBool_ok runsW.2.2
  obtain ⟨t1, _, r, hr, t3⟩ := compressed_consensus_cost_of_bundles Gen.costPerByte limitW (cfgW _ (by decide)) opsW smallW
    contractW 92 (by unfold FinContract; decide +kernel) pC runW (mpW pC)
    (fun op hop => (fromWC op (CSt.mem_accepted _ _ hop)).1) (fun op hop => (fromWC op (CSt.mem_accepted _ _ hop)).2)
    sCW rfl gCW puz1 limitW b (by decide) rfl rfl (fun _ _ => rfl) hn
  rw [hacc] at t1
  exact ⟨by rw [hacc]; rfl, b, r, hn, hr, t1, t3⟩
end BundleWitness

end ChiaModel.C10
