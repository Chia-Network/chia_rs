import ChiaModel.Lemmas.Ints
/-
C11 — all integer encoders agree on the canonical CLVM integer form.
`Gen.*` definitions are regenerated from the Rust source by the translator on every run, so the
theorems about them are re-checked against the current source.
-/
namespace ChiaModel.C11
open ChiaModel

/-- Specification sanity: `canonNat` really is the minimal two's-complement form. -/
theorem canonNat_spec (v : Nat) (hv : v < 2^64) :
    beVal (canonNat v) = v ∧ intOfBytes (canonNat v) = v ∧ Minimal (canonNat v) ∧ isBytes (canonNat v) := by
  have hv' : v < 128 * 256 ^ 17 := Nat.lt_trans hv (by decide)
  have hb := beVal_canonNat v hv'
  obtain ⟨hh, hm⟩ := canonNat_nonneg_minimal v hv'
  exact ⟨hb, by rw [intOfBytes_of_head _ hh, hb], hm, be_isBytes _ _⟩

/-! ### The three ladders (translator-generated definitions)

Each threshold is `128·256^k`, so an arm is entered with `128·256^k ≤ v < 128·256^(k+1)`, which is
`byteLen v = k + 2` (`byteLen_eq_add_two`). -/

theorem u64ToBytesStart_eq (v : Nat) (hv : v < 128 * 256 ^ 7) : Gen.u64ToBytesStart v = 8 - byteLen v := by
  have arm : ∀ k, ¬ v ≥ 128 * 256 ^ (k + 1) → v ≥ 128 * 256 ^ k → 6 - k = 8 - byteLen v :=
    fun k h1 h2 => by
      rw [byteLen_eq_add_two k v (Nat.lt_trans hv (by decide)) h2 (Nat.lt_of_not_le h1)]
      omega
  unfold Gen.u64ToBytesStart
  refine ite_eq_of (arm 6 (Nat.not_le_of_lt hv)) fun h6 => ?_
  refine ite_eq_of (arm 5 h6) fun h5 => ?_
  refine ite_eq_of (arm 4 h5) fun h4 => ?_
  refine ite_eq_of (arm 3 h4) fun h3 => ?_
  refine ite_eq_of (arm 2 h3) fun h2 => ?_
  refine ite_eq_of (arm 1 h2) fun h1 => ?_
  refine ite_eq_of (arm 0 h1) fun h0 => ?_
  refine ite_eq_of (fun hp => ?_) fun hp => ?_
  · rw [byteLen_eq_one v (Nat.ne_of_gt hp) (Nat.lt_of_not_le h0)]
  · rw [Nat.eq_zero_of_not_pos hp]
    rfl

/-- `u64_to_bytes` (signature message suffixes) produces the canonical form, for every u64. -/
theorem u64ToBytes_canon (v : Nat) (hv : v < 2^64) : Gen.u64ToBytes v = canonNat v := by
  have hv' : v < 128 * 256 ^ 17 := Nat.lt_trans hv (by decide)
  unfold Gen.u64ToBytes canonNat
  refine ite_eq_of (fun h => ?_) fun h => ?_
  · -- nine bytes: a zero sign byte before the full eight
    have h8 : v < 256 ^ (7 + 1) := hv
    rw [byteLen_eq_add_two 7 v hv' h (Nat.lt_trans hv (by decide)), be_succ (7 + 1), Nat.div_eq_of_lt h8]
  · have h7 : v < 128 * 256 ^ 7 := Nat.lt_of_not_le h
    rw [u64ToBytesStart_eq v h7, be_drop 8 _ v (Nat.sub_le 8 _),
      Nat.sub_sub_self ((byteLen_le_iff 7 v hv').mpr h7)]

/-- the amount bytes `Coin::coin_id` hashes are the canonical form, for every u64. -/
theorem coinIdAmount_canon (v : Nat) (hv : v < 2^64) : Gen.coinIdAmount v = canonNat v :=
  -- `Coin::coin_id` repeats the ladder of `u64_to_bytes` token for token
  (rfl : Gen.coinIdAmount v = Gen.u64ToBytes v).trans (u64ToBytes_canon v hv)

/-- hence both hash-input encoders agree with each other on all of u64 -/
theorem encoders_agree (v : Nat) (hv : v < 2^64) : Gen.u64ToBytes v = Gen.coinIdAmount v := by
  rw [u64ToBytes_canon v hv, coinIdAmount_canon v hv]

theorem serAtom_len_short (b : Bytes) (h1 : 2 ≤ b.length) (h2 : b.length < 64) :
    (Sexp.serAtom b).length = b.length + 1 := by
  simp only [Sexp.serAtom, Sexp.atomPrefix]
  rw [if_neg (by omega), if_neg (by omega), if_pos (by omega)]
  simp

theorem serAtom_len_one (x : Nat) : (Sexp.serAtom [x]).length = if x < 128 then 1 else 2 := by
  simp only [Sexp.serAtom, Sexp.atomPrefix, List.length_cons, List.length_nil, List.headD_cons]
  by_cases h : x < 128
  · simp [h]
  · simp [h]

/-- below `0x80` a canonical integer is serialised as itself (zero as the empty atom `0x80`),
otherwise behind one length byte -/
theorem serAtom_canonNat_length (v : Nat) (hv : v < 128 * 256 ^ 17) :
    (Sexp.serAtom (canonNat v)).length = if v < 128 then 1 else byteLen v + 1 := by
  rcases byteLen_cases v hv with ⟨h0, h⟩ | ⟨_, h1, h⟩ | ⟨k, hlo, _, h⟩
  · rw [canonNat, h, h0]
    rfl
  · rw [canonNat, h, be_succ, be_zero, Nat.pow_zero, Nat.div_one, Nat.mod_eq_of_lt (Nat.lt_trans h1 (by decide)),
      serAtom_len_one]
  · have h18 := (byteLen_le_iff 17 v hv).mpr hv
    have hp := Nat.pow_pos (n := k) (show 0 < 256 by decide)
    rw [serAtom_len_short _ (by rw [canonNat_length]; omega) (by rw [canonNat_length]; omega), canonNat_length,
      if_neg (by omega)]

/-- `clvm_bytes_len` predicts exactly the serialised length of the canonical atom. -/
theorem clvmBytesLen_ok (v : Nat) (hv : v < 2^64) :
    Gen.clvmBytesLen v = (Sexp.serialize (.atom (canonNat v))).length := by
  have hv' : v < 128 * 256 ^ 17 := Nat.lt_trans hv (by decide)
  have arm : ∀ k, ¬ v < 128 * 256 ^ k → v < 128 * 256 ^ (k + 1) → k + 3 = byteLen v + 1 :=
    fun k h1 h2 => by rw [byteLen_eq_add_two k v hv' (Nat.le_of_not_lt h1) h2]
  rw [Sexp.serialize, serAtom_canonNat_length v hv']
  unfold Gen.clvmBytesLen
  refine ite_congr rfl (fun _ => rfl) fun h0 => ?_
  refine ite_eq_of (arm 0 h0) fun h1 => ?_
  refine ite_eq_of (arm 1 h1) fun h2 => ?_
  refine ite_eq_of (arm 2 h2) fun h3 => ?_
  refine ite_eq_of (arm 3 h3) fun h4 => ?_
  refine ite_eq_of (arm 4 h4) fun h5 => ?_
  refine ite_eq_of (arm 5 h5) fun h6 => ?_
  refine ite_eq_of (arm 6 h6) fun h7 => ?_
  exact arm 7 h7 (Nat.lt_trans hv (by decide))

/-- The four outcomes of `sanitize_uint` are the four classes of atoms: negative; redundant leading
zero; canonical non-negative but wider than `n` bytes; canonical non-negative that fits.  Width is what the code
tests: the length, a leading zero set aside; for a minimal atom that is the size of the value. -/
theorem sanitizeUint_cases (b : Bytes) (n : Nat) :
    (headGe128 b = true ∧ sanitizeUint b n = .negOverflow) ∨
    (headGe128 b = false ∧ ¬ Minimal b ∧ sanitizeUint b n = .err) ∨
    (headGe128 b = false ∧ Minimal b ∧ (if b.head? = some 0 then n + 1 else n) < b.length ∧ 256 ^ n ≤ beVal b ∧
      sanitizeUint b n = .posOverflow) ∨
    (headGe128 b = false ∧ Minimal b ∧ b.length ≤ (if b.head? = some 0 then n + 1 else n) ∧
      (isBytes b → beVal b < 256 ^ n) ∧ sanitizeUint b n = .ok (beVal b)) := by
  match b with
  | [] => exact .inr (.inr (.inr ⟨rfl, trivial, Nat.zero_le _, fun _ => Nat.pow_pos (by decide), rfl⟩))
  | b0 :: tl =>
    rw [sanitizeUint]
    simp only [List.head?_cons, Option.some.injEq]
    by_cases h0 : b0 ≥ 128
    · exact .inl ⟨decide_eq_true h0, if_pos h0⟩
    have hneg : headGe128 (b0 :: tl) = false := decide_eq_false h0
    rw [if_neg h0]
    have hm : (b0 :: tl = [0] ∨ b0 = 0 ∧ headLt128 tl) ↔ ¬ Minimal (b0 :: tl) := by
      match tl with
      | [] => simp [Minimal, headLt128]
      | y :: t => simp [Minimal, headLt128]; omega
    by_cases h1 : b0 :: tl = [0] ∨ b0 = 0 ∧ headLt128 tl
    · exact .inr (.inl ⟨hneg, hm.mp h1, if_pos h1⟩)
    have hmin : Minimal (b0 :: tl) := Decidable.of_not_not (mt hm.mpr h1)
    rw [if_neg h1]
    -- a leading zero does not count: what is left has a non-zero first byte, so its length decides
    by_cases hz : b0 = 0
    · subst hz
      rw [if_pos rfl, beVal_zero_cons]
      match tl, h1 with
      | [], h1 => exact absurd (.inl rfl) h1
      | y :: t, h1 =>
        have hy : y ≠ 0 := fun hy => h1 (.inr ⟨rfl, by rw [hy]; rfl⟩)
        by_cases h2 : (0 :: y :: t).length > n + 1
        · exact .inr (.inr (.inl ⟨hneg, hmin, h2,
            pow_le_beVal y n t hy (Nat.le_of_lt_succ (Nat.lt_of_succ_lt_succ h2)), if_pos h2⟩))
        · exact .inr (.inr (.inr ⟨hneg, hmin, Nat.le_of_not_lt h2, fun hb => beVal_lt_pow _ n
            (fun z hz => hb z (List.mem_cons_of_mem _ hz)) (Nat.le_of_succ_le_succ (Nat.le_of_not_lt h2)), if_neg h2⟩))
    · rw [if_neg hz]
      by_cases h2 : (b0 :: tl).length > n
      · exact .inr (.inr (.inl ⟨hneg, hmin, h2, pow_le_beVal b0 n tl hz (Nat.le_of_lt_succ h2), if_pos h2⟩))
      · exact .inr (.inr (.inr ⟨hneg, hmin, Nat.le_of_not_lt h2, fun hb => beVal_lt_pow _ n hb (Nat.le_of_not_lt h2),
          if_neg h2⟩))

/-- Accepted ⇒ the atom decodes to the returned value, is non-negative, has no redundant leading
byte (so it is the unique canonical encoding), and the value fits the width: nothing is truncated. -/
theorem sanitizeUint_ok (b : Bytes) (n v : Nat) (hb : isBytes b) (h : sanitizeUint b n = .ok v) :
    beVal b = v ∧ headGe128 b = false ∧ Minimal b ∧ v < 256 ^ n := by
  rcases sanitizeUint_cases b n with ⟨_, e⟩ | ⟨_, _, e⟩ | ⟨_, _, _, _, e⟩ | ⟨hneg, hmin, _, hfit, e⟩ <;> rw [e] at h <;> cases h
  exact ⟨rfl, hneg, hmin, hfit hb⟩

theorem sanitizeUint_complete (b : Bytes) (n : Nat) (hb : isBytes b) (hneg : headGe128 b = false)
    (hmin : Minimal b) (hfit : beVal b < 256 ^ n) : sanitizeUint b n = .ok (beVal b) := by
  rcases sanitizeUint_cases b n with ⟨h, _⟩ | ⟨_, h, _⟩ | ⟨_, _, _, h, _⟩ | ⟨_, _, _, _, e⟩
  · rw [hneg] at h
    cases h
  · exact absurd hmin h
  · exact absurd hfit (Nat.not_lt_of_le h)
  · exact e

theorem sanitizeUint_neg (b : Bytes) (n : Nat) : sanitizeUint b n = .negOverflow ↔ headGe128 b = true := by
  rcases sanitizeUint_cases b n with ⟨h, e⟩ | ⟨h, _, e⟩ | ⟨h, _, _, _, e⟩ | ⟨h, _, _, _, e⟩ <;> rw [e, h] <;> simp

theorem sanitizeUint_err (b : Bytes) (n : Nat) (hb : isBytes b) :
    sanitizeUint b n = .err ↔ headGe128 b = false ∧ ¬ Minimal b := by
  rcases sanitizeUint_cases b n with ⟨h, e⟩ | ⟨h, hm, e⟩ | ⟨h, hm, _, _, e⟩ | ⟨h, hm, _, _, e⟩ <;> rw [e, h]
  · simp
  · simp [hm]
  · simp [hm]
  · simp [hm]

theorem sanitizeUint_pos (b : Bytes) (n : Nat) (h : sanitizeUint b n = .posOverflow) :
    headGe128 b = false ∧ Minimal b ∧ 256 ^ n ≤ beVal b := by
  rcases sanitizeUint_cases b n with ⟨_, e⟩ | ⟨_, _, e⟩ | ⟨hneg, hmin, _, hbig, e⟩ | ⟨_, _, _, _, e⟩ <;> rw [e] at h <;> cases h
  exact ⟨hneg, hmin, hbig⟩

theorem canon_unique (b : Bytes) (v : Nat) (hb : isBytes b) (hneg : headGe128 b = false) (hmin : Minimal b)
    (hv : beVal b = v) (h64 : v < 2^64) : b = canonNat v := by
  subst hv
  exact (canonNat_beVal b hb hneg hmin (Nat.lt_trans h64 (by decide))).symm

/-- every u64 atom `sanitize_uint` accepts is *the* canonical encoding of the value it returns -/
theorem sanitizeUint_canon (b : Bytes) (v : Nat) (hb : isBytes b) (h : sanitizeUint b 8 = .ok v) : b = canonNat v := by
  obtain ⟨h1, h2, h3, h4⟩ := sanitizeUint_ok b 8 v hb h
  exact canon_unique b v hb h2 h3 h1 (by simpa using h4)

/-- … and its value is a u64 -/
theorem sanitizeUint_u64 {b : Bytes} {v : Nat} (hb : isBytes b) (h : sanitizeUint b 8 = .ok v) : b = canonNat v ∧ v < 2 ^ 64 :=
  ⟨sanitizeUint_canon b v hb h, by simpa using (sanitizeUint_ok b 8 v hb h).2.2.2⟩

/-! ### `encode_number` / `decode_number` (clvm-traits) -/

theorem skipPad_suffix (pad : Nat) (s : Bytes) : ∃ k, s = List.replicate k pad ++ skipPad pad s ∧
    (skipPad pad s).head? ≠ some pad := by
  induction s with
  | nil => exact ⟨0, by simp [skipPad]⟩
  | cons x t ih =>
    by_cases h : x = pad
    · obtain ⟨k, hk, hh⟩ := ih
      refine ⟨k + 1, ?_, ?_⟩
      · simp only [skipPad, if_pos h, List.replicate_succ, List.cons_append]; rw [← hk, h]
      · simpa only [skipPad, if_pos h] using hh
    · exact ⟨0, by simp [skipPad, h], by simp [skipPad, h]⟩

/-- `encode_number` of a non-negative big-endian slice: same value, non-negative, minimal. -/
theorem encodeNumber_nonneg (s : Bytes) :
    beVal (encodeNumber s false) = beVal s ∧ headGe128 (encodeNumber s false) = false
      ∧ Minimal (encodeNumber s false) := by
  obtain ⟨k, hk, hh⟩ := skipPad_suffix 0 s
  have hv : beVal s = beVal (skipPad 0 s) := by
    conv => lhs; rw [hk]
    exact beVal_replicate_zero k _
  simp only [encodeNumber, Bool.false_eq_true, if_false]
  cases hr : skipPad 0 s with
  | nil =>
    rw [hr] at hv
    refine ⟨by rw [hv]; simp, by simp [headGe128], by simp [Minimal]⟩
  | cons x t =>
    rw [hr] at hh hv
    have hx : x ≠ 0 := by simpa using hh
    by_cases h128 : x ≥ 128
    · simp only [h128, decide_true, if_true]
      refine ⟨by rw [hv, beVal_zero_cons], by simp [headGe128], ?_⟩
      simp only [Minimal]; omega
    · simp only [h128, decide_false, Bool.false_eq_true, if_false]
      refine ⟨hv.symm, by simp [headGe128]; omega, ?_⟩
      cases t with
      | nil => simpa [Minimal] using hx
      | cons y t' => simp only [Minimal]; omega

theorem intOfBytes_ff_cons (b : Bytes) : intOfBytes (255 :: b) = (beVal b : Int) - (256 ^ b.length : Nat) := by
  rw [intOfBytes, if_pos (by decide), beVal_cons, List.length_cons, Nat.pow_succ]
  omega

theorem intOfBytes_neg_head (b : Bytes) (h : headGe128 b = true) : intOfBytes b = (beVal b : Int) - (256 ^ b.length : Nat) := by
  cases b with
  | nil => simp [headGe128] at h
  | cons x t => simp only [headGe128, decide_eq_true_eq] at h; simp [intOfBytes, h]

theorem intOfBytes_ff_cons_neg (b : Bytes) (h : headGe128 b = true) : intOfBytes (255 :: b) = intOfBytes b := by
  rw [intOfBytes_ff_cons, intOfBytes_neg_head b h]

theorem intOfBytes_ffs' (k : Nat) (r : Bytes) (h : headGe128 r = true) : intOfBytes (List.replicate k 255 ++ r) = intOfBytes r := by
  induction k with
  | zero => rfl
  | succ k ih =>
    have hhead : headGe128 (List.replicate k 255 ++ r) = true := by
      cases k with
      | zero => exact h
      | succ j => rfl
    rw [List.replicate_succ, List.cons_append, intOfBytes_ff_cons_neg _ hhead, ih]

theorem intOfBytes_ffs (k : Nat) (r : Bytes) (hk : 0 < k) :
    intOfBytes (List.replicate k 255 ++ r) = (beVal r : Int) - (256 ^ r.length : Nat) := by
  obtain ⟨j, rfl⟩ : ∃ j, k = j + 1 := ⟨k - 1, by omega⟩
  rw [List.replicate_succ', List.append_assoc, intOfBytes_ffs' j _ rfl]
  exact intOfBytes_ff_cons r

/-- `encode_number` of a negative big-endian two's-complement slice: same signed value, negative,
and no redundant leading 0xff byte. -/
theorem encodeNumber_neg (s : Bytes) (hb : isBytes s) (hneg : headGe128 s = true) :
    intOfBytes (encodeNumber s true) = intOfBytes s ∧ headGe128 (encodeNumber s true) = true
      ∧ Minimal (encodeNumber s true) := by
  obtain ⟨k, hk, hh⟩ := skipPad_suffix 255 s
  -- `s` is negative, so if what follows the 0xff run is not, the run is not empty
  have hk0 : headGe128 (skipPad 255 s) = false → 0 < k := fun hf => Nat.pos_of_ne_zero fun h0 => by
    rw [hk, h0, List.replicate_zero, List.nil_append, hf] at hneg
    cases hneg
  simp only [encodeNumber, if_true]
  cases hr : skipPad 255 s with
  | nil =>
    -- all bytes are 0xff: the value is -1, encoded as [0xff]
    rw [hr] at hk hk0
    refine ⟨?_, by simp [headGe128], by simp [Minimal]⟩
    rw [hk, intOfBytes_ffs k [] (hk0 rfl)]
    rfl
  | cons x t =>
    rw [hr] at hk hh hk0
    have hx : x ≠ 255 := by simpa using hh
    have hx256 : x < 256 := hb x (by rw [hk]; simp)
    by_cases h128 : x < 128
    · -- needs a 0xff pad byte
      simp only [h128, decide_true, if_true]
      refine ⟨?_, by simp [headGe128], ?_⟩
      · conv => rhs; rw [hk]
        rw [intOfBytes_ff_cons, intOfBytes_ffs k _ (hk0 (decide_eq_false (Nat.not_le_of_lt h128)))]
      · simp only [Minimal]; omega
    · simp only [h128, decide_false, Bool.false_eq_true, if_false]
      have hge : headGe128 (x :: t) = true := decide_eq_true (Nat.le_of_not_lt h128)
      refine ⟨?_, hge, ?_⟩
      · conv => rhs; rw [hk, intOfBytes_ffs' k _ hge]
      · cases t with
        | nil => simp [Minimal]; omega
        | cons y t' => simp only [Minimal]; omega

theorem stripPadding_spec (len pad : Nat) : ∀ (budget : Nat) (slice s : Bytes), stripPadding len pad budget slice = some s →
    ∃ k, k ≤ budget ∧ slice = List.replicate k pad ++ s ∧ (s.length ≤ len ∨ s.head? ≠ some pad) := by
  intro budget slice
  fun_induction stripPadding len pad budget slice with
  | case1 => intro s h; cases h   -- the budget is used up
  | case2 x tl hc b ih =>
    -- one pad byte stripped
    intro s h
    obtain ⟨k, hk, hs, hend⟩ := ih s h
    exact ⟨k + 1, Nat.succ_le_succ hk, by rw [hs, hc.2]; rfl, hend⟩
  | case3 budget x tl hc =>
    -- the loop stops: short enough, or no pad byte in front
    intro s h
    cases Option.some.inj h
    refine ⟨0, Nat.zero_le _, rfl, ?_⟩
    by_cases hl : (x :: tl).length ≤ len
    · exact .inl hl
    · exact .inr fun hx => hc ⟨Nat.lt_of_not_le hl, Option.some.inj hx⟩
  | case4 =>
    intro s h
    cases Option.some.inj h
    exact ⟨0, Nat.zero_le _, rfl, .inl (Nat.zero_le _)⟩

theorem stripPadding_short (len pad n : Nat) (b : Bytes) (h : b.length ≤ len) : stripPadding len pad n b = some b := by
  cases b with
  | nil => cases n <;> rfl
  | cons x tl =>
    rw [stripPadding.eq_def]
    exact if_neg fun hc => Nat.not_lt.mpr h hc.1

/-- an atom `sanitize_uint` accepts at width `w` is decoded by clvm-traits' unsigned `decode_number::<w>` to bytes of the
same value: it strips at most the one leading zero and left-pads with zeros -/
theorem decodeNumber_of_sanitize {b : Bytes} {w v : Nat} (h : sanitizeUint b w = .ok v) :
    (decodeNumber w false b).map beVal = some v := by
  rcases sanitizeUint_cases b w with ⟨_, e⟩ | ⟨_, _, e⟩ | ⟨_, _, _, _, e⟩ | ⟨hneg, _, hlen, _, e⟩ <;> rw [e] at h <;> cases h
  cases b with
  | nil =>
    have := beVal_replicate_zero w []
    rw [List.append_nil] at this
    exact congrArg some this
  | cons b0 tl =>
    have h0 : ¬ b0 ≥ 128 := of_decide_eq_false hneg
    simp only [List.head?_cons, Option.some.injEq] at hlen
    -- what `strip_padding` leaves: the atom, or its tail when it is a zero in front of `w` bytes
    have hs : ∃ s, stripPadding w 0 64 (b0 :: tl) = some s ∧ s.length ≤ w ∧ beVal s = beVal (b0 :: tl) := by
      rw [stripPadding]
      by_cases hc : (b0 :: tl).length > w ∧ b0 = 0
      · rw [if_pos hc]
        rw [if_pos hc.2] at hlen
        have hl : tl.length ≤ w := Nat.le_of_succ_le_succ hlen
        exact ⟨tl, stripPadding_short w 0 63 tl hl, hl, by rw [hc.2, beVal_zero_cons]⟩
      · rw [if_neg hc]
        refine ⟨_, rfl, ?_, rfl⟩
        by_cases hz : b0 = 0
        · exact Nat.le_of_not_lt fun hl => hc ⟨hl, hz⟩
        · rw [if_neg hz] at hlen; exact hlen
    obtain ⟨s, hs, hl, hv⟩ := hs
    unfold decodeNumber
    simp only [Bool.not_false, true_and, h0, decide_false, Bool.false_and, Bool.false_eq_true, if_false, hs]
    rw [if_neg (by simp only [ne_eq, not_true_eq_false, or_false]; exact Nat.not_lt.mpr hl)]
    simp only [Option.map_some, beVal_replicate_zero, hv]
def typedVal (signed : Bool) (r : Bytes) : Int := if signed then intOfBytes r else (beVal r : Int)

theorem headGe128_replicate_zero (k : Nat) (s : Bytes) (h : headGe128 s = false) : headGe128 (List.replicate k 0 ++ s) = false := by
  cases k with
  | zero => simpa using h
  | succ k => simp [List.replicate_succ, headGe128]

theorem intOfBytes_zeros (k : Nat) (s : Bytes) (h : headGe128 s = false) :
    intOfBytes (List.replicate k 0 ++ s) = (beVal s : Int) := by
  rw [intOfBytes_of_head _ (headGe128_replicate_zero k s h), beVal_replicate_zero]

theorem intOfBytes_pad (k : Nat) (s : Bytes) :
    intOfBytes (List.replicate k (if headGe128 s = true then 255 else 0) ++ s) = intOfBytes s := by
  cases h : headGe128 s with
  | true => exact intOfBytes_ffs' k s h
  | false => exact (intOfBytes_zeros k s h).trans (intOfBytes_of_head s h).symm

/-- **`decode_number` never truncates.**  Whatever it returns has exactly the requested width and the
same value as the atom (signed for signed types; for unsigned types the atom is non-negative); the
empty atom decodes to zero. -/
theorem decodeNumber_value (len : Nat) (signed : Bool) (slice r : Bytes) (hlen : 0 < len)
    (h : decodeNumber len signed slice = some r) :
    r.length = len ∧ typedVal signed r = intOfBytes slice ∧ (signed = false → headGe128 slice = false) := by
  cases slice with
  | nil =>
    cases Option.some.inj h
    refine ⟨List.length_replicate, ?_, fun _ => rfl⟩
    have e : zeros len = List.replicate len 0 ++ [] := (List.append_nil _).symm
    cases signed with
    | false => exact congrArg Int.ofNat (e ▸ beVal_replicate_zero len [])
    | true => exact e ▸ intOfBytes_zeros len [] rfl
  | cons x0 t =>
    simp only [decodeNumber] at h
    by_cases hu : (!signed ∧ x0 ≥ 128)
    · rw [if_pos (by simpa using hu)] at h; cases h
    rw [if_neg (by simpa using hu)] at h
    cases hsp : stripPadding len (if (signed && decide (x0 ≥ 128)) = true then 255 else 0) 64 (x0 :: t) with
    | none => rw [hsp] at h; cases h
    | some s =>
      rw [hsp] at h; simp only at h
      by_cases hbad : s.length > len ∨ ((signed && headGe128 s) ≠ (signed && decide (x0 ≥ 128)))
      · rw [if_pos hbad] at h; cases h
      rw [if_neg hbad] at h
      cases Option.some.inj h
      have hsame : (signed && headGe128 s) = (signed && decide (x0 ≥ 128)) :=
        Decidable.of_not_not fun e => hbad (.inr e)
      obtain ⟨k, _, hk, _⟩ := stripPadding_spec _ _ _ _ _ hsp
      refine ⟨by simp; omega, ?_, ?_⟩
      · unfold typedVal
        cases signed with
        | true =>
          -- both the atom and the result are `s` behind bytes of its sign
          simp only [Bool.true_and, if_true] at hsame hk ⊢
          rw [hk, ← hsame, intOfBytes_pad, intOfBytes_pad]
        | false =>
          -- both are `s` behind zero bytes
          simp only [Bool.false_and, Bool.false_eq_true, if_false] at hk ⊢
          have hx0 : headGe128 (x0 :: t) = false := by simp at hu; simp [headGe128]; omega
          rw [intOfBytes_of_head _ hx0, hk, beVal_replicate_zero, beVal_replicate_zero]
      · intro hs
        subst hs
        simp at hu
        simp [headGe128]; omega

end ChiaModel.C11
