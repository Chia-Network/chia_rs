import ChiaModel.Lemmas.MerkleProof
import ChiaModel.Lemmas.MerkleSound
import ChiaModel.Lemmas.Ints
/-
C12 — Merkle set roots are canonical and proofs are complete and sound.
All statements are about the executable model `ChiaModel.Merkle.*` that the driver runs against the
Rust code, for an arbitrary hash function `H` (the driver instantiates `H := sha256`).
-/
namespace ChiaModel.C12
open ChiaModel ChiaModel.Merkle

/-- **Canonical root.** For every list `l` of 32-byte leaves (any order, any duplicates) and every
enumeration `S` of the same set, `compute_merkle_set_root` returns the reference collapsed
binary-trie hash `Spec.root` of `S`. -/
theorem root_canonical (H : Bytes → Bytes) (l S : List Bytes) (hl : ∀ x ∈ l, IsLeaf x)
    (hmem : ∀ x, x ∈ S ↔ x ∈ l) : computeMerkleSetRoot H l = Spec.root H S := by
  rw [computeRoot_eq, specRoot_eq, trie_set_ext H 256 l S hl (agree_zero l) (fun x => (hmem x).symm)]

/-- **The root depends only on the set of leaves**: two lists of 32-byte leaves with the same
elements (in any order, with any multiplicities) have the same root. -/
theorem root_perm (H : Bytes → Bytes) (l l' : List Bytes) (hl : ∀ x ∈ l, IsLeaf x)
    (hl' : ∀ x ∈ l', IsLeaf x) (h : ∀ x, x ∈ l ↔ x ∈ l') :
    computeMerkleSetRoot H l = computeMerkleSetRoot H l' := by
  rw [root_canonical H l l' hl (fun x => (h x).symm), root_canonical H l' l' hl' (fun _ => Iff.rfl)]

theorem root_dedup (H : Bytes → Bytes) (l : List Bytes) (hl : ∀ x ∈ l, IsLeaf x) :
    computeMerkleSetRoot H l = Spec.root H (Spec.dedup l) ∧ (Spec.dedup l).Nodup :=
  ⟨root_canonical H l _ hl (mem_dedup l), nodup_dedup l⟩

/-- **Both root computations agree.** The root read off the node vector that `MerkleSet::from_leafs`
builds (`get_root`) is the root that `compute_merkle_set_root` returns, for every list of leaves. -/
theorem roots_agree (H : Bytes → Bytes) (l : List Bytes) :
    getRoot H (fromLeafs H l).nodes = computeMerkleSetRoot H l := by
  rw [(fromLeafs_den H l).getRoot H, root_of_shape H (ttree_shape H 256 l), computeRoot_eq]

/-- **Completeness.** For every list `l` of 32-byte leaves and every item `x`, `generate_proof` on
the tree `from_leafs l` succeeds, its flag is exactly `x ∈ l`, and `validate_merkle_proof` accepts the
generated proof against the set's root with verdict `x ∈ l`.  (`hH`: digests are 32 bytes long, as
for SHA-256, see `sha256_length`.) -/
theorem complete (H : Bytes → Bytes) (hH : ∀ u, (H u).length = 32) (l : List Bytes) (x : Bytes)
    (hl : ∀ y ∈ l, IsLeaf y) :
    ∃ p, generateProof (fromLeafs H l) x = some (decide (x ∈ l), p) ∧
      validateMerkleProof H p x (computeMerkleSetRoot H l) = some (decide (x ∈ l)) := by
  have hw := ttree_walk H x 256 l hl (agree_zero l) (Nat.le_refl _) 0 fun _ => rfl
  obtain ⟨b, pt, hg, acc, _, st⟩ := ttree_honest H hH x 256 l hl (agree_zero l) (Nat.le_refl _) 0 []
    (Nat.zero_le _) rfl (fun y _ => path_nil y) fun _ => rfl
  obtain rfl : b = decide (x ∈ l) := Option.some.inj ((walk_of_genProof hg).symm.trans hw)
  refine ⟨pt.ser, ?_, ?_⟩
  · rw [generateProof_eq _ _ (fromLeafs_den H l), hg, fromLeafs_fromProof]; rfl
  · -- the parser reads `pt` back; its value stands for the tree
    exact validate_iff.mpr ⟨pt, acc, rfl,
      by rw [st.root H, root_of_shape H (ttree_shape H 256 l), computeRoot_eq], st.walk.trans hw⟩

/-- **Soundness.** For every list `S` of 32-byte leaves, every item `x` and every byte string `p`:
if `validate_merkle_proof p x (root of S)` returns a verdict `b`, then `b` is exactly `x ∈ S` — or the
proof exhibits two different byte strings with the same digest, or a pre-image of the all-zero
digest (the empty set's root is the raw constant `BLANK`, not a digest).  Injectivity of `H` is
never assumed; the colliding pair is constructed from the first place where the parsed tree and the
reference trie differ. -/
theorem sound (H : Bytes → Bytes) (hH : ∀ u, (H u).length = 32) (S : List Bytes) (hS : ∀ y ∈ S, IsLeaf y)
    (p x : Bytes) (b : Bool) (h : validateMerkleProof H p x (computeMerkleSetRoot H S) = some b) :
    b = decide (x ∈ S) ∨ (∃ u v, u ≠ v ∧ H u = H v) ∨ (∃ u, H u = zeros 32) := by
  obtain ⟨pt, acc, rfl, hr, hw⟩ := validate_iff.mp h
  exact sound_set H hH S hS x (eval_inv H pt 0 [] acc).1 (hr.trans (computeRoot_eq H S)) hw

/-- **Parsing rejects trailing bytes.** If a byte string is accepted by `MerkleSet::from_proof`, no
proper extension of it is (the parser consumes exactly one proof tree and requires the cursor to be
at the end of the input). -/
theorem parse_rejects_trailing (H : Bytes → Bytes) (p extra : Bytes) (ms : MerkleSet)
    (h : fromProof H p = some ms) (he : extra ≠ []) : fromProof H (p ++ extra) = none := by
  unfold fromProof deserializeProof at h ⊢
  cases hp : parseNode H 258 0 [] p [] with
  | none => rw [hp] at h; simp at h
  | some r =>
    obtain ⟨rest, nv, vi, ty⟩ := r
    rw [hp] at h
    cases rest with
    | cons c t => simp at h
    | nil =>
      rw [parse_append H extra rfl (by decide) hp]
      cases extra with
      | nil => exact absurd rfl he
      | cons c t => rfl

/-- **Parsing rejects over-deep nesting.** The serialisation of any proof tree (32-byte payloads)
that nests more than 257 `MIDDLE` nodes inside each other, followed by anything, is rejected:
`MIDDLE` is refused once 257 are already open (`depth > 256`), so the walk depth of
`generate_proof_impl` stays within a `u8` plus one wrap. -/
theorem parse_rejects_deep (H : Bytes → Bytes) (t : PT) (ht : t.WF) (hdeep : 257 < t.height) (rest : Bytes) :
    fromProof H (t.ser ++ rest) = none := by
  unfold fromProof deserializeProof
  rw [parse_deep_none H t ht hdeep [] rest []]

/-- **parse_total.** Proof parsing is a total function (structural recursion on a fuel that the
depth guard makes sufficient: `fuel + depth = 258`), and it rejects (a) every proper extension of an
accepted proof (trailing bytes) and (b) every serialised proof tree nested deeper than the guard. -/
theorem parse_total (H : Bytes → Bytes) :
    (∀ (p extra : Bytes) (ms : MerkleSet), fromProof H p = some ms → extra ≠ [] → fromProof H (p ++ extra) = none) ∧
    (∀ (t : PT), t.WF → 257 < t.height → ∀ rest, fromProof H (t.ser ++ rest) = none) :=
  ⟨fun p extra ms h he => parse_rejects_trailing H p extra ms h he,
   fun t ht hd rest => parse_rejects_deep H t ht hd rest⟩

end ChiaModel.C12

namespace ChiaModel.Merkle

def lf (a z : Nat) : Bytes := a :: (zeros 30 ++ [z])

/-- the 5-leaf tree of the Rust unit tests (`merkle_tree_5`) -/
def tree5 : List Bytes := [lf 0x58 0, lf 0x23 0, lf 0x21 0, lf 0xca 0, lf 0x20 0]

/-- the "left edge" tree of the Rust unit tests -/
def leftEdge : List Bytes := [lf 0x80 0, lf 0 1, lf 0 2, lf 0 3]

def root5 : Bytes := (ofHex "08f0b908a5725bd200d0fab6f3fd30223d29544eefeb88f9705c39ed09f15e89").getD []

/-- two leaves that share their first 255 bits: a chain of 255 collapsed levels -/
def deepPair : List Bytes := [List.replicate 32 0xff, List.replicate 31 0xff ++ [0xfe]]

def roundTrip (l : List Bytes) (x : Bytes) : Option Bool × Option Bool :=
  match generateProof (fromLeafs sha256 l) x with
  | none => (none, none)
  | some (flag, p) => (some flag, validateMerkleProof sha256 p x (computeMerkleSetRoot sha256 l))

/-- the honest proof of the first leaf of `deepPair` (`MIDDLE EMPTY rest`), and the same proof with
the two sides of the top collapsed level swapped (`MIDDLE rest EMPTY`): the swap keeps the root
(the level is collapsed for hashing) and is rejected only by the leaf-position audit -/
def swapDemo : Option Bool × Option Bool :=
  let r := computeMerkleSetRoot sha256 deepPair
  let x := List.replicate 32 0xff
  match generateProof (fromLeafs sha256 deepPair) x with
  | some (_, 2 :: 0 :: rest) =>
    (validateMerkleProof sha256 (2 :: 0 :: rest) x r, validateMerkleProof sha256 (2 :: rest ++ [0]) x r)
  | _ => (none, some false)

theorem sha256_length (u : Bytes) : (sha256 u).length = 32 := ChiaModel.sha256_length u

end ChiaModel.Merkle

namespace ChiaModel.C12
open ChiaModel ChiaModel.Merkle

/-! ### Non-vacuity: concrete instances with `H := sha256` (kernel evaluation) -/

theorem roundTrip_eq (l : List Bytes) (x : Bytes) (hl : ∀ y ∈ l, IsLeaf y) :
    roundTrip l x = (some (decide (x ∈ l)), some (decide (x ∈ l))) := by
  obtain ⟨p, hg, hv⟩ := complete sha256 sha256_length l x hl
  unfold roundTrip
  rw [hg]
  simp only []
  rw [hv]

set_option maxRecDepth 100000 in
/-- the hypotheses `IsLeaf` of the theorems are satisfiable -/
example : ∀ x ∈ tree5 ++ leftEdge ++ deepPair, IsLeaf x := by decide

set_option maxRecDepth 100000 in
/-- `root_canonical` / `roots_agree` on the 5-leaf tree: radix-sort root = node-vector root = reference
trie root of the sorted list = the value the Rust code returns -/
example : computeMerkleSetRoot sha256 tree5 = root5
    ∧ getRoot sha256 (fromLeafs sha256 tree5).nodes = root5
    ∧ Spec.root sha256 [lf 0x20 0, lf 0x21 0, lf 0x23 0, lf 0x58 0, lf 0xca 0] = root5
    ∧ computeMerkleSetRoot sha256 (tree5.reverse ++ [lf 0x23 0, lf 0x23 0]) = root5 := by
  -- one root is computed; the theorems carry it over to the other three
  have r5 : computeMerkleSetRoot sha256 tree5 = root5 := by decide +kernel
  have h5 : ∀ x ∈ tree5, IsLeaf x := by decide
  refine ⟨r5, ?_, ?_, ?_⟩
  · rw [roots_agree, r5]
  · have h1 : ∀ x ∈ [lf 0x20 0, lf 0x21 0, lf 0x23 0, lf 0x58 0, lf 0xca 0], x ∈ tree5 := by decide
    have h2 : ∀ x ∈ tree5, x ∈ [lf 0x20 0, lf 0x21 0, lf 0x23 0, lf 0x58 0, lf 0xca 0] := by decide
    rw [← root_canonical sha256 tree5 _ h5 (fun x => ⟨h1 x, h2 x⟩), r5]
  · have h1 : ∀ x ∈ tree5.reverse ++ [lf 0x23 0, lf 0x23 0], x ∈ tree5 := by decide
    have h2 : ∀ x ∈ tree5, x ∈ tree5.reverse ++ [lf 0x23 0, lf 0x23 0] := by decide
    rw [root_perm sha256 _ tree5 (fun x hx => h5 x (h1 x hx)) h5 (fun x => ⟨h1 x, h2 x⟩), r5]

set_option maxRecDepth 100000 in
/-- `complete` / `sound` are not vacuous: a member and a non-member of the 5-leaf tree -/
example : roundTrip tree5 (lf 0x21 0) = (some true, some true)
    ∧ roundTrip tree5 (lf 0x22 0) = (some false, some false)
    ∧ roundTrip [] (lf 0x22 0) = (some false, some false)
    ∧ roundTrip [lf 0x22 0, lf 0x22 0] (lf 0x22 0) = (some true, some true) := by
  refine ⟨?_, ?_, ?_, ?_⟩
  · rw [roundTrip_eq _ _ (by decide)]; decide
  · rw [roundTrip_eq _ _ (by decide)]; decide
  · rw [roundTrip_eq _ _ (by decide)]; decide
  · rw [roundTrip_eq _ _ (by decide)]; decide

set_option maxRecDepth 100000 in
/-- the audit matters: for two leaves sharing 255 bits, the honest proof is accepted, and the same
proof with the sides of its top (collapsed, hence root-preserving) level swapped is rejected -/
example : swapDemo = (some true, none) := by
  obtain ⟨p, hg, hv⟩ := complete sha256 sha256_length deepPair (List.replicate 32 0xff) (by decide)
  -- no digest is computed here: the generated proof is read off the node vector, and the swapped
  -- proof fails the audit at its first leaf, before anything is hashed
  have hk : swapDemo.2 = none := by decide +kernel
  unfold swapDemo at hk ⊢
  simp only [] at hk ⊢
  rw [hg] at hk ⊢
  split at hk
  · rename_i b rest heq
    simp only [Option.some.injEq, Prod.mk.injEq] at heq
    obtain ⟨rfl, rfl⟩ := heq
    rw [hv, show decide (List.replicate 32 0xff ∈ deepPair) = true by decide]
    exact Prod.ext rfl hk
  · simp at hk

set_option maxRecDepth 100000 in
/-- `parse_total` is tight: 257 nested `MIDDLE`s are accepted, 258 are rejected (any `H`) -/
example : (fromProof (fun _ => zeros 32) (List.replicate 257 2 ++ List.replicate 258 0)).isSome = true
    ∧ (fromProof (fun _ => zeros 32) (List.replicate 258 2 ++ List.replicate 259 0)).isSome = false
    ∧ (fromProof (fun _ => zeros 32) ([0] ++ [0])).isSome = false := by decide +kernel

/-- the digest-length hypothesis `hH` of `complete` and `sound` holds for SHA-256 -/
example : ∀ u, (sha256 u).length = 32 := sha256_length

end ChiaModel.C12
