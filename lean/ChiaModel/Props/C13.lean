import ChiaModel.Lemmas.StreamableHash
import ChiaModel.Lemmas.ClvmScan
import ChiaModel.Gen.Streamable
/-!
# C13 — wire encoding is a canonical bijection consistent with hashing

Theorems about the executable model `ChiaModel.Streamable` (the definitions the driver runs), for every type
descriptor `t : Ty` (the induction on `Ty`, mutually with `List Ty`, is `codec_decode` in Lemmas/StreamableMain.lean), for
all values and all byte strings.  `roundtrip`, `canonical`, `from_bytes_iff`, `from_bytes_to_bytes` stand at the end of
Lemmas/StreamableMain.lean and `posFree`, `encodeForHash_eq_encode` at the end of Lemmas/StreamableHash.lean, in this
namespace, because C14 and C20 build on them.
`O : Oracles` is the external code (blst point checks, clvmr's serialised-length scan, the `chia_pos2` quality
string); what is assumed about it is the hypothesis `OracleContract O` (never an axiom).
-/
namespace ChiaModel.C13
open ChiaModel ChiaModel.Streamable

/-- `roundtrip` and `canonical` for the trusted decoder, with the trusted notion of well-formedness (`WF O true`) -/
theorem trusted_codec (O : Oracles) (hO : OracleContract O) (t : Ty) :
    Codec (decode O true t) (encode O t) (WF O true t) :=
  codec_decode O hO true t

/-- **One encoding, one value.** Two well-formed values with the same encoding are equal, so hashes and ids of
encodings are unambiguous. -/
theorem encode_injective (O : Oracles) (hO : OracleContract O) (t : Ty) (v w : V)
    (hv : WF O false t v = true) (hw : WF O false t w = true) (h : encode O t v = encode O t w) : v = w := by
  obtain ⟨b1, he1, hd1⟩ := roundtrip O hO t v hv
  obtain ⟨b2, he2, hd2⟩ := roundtrip O hO t w hw
  cases he1.symm.trans (h.trans he2)
  cases (hd1 []).symm.trans (hd2 [])
  rfl

/-- **Hash = SHA-256 of the prescribed pre-image.** For a well-formed value (of either trust mode),
`update_digest` feeds the hasher chunks whose concatenation is `encodeForHash t v`; it panics exactly when that
pre-image does not exist, and then at the `quality_string().expect(..)` site; it never takes another branch.
(`encodeForHash` = `encode` except inside version-2 proofs of space, those with field `version = 1`; see
`encodeForHash_eq_encode` and `encodeForHash_pos`.) -/
theorem hash_is_sha_of_encoding (O : Oracles) (hO : OracleContract O) (tr : Bool) (t : Ty) (v : V)
    (h : WF O tr t v = true) :
    match digestChunks O t v with
    | .ok cs => encodeForHash O t v = some cs.flatten
    | .panic s => encodeForHash O t v = none ∧ s = sitePosQuality
    | .err => False := by
  have := hash_decode O hO tr t v h
  unfold HashRel at this
  exact this

/-- for a proof of space the hash pre-image differs from the encoding only in the version-2 format (field
`version = 1`), where the proof is replaced by its quality-string commitment (and does not exist when there is none) -/
theorem encodeForHash_pos (O : Oracles) (v : V) (h : WF O false .proofOfSpace v = true) :
    ∃ ch pp ct pk version pi mg st sz pf, v = .tup [ch, pp, ct, pk, .n version, .n pi, .n mg, .n st, .n sz, pf] ∧
      ((version = 0 ∧ encodeForHash O .proofOfSpace v = encode O .proofOfSpace v) ∨
       (version = 1 ∧ ∃ head pfb, encBytes pf = some pfb ∧ encode O .proofOfSpace v = some (head ++ pfb) ∧
          encodeForHash O .proofOfSpace v = (O.quality (head ++ pfb)).map (head ++ ·))) := by
  obtain ⟨ch, pp, ct, pk, version, pi, mg, st, sz, pf, rfl, h1, h2, h3, h4, h5, h6⟩ := wfPos_iff.mp h
  refine ⟨ch, pp, ct, pk, version, pi, mg, st, sz, pf, rfl, ?_⟩
  obtain ⟨A, heA, _⟩ := (codec_bytesN 32).rt ch h1
  obtain ⟨B, heB, _⟩ := (codec_option (codec_g1 O false)).rt pp h2
  obtain ⟨C, heC, _⟩ := (codec_option (codec_bytesN 32)).rt ct h3
  obtain ⟨D, heD, _⟩ := (codec_g1 O false).rt pk h4
  obtain ⟨F, heF, _⟩ := codec_bytes.rt pf h5
  rcases h6 with ⟨rfl, rfl, rfl, rfl, hsz⟩ | ⟨rfl, hpi, hmg, hst, rfl, hs⟩
  · have hE := encUint_of_lt (n := 1) hsz
    -- `encPos` does not look at `forHash` in this format
    have hv := fun fh => encPos_v0 (O := O) (fh := fh) heA heB heC heD hE heF
    exact Or.inl ⟨rfl, (hv true).trans (hv false).symm⟩
  · obtain ⟨t, q, rfl, _⟩ := encOption_shape heC
    have hv := fun fh => encPos_v1 (O := O) (fh := fh) heA heB (encContract2_of heC) heD (encUint_of_lt (n := 2) hpi)
      (encUint_of_lt (n := 1) hmg) (encUint_of_lt (n := 1) hst) heF
    exact Or.inr ⟨rfl, _, F, heF, hv false, hv true⟩

/-- **Trusted and untrusted decoding agree** on every input the untrusted decoder accepts. -/
theorem trusted_agrees (O : Oracles) (hO : OracleContract O) (t : Ty) (b : Bytes) (x : V × Bytes)
    (h : (decode O false t b).out = .ok x) : (decode O true t b).out = .ok x :=
  agree_decode O hO t b x h

theorem to_bytes_from_bytes (O : Oracles) (hO : OracleContract O) (t : Ty) (v : V) (h : WF O false t v = true) :
    ∃ bs, encode O t v = some bs ∧ (fromBytes O false t bs).out = .ok v := by
  obtain ⟨bs, he, hd⟩ := roundtrip O hO t v h
  refine ⟨bs, he, (from_bytes_iff O false t bs v).mpr ?_⟩
  have := hd []
  rwa [List.append_nil] at this

/-! `descriptors_closed` by evaluation.  Comparing two strings is slow in the kernel, so a name is not searched in
`definedNames`: the entries of `streamableTypes` stand in the order of `definedNames`, and
a struct or enum is looked up among the entries by a number computed from its descriptor first. -/

mutual
/-- `namesOf t ⊆ tab.map (·.2)`; a name is compared only with the entries whose first component is the minimal wire
size of the struct's fields (1 for an enum) -/
def closedIn (tab : List (Nat × String)) : Ty → Bool
  | .option t => closedIn tab t
  | .vec t => closedIn tab t
  | .tuple ts => closedInL tab ts
  | .array _ t => closedIn tab t
  | .struct n _ ts => (tab.any fun e => e.1 == minWireL ts && e.2 == n) && closedInL tab ts
  | .enum8 n _ => tab.any fun e => e.1 == 1 && e.2 == n
  | .optpair t u => closedIn tab t && closedIn tab u
  | _ => true
def closedInL (tab : List (Nat × String)) : List Ty → Bool
  | [] => true
  | t :: ts => closedIn tab t && closedInL tab ts
end

theorem mem_of_any {tab : List (Nat × String)} {k : Nat} {n : String}
    (h : (tab.any fun e => e.1 == k && e.2 == n) = true) : n ∈ tab.map (·.2) := by
  simp only [List.any_eq_true, Bool.and_eq_true, beq_iff_eq] at h
  obtain ⟨e, he, _, rfl⟩ := h
  exact List.mem_map_of_mem he

mutual
theorem closedIn_sound (tab : List (Nat × String)) :
    ∀ t, closedIn tab t = true → ∀ n ∈ namesOf t, n ∈ tab.map (·.2)
  | .option t, h => closedIn_sound tab t h
  | .vec t, h => closedIn_sound tab t h
  | .tuple ts, h => closedInL_sound tab ts h
  | .array _ t, h => closedIn_sound tab t h
  | .struct _ _ ts, h => by
      have h := (Bool.and_eq_true _ _).mp h
      intro n hn
      rcases List.mem_cons.mp hn with rfl | hn
      · exact mem_of_any h.1
      · exact closedInL_sound tab ts h.2 n hn
  | .enum8 _ _, h => fun n hn => List.mem_singleton.mp hn ▸ mem_of_any h
  | .optpair t u, h => by
      have h := (Bool.and_eq_true _ _).mp h
      intro n hn
      rcases List.mem_append.mp hn with hn | hn
      · exact closedIn_sound tab t h.1 n hn
      · exact closedIn_sound tab u h.2 n hn
  | .uint _, _ | .sint _, _ | .bool, _ | .unit, _ | .bytes, _ | .bytesN _, _ | .str, _ | .program, _ | .g1, _ | .g2, _
  | .gt, _ | .secretKey, _ | .genTail _, _ | .proofOfSpace, _ => nofun
theorem closedInL_sound (tab : List (Nat × String)) :
    ∀ ts, closedInL tab ts = true → ∀ n ∈ namesOfL ts, n ∈ tab.map (·.2)
  | [], _ => nofun
  | t :: ts, h => by
      have h := (Bool.and_eq_true _ _).mp h
      intro n hn
      rcases List.mem_append.mp hn with hn | hn
      · exact closedIn_sound tab t h.1 n hn
      · exact closedInL_sound tab ts h.2 n hn
end

/-- **Descriptors are closed:** every struct / enum name used inside a generated descriptor is a defined item. -/
theorem descriptors_closed :
    ∀ d ∈ Gen.Streamable.streamableTypes, ∀ n ∈ namesOf d.2, n ∈ Gen.Streamable.definedNames := by
  have h : (Gen.Streamable.streamableTypes.all fun d => closedIn
      ((Gen.Streamable.streamableTypes.map fun d => minWire d.2).zip Gen.Streamable.definedNames) d.2) = true := by
    -- The table pairs the `i`-th defined name with the minimal wire size of the `i`-th descriptor.  Were the two
    -- generated lists not in the same order the evaluation would answer `false`; the conclusion does not rest on the
    -- order (`closedIn_sound`, `List.of_mem_zip`).
    decide +kernel
  intro d hd n hn
  obtain ⟨e, he, rfl⟩ := List.mem_map.mp (closedIn_sound _ _ (List.all_eq_true.mp h d hd) n hn)
  exact (List.of_mem_zip he).2

/-- **Instantiation** of the generic theorems for every descriptor regenerated from the source. -/
theorem generated_types_codec (O : Oracles) (hO : OracleContract O) :
    ∀ d ∈ Gen.Streamable.streamableTypes,
      Codec (decode O false d.2) (encode O d.2) (WF O false d.2) ∧
      Agree (decode O false d.2) (decode O true d.2) ∧
      HashOK (digestChunks O d.2) (encodeForHash O d.2) (WF O false d.2) :=
  fun d _ => ⟨codec_decode O hO false d.2, agree_decode O hO d.2, hash_decode O hO false d.2⟩

/-- **The contract holds for the executable scan model** the driver instantiates the oracle with (the model of
clvmr's `serialized_length_from_bytes(_trusted)`, compared with clvmr on every Program case): with it, the theorems
above are unconditional in the serialised-length oracle, whatever the point-validity and quality-string oracles are. -/
theorem clvm_scan_contract (g1 g2 : Bytes → Nat) (sk : Bytes → Bool) (quality : Bytes → Option Bytes) :
    OracleContract { g1 := g1, g2 := g2, sk := sk, serLen := ClvmScan.clvmSerLen, quality := quality } where
  serLen_prefix := fun tr b n h hn r => ClvmScan.clvmSerLen_prefix tr b n h hn r
  serLen_trusted := fun b n h => ClvmScan.clvmSerLen_trusted b n h
  serLen_pos := fun tr b n h => ClvmScan.clvmSerLen_pos tr b n h

/-! non-vacuity: a well-formed value, the hypotheses are satisfiable -/
example : OracleContract trivialOracles where
  serLen_prefix := by
    intro tr b n h hn r
    cases b with
    | nil => simp [trivialOracles] at h
    | cons x xs => simp [trivialOracles] at h ⊢; subst h; simp
  serLen_trusted := by intro b n h; exact h
  serLen_pos := by
    intro tr b n h
    cases b with
    | nil => simp [trivialOracles] at h
    | cons x xs => simp [trivialOracles] at h; omega

example : WF trivialOracles false (.struct "Coin" ["a", "b"] [.uint 4, .option .bool]) (.tup [.n 7, .some (.b true)]) = true := by
  decide

end ChiaModel.C13
