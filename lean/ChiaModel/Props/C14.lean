import ChiaModel.Lemmas.StreamableHash
import ChiaModel.Lemmas.StreamableAlloc
import ChiaModel.Gen.Streamable
import ChiaModel.Gen.PanicSites
/-!
# C14 — decoding arbitrary bytes is total and bounded

What a Lean model can carry: the *model* decoder is a total function, so the content of these theorems is that
it never takes one of the explicit `panic` branches (every `unwrap` / `[index]` / `expect` / `panic!` of the Rust
`parse` methods is such a branch), that it consumes a prefix, that whole-input decoding rejects trailing and
missing bytes, that the bytes reserved ahead of parsing are bounded linearly in the input plus one 2 MiB cap per
open vector, and which post-operations on a decoded value can panic.  Real panics, memory and time of the
Rust code are observed by the correspondence (catch_unwind, counting allocator, worker processes).
-/
namespace ChiaModel.C14
open ChiaModel ChiaModel.Streamable

/-- **Totality.** For every descriptor, trust mode and byte string the decoder returns a value or an error,
never a panic branch, and what it leaves over is a suffix of the input (it consumes a prefix). -/
theorem decode_total (O : Oracles) (tr : Bool) (t : Ty) (b : Bytes) :
    (∀ s, (decode O tr t b).out ≠ .panic s) ∧
    (∀ v r, (decode O tr t b).out = .ok (v, r) → ∃ p, b = p ++ r) :=
  ⟨(total_decode O tr t b).np, fun v r h => let ⟨p, hp, _⟩ := (total_decode O tr t b).pre v r h; ⟨p, hp⟩⟩

/-- `from_bytes` / `from_bytes_unchecked` take no panic branch either -/
theorem from_bytes_total (O : Oracles) (tr : Bool) (t : Ty) (b : Bytes) (s : String) :
    (fromBytes O tr t b).out ≠ .panic s := by
  unfold fromBytes
  rw [Ne, Res.bind_panic]
  rintro (h | ⟨a, _, h⟩)
  · exact (total_decode O tr t b).np s h
  · split at h <;> cases h

/-- **Trailing bytes are rejected**: the encoding of a well-formed value followed by at least one more byte is
not accepted by `from_bytes` (and `from_bytes` accepts only if the whole input was consumed, `C13.from_bytes_iff`). -/
theorem trailing_rejected (O : Oracles) (hO : OracleContract O) (t : Ty) (v : V) (h : WF O false t v = true)
    (bs x : Bytes) (he : encode O t v = some bs) (hx : x ≠ []) :
    (fromBytes O false t (bs ++ x)).out = .err := by
  obtain ⟨bs', he', hd⟩ := C13.roundtrip O hO t v h
  cases he.symm.trans he'
  unfold fromBytes
  rw [Res.bind_out, hd x]
  cases x with
  | nil => exact absurd rfl hx
  | cons y ys => rfl

/-- **Missing bytes are rejected**: no proper prefix of the encoding of a well-formed value is accepted
(for every type: a type with a zero-width tail has no proper prefix that is itself an encoding either). -/
theorem missing_rejected (O : Oracles) (hO : OracleContract O) (t : Ty) (v : V) (h : WF O false t v = true)
    (bs p q : Bytes) (hbs : isBytes bs) (he : encode O t v = some bs) (hpq : p ++ q = bs) (hq : q ≠ []) :
    (fromBytes O false t p).out = .err := by
  cases hr : (fromBytes O false t p).out with
  | err => rfl
  | panic s => exact absurd hr (from_bytes_total O false t p s)
  | ok v' =>
    exfalso
    have hp : isBytes p := by subst hpq; exact (isBytes_append.mp hbs).1
    obtain ⟨he', hw'⟩ := C13.from_bytes_to_bytes O hO t p hp v' hr
    obtain ⟨b1, hb1, hd1⟩ := C13.roundtrip O hO t v h
    obtain ⟨b2, hb2, hd2⟩ := C13.roundtrip O hO t v' hw'
    cases he.symm.trans hb1
    cases he'.symm.trans hb2
    have e1 : (decode O false t bs).out = .ok (v, []) := List.append_nil bs ▸ hd1 []
    have e2 := hd2 q
    rw [hpq, e1] at e2
    cases e2
    exact hq rfl

/-- **No zero-width vector element** in any generated descriptor (`Vec<()>` would make `parse` loop `len` times
without consuming input; the derive macro's unit struct is zero-width too). -/
theorem no_unit_vec : ∀ d ∈ Gen.Streamable.streamableTypes, noZeroWidthVec d.2 = true := by
  decide +kernel

/-- one `Vec::with_capacity` never reserves more than 2 MiB, and never more than `len` elements -/
theorem reservation_bound (sz len : Nat) : reservation sz len ≤ min allocCap (len * sz) :=
  Nat.le_min.mpr ⟨reservation_le_cap sz len, reservation_le_len sz len⟩

/-- **Bounded pre-allocation.** For a descriptor without zero-width vector elements, the bytes reserved ahead of
parsing during one decoding run (summed over all vector headers met, whether the run succeeds or not) are at
most `allocFactor t` per input byte plus one 2 MiB cap per vector header that can be open at once; on an
accepting run they are at most `allocFactor t` per *consumed* byte. -/
theorem alloc_bound (O : Oracles) (hO : OracleContract O) (tr : Bool) (t : Ty) (h : noZeroWidthVec t = true) (b : Bytes) :
    (decode O tr t b).alloc ≤ allocFactor t * b.length + vecDepth t * allocCap ∧
    (∀ v r, (decode O tr t b).out = .ok (v, r) → (decode O tr t b).alloc ≤ allocFactor t * (b.length - r.length)) := by
  have A := allocOK_decode O hO tr t h b
  refine ⟨A.any, fun v r hd => ?_⟩
  obtain ⟨h1, h2⟩ := A.ok hd
  rw [Nat.mul_sub]
  omega

/-- **Elements parsed are bounded by the input**: an accepted vector of `n` elements consumed at least
`4 + n * minWire t` bytes. -/
theorem elements_bounded (O : Oracles) (hO : OracleContract O) (tr : Bool) (t : Ty) (b : Bytes) (v : V) (r : Bytes)
    (h : (decode O tr (.vec t) b).out = .ok (v, r)) :
    ∃ vs, v = .list vs ∧ r.length + 4 + vs.length * minWire t ≤ b.length :=
  decVec_elements (total_decode_minWire O hO tr t) h

theorem generated_alloc_bound (O : Oracles) (hO : OracleContract O) (tr : Bool) :
    ∀ d ∈ Gen.Streamable.streamableTypes, ∀ b : Bytes,
      (decode O tr d.2 b).alloc ≤ allocFactor d.2 * b.length + vecDepth d.2 * allocCap :=
  fun d hd b => (alloc_bound O hO tr d.2 (no_unit_vec d hd) b).1

/-- **Post-operations on a decoded value** (either trust mode): re-encoding succeeds and reproduces the input;
`update_digest` is never ill-typed; if it panics, it does so at `quality_string().expect(..)` and the prescribed
hash pre-image does not exist (a version-2 proof of space without a quality string, `C13.encodeForHash_pos`);
for types without a proof of space it never panics.  (`==` is structural equality of decoded values and has no
panic site in the anchored files.)  PARTIAL with respect to the property, which demands that hashing never
panics: see `post_ops_full_false`. -/
theorem post_ops_partial (O : Oracles) (hO : OracleContract O) (tr : Bool) (t : Ty) (b : Bytes) (hb : isBytes b) (v : V)
    (h : (fromBytes O tr t b).out = .ok v) :
    encode O t v = some b ∧
    digestChunks O t v ≠ .err ∧
    (∀ s, digestChunks O t v = .panic s → s = sitePosQuality ∧ encodeForHash O t v = none) ∧
    (C13.posFree t = true → ∃ cs, digestChunks O t v = .ok cs ∧ cs.flatten = b) := by
  have hd := (C13.from_bytes_iff O tr t b v).mp h
  obtain ⟨p, he, hp, hw⟩ := (codec_decode O hO tr t).cn b v [] hb hd
  rw [List.append_nil] at hp; subst hp
  have hh := hash_decode O hO tr t v hw
  refine ⟨he, ?_, ?_, ?_⟩
  · intro e; rw [e] at hh; exact hh
  · intro s e; rw [e] at hh; exact ⟨hh.2, hh.1⟩
  · exact fun hpf => hashRel_some hh ((C13.encodeForHash_eq_encode O t hpf v).trans he)

/-- the full-strength statement the property asks for: hashing a decoded value never panics -/
def post_ops_full : Prop :=
  ∀ (O : Oracles) (tr : Bool) (t : Ty) (b : Bytes) (v : V),
    (fromBytes O tr t b).out = .ok v → ∀ s, digestChunks O t v ≠ .panic s

/-- oracle answers observed on the real code for the witness: both keys are valid, the 16 zero proof bytes have
no quality string (replayed by `corpus/C14.case`) -/
def witnessOracles : Oracles where
  g1 := fun _ => 2
  g2 := fun _ => 2
  sk := fun _ => true
  serLen := ClvmScan.clvmSerLen
  quality := fun _ => none

/-- version-2 ProofOfSpace: zero challenge, pool key present, prefix `0b10`, plot key, plot index 0, meta group 0,
strength 0, 16 zero proof bytes (154 bytes) -/
def witness : Bytes :=
  [0, 0, 0, 0, 0, 0, 0, 0, 0, 0, 0, 0, 0, 0, 0, 0, 0, 0, 0, 0, 0, 0, 0, 0, 0, 0, 0, 0, 0, 0, 0, 0, 1, 182, 219, 203, 141, 9, 233, 141, 59, 219, 129, 233, 229, 0, 30, 62, 54, 14, 165, 200, 134, 216, 85, 198, 2, 129, 73, 97, 233, 81, 249, 74, 35, 121, 88, 186, 213, 164, 186, 186, 200, 86, 65, 222, 101, 56, 24, 84, 45, 2, 182, 219, 203, 141, 9, 233, 141, 59, 219, 129, 233, 229, 0, 30, 62, 54, 14, 165, 200, 134, 216, 85, 198, 2, 129, 73, 97, 233, 81, 249, 74, 35, 121, 88, 186, 213, 164, 186, 186, 200, 86, 65, 222, 101, 56, 24, 84, 45, 0, 0, 0, 0, 0, 0, 0, 16, 0, 0, 0, 0, 0, 0, 0, 0, 0, 0, 0, 0, 0, 0, 0, 0]

def isPanic {α : Type} : Outcome α → Bool
  | .panic _ => true
  | _ => false

theorem witness_decodes_and_digest_panics :
    (match (fromBytes witnessOracles false .proofOfSpace witness).out with
     | .ok v => isPanic (digestChunks witnessOracles .proofOfSpace v)
     | _ => false) = true := by
  decide +kernel

/-- **The full statement is false** (negation witness; confirmed on the real code, known finding). -/
theorem post_ops_full_false : ¬ post_ops_full := by
  intro hfull
  have hw := witness_decodes_and_digest_panics
  cases hv : (fromBytes witnessOracles false .proofOfSpace witness).out with
  | err => rw [hv] at hw; cases hw
  | panic s => rw [hv] at hw; cases hw
  | ok v =>
    rw [hv] at hw
    simp only at hw
    cases hd : digestChunks witnessOracles .proofOfSpace v with
    | ok cs => rw [hd] at hw; cases hw
    | err => rw [hd] at hw; cases hw
    | panic s => exact hfull witnessOracles false .proofOfSpace witness v hv s hd

/-- the panic sites of the anchored sources, reviewed: (file, what, class).  `guarded` = a slicing or `unwrap` behind a
length test.  Nine of the twelve are explicit panic branches of the model, which `decode_total` excludes (the `site…`
strings of Model/Streamable.lean).  The other three have no branch: `[pos as usize..]` in `read_bytes` and in
`Program::parse` (the model's input is the unread rest, there is no position) and `[..len]` in `read_bytes` (the model's
`readBytes` is the length test that stands before it).  `compile-time` = inside the derive macro itself; `unreachable-…` = a
digest branch that `post_ops_partial` excludes for decoded values; `REACHABLE-hash` = the known finding. -/
def reviewedSites : List (String × String × String) := [
  ("crates/chia-traits/src/streamable.rs", "[pos as usize..]", "guarded"),
  ("crates/chia-traits/src/streamable.rs", "[..len]", "guarded"),
  ("crates/chia-traits/src/streamable.rs", ".unwrap(", "guarded"),
  ("crates/chia-traits/src/streamable.rs", "[0]", "guarded"),
  ("crates/chia-traits/src/streamable.rs", "[0]", "guarded"),
  ("crates/chia_streamable_macro/src/lib.rs", ".expect(", "compile-time"),
  ("crates/chia_streamable_macro/src/lib.rs", "panic!", "compile-time"),
  ("crates/chia_streamable_macro/src/lib.rs", "panic!", "compile-time"),
  ("crates/chia_streamable_macro/src/lib.rs", "panic!", "compile-time"),
  ("crates/chia_streamable_macro/src/lib.rs", ".expect(", "compile-time"),
  ("crates/chia_streamable_macro/src/lib.rs", "panic!", "compile-time"),
  ("crates/chia_streamable_macro/src/lib.rs", ".unwrap(", "compile-time"),
  ("crates/chia-protocol/src/proof_of_space.rs", "panic!", "unreachable-plot-id"),
  ("crates/chia-protocol/src/proof_of_space.rs", "panic!", "unreachable-plot-id"),
  ("crates/chia-protocol/src/proof_of_space.rs", "panic!", "unreachable-plot-id"),
  ("crates/chia-protocol/src/proof_of_space.rs", ".expect(", "REACHABLE-hash"),
  ("crates/chia-protocol/src/proof_of_space.rs", "panic!", "unreachable-version"),
  ("crates/chia-protocol/src/fullblock.rs", "panic!", "unreachable-version"),
  ("crates/chia-protocol/src/program.rs", "[pos as usize..]", "guarded"),
  ("crates/chia-protocol/src/program.rs", "[..len as usize]", "guarded"),
  ("crates/chia-protocol/src/bytes.rs", ".unwrap(", "guarded"),
  ("crates/chia-bls/src/public_key.rs", ".unwrap(", "guarded"),
  ("crates/chia-bls/src/signature.rs", ".unwrap(", "guarded"),
  ("crates/chia-bls/src/secret_key.rs", ".unwrap(", "guarded"),
  ("crates/chia-bls/src/gtelement.rs", ".unwrap(", "guarded")]

/-- **Every panic site extracted from the current source is a reviewed one** (same files, same constructs, same
order and multiplicity; line numbers may move).  A new `unwrap`/`expect`/`panic!`/index inside a Streamable
method changes `Gen.panicSites` and breaks this theorem. -/
theorem panic_sites_reviewed :
    Gen.panicSites.map (fun s => (s.1, s.2.2.1)) = reviewedSites.map (fun s => (s.1, s.2.1)) :=
  rfl

end ChiaModel.C14
