import ChiaModel.Lemmas.BlsCache
/-
C15 — all signature verification paths agree, with or without the pairing cache.
The theorems are about the executable model the driver runs (Model/BlsCache.lean): the five
verifiers over the ideal BLS, the FIFO cache with `put` exactly as coded, and the lock-granularity
thread model (`step`, `runSchedule`, `runAll`, `runOp`, `runHistory`) of `BlsCache` as of commit
601e785b: `aggregate_verify` keeps the local flag `invalid_key` (set for every pair whose key is the
point at infinity, before the cache lookup) and returns
`aggregate_verify_gt(sig, pairings) && !invalid_key`.

Reading guide.  A *schedule* is any list of thread indices: entry `i` lets call `i` take the cache
lock for its next atomic step (ignored when that call has returned).  `runAll w sched` executes the
schedule and then lets the remaining calls finish; `runOp c op` is one call alone; a sequential
history is `runHistory`.  Every statement below is for all caches, all capacities, all pair lists,
all signatures, all call lists and all schedules — no bound on any size.
-/
namespace ChiaModel.C15
open ChiaModel ChiaModel.Bls

/-- `BlsCache::new` needs a non-zero capacity (`NonZeroUsize`): capacity 0 cannot be constructed … -/
theorem new_zero : Cache.new 0 = none := rfl

/-- … and has to be excluded: `put`, as coded, would let a capacity-0 cache grow (it only pops when
`len == capacity`, which is never true again after the first insert). -/
theorem cap_zero_breaks :
    ((({ cap := 0 } : Cache).put [1] []).put [2] []).len = 2 := by decide

theorem runSchedule_capOk {n : Nat} (w : World) (h : CapOk w.cache ∧ w.cache.cap = n) (sched : List Nat) :
    CapOk (runSchedule w sched).cache ∧ (runSchedule w sched).cache.cap = n :=
  runSchedule_cache_inv (fun c => CapOk c ∧ c.cap = n)
    (fun c k v hc => ⟨put_capOk c k v hc.1, hc.2⟩) (fun c k hc => ⟨remove_capOk c k hc.1, hc.2⟩) w sched h

theorem runAll_capOk {n : Nat} (w : World) (h : CapOk w.cache ∧ w.cache.cap = n) (sched : List Nat) :
    CapOk (runAll w sched).cache ∧ (runAll w sched).cache.cap = n := by
  rw [runAll_eq]
  exact runSchedule_capOk w h _

/-- **Capacity invariant, every schedule.**  Whatever the calls are and whatever state they are in
(no well-formedness assumed), every atomic step of every schedule keeps `len ≤ capacity`; the
capacity itself never changes.  `put` on a full cache pops the oldest entry first — also when the
key being put is already present (re-insert at capacity, which then shrinks the cache by one). -/
theorem cap_invariant (w : World) (h : CapOk w.cache) (sched : List Nat) :
    (runSchedule w sched).cache.len ≤ w.cache.cap ∧ (runSchedule w sched).cache.cap = w.cache.cap
    ∧ (runAll w sched).cache.len ≤ w.cache.cap := by
  obtain ⟨h1, h2⟩ := runSchedule_capOk w ⟨h, rfl⟩ sched
  obtain ⟨h3, h4⟩ := runAll_capOk w ⟨h, rfl⟩ sched
  exact ⟨h2 ▸ h1.2, h2, h4 ▸ h3.2⟩

/-- **Capacity invariant, fresh cache, whole histories.**  For a cache made by `BlsCache::new(n)`:
after every call of every sequential history (`len()` is recorded after each call), and after every
schedule of any concurrent calls that follow, the cache holds at most `n` entries. -/
theorem cap_invariant_new (n : Nat) (c0 : Cache) (hnew : Cache.new n = some c0)
    (pre : List Op) (calls : List Op) (sched : List Nat) :
    (∀ r ∈ (runHistory c0 pre).2, r.2 ≤ n) ∧ (runHistory c0 pre).1.len ≤ n ∧
    (runAll { cache := (runHistory c0 pre).1, threads := calls.map Thread.start } sched).cache.len ≤ n := by
  obtain ⟨hcap, _, hok⟩ := new_ok hnew
  obtain ⟨k2, k1⟩ := runHistory_inv (fun c => CapOk c ∧ c.cap = n) pre
    (fun op _ c h => runAll_capOk { cache := c, threads := [Thread.start op] } h []) c0 ⟨hok, hcap⟩
  obtain ⟨k3, k4⟩ := runAll_capOk { cache := (runHistory c0 pre).1, threads := calls.map Thread.start } k2 sched
  refine ⟨fun r hr => ?_, k2.2 ▸ k2.1.2, k4 ▸ k3.2⟩
  obtain ⟨c', hc', hr'⟩ := k1 r hr
  exact hr' ▸ hc'.2 ▸ hc'.1.2

/-- the association list never holds a key twice (so `len` is the number of distinct keys, as in the
`LinkedHashMap`) -/
theorem keys_nodup (w : World) (h : KeysNodup w.cache) (sched : List Nat) :
    KeysNodup (runSchedule w sched).cache :=
  runSchedule_cache_inv KeysNodup put_keysNodup remove_keysNodup w sched h

/-- **CacheSound is an invariant of every schedule.**  If every entry maps `sha256(pk‖m)` to
`e(pk, H(pk‖m))`, the calls use pairs from the finite universe `U`, `update`s are truthful and the
keys of `U` do not collide (`CollisionFree`, an explicit hypothesis — SHA-256 is not assumed
injective), then the same holds after every atomic step of every schedule, and after `runAll`. -/
theorem cache_sound_inv (U : List Pair) (hcf : CollisionFree U) (c : Cache) (hs : CacheSound U c)
    (calls : List Op) (hops : ∀ op ∈ calls, OpOk U op) (sched : List Nat) :
    CacheSound U (runSchedule { cache := c, threads := calls.map Thread.start } sched).cache ∧
    CacheSound U (runAll { cache := c, threads := calls.map Thread.start } sched).cache := by
  refine ⟨(runSchedule_start_ok (fun _ => hcf) (fun _ => hs) (fun _ => hops) sched).1 trivial, ?_⟩
  rw [runAll_eq]
  exact (runSchedule_start_ok (fun _ => hcf) (fun _ => hs) (fun _ => hops) _).1 trivial

/-- the same with the collision as an explicit disjunct instead of a hypothesis: either the cache
stays sound, or two of the pairs in use collide on their cache key with different pairings. -/
theorem cache_sound_inv_or_collision (U : List Pair) (c : Cache) (hs : CacheSound U c)
    (calls : List Op) (hops : ∀ op ∈ calls, OpOk U op) (sched : List Nat) :
    CacheSound U (runAll { cache := c, threads := calls.map Thread.start } sched).cache ∨
    ∃ p ∈ U, ∃ q ∈ U, p.key = q.key ∧ p.pairing ≠ q.pairing := by
  by_cases hcf : CollisionFree U
  · exact Or.inl (cache_sound_inv U hcf c hs calls hops sched).2
  · refine Or.inr ?_
    unfold CollisionFree at hcf
    simp only [Classical.not_forall] at hcf
    obtain ⟨p, hp, q, hq, hk, hne⟩ := hcf
    exact ⟨p, hp, q, hq, hk, hne⟩

/-- For a schedule that is cut off anywhere: a cache-assisted verification that *has* returned returned
`aggregate_verify_gt(sig, true pairings) && !(some key is the point at infinity)` (no call ever
returns anything else at any point of any interleaving). -/
theorem transparent_prefix (U : List Pair) (hcf : CollisionFree U) (c : Cache) (hs : CacheSound U c)
    (calls : List Op) (hops : ∀ op ∈ calls, OpOk U op) (sched : List Nat) :
    ∀ t ∈ (runSchedule { cache := c, threads := calls.map Thread.start } sched).threads,
      ∀ ps sig o, t.op = .av ps sig → t.st = .done o →
        o = .verdict (aggregateVerifyGt sig (ps.map Pair.pairing) && !(ps.any Pair.isInf)) := by
  intro t ht ps sig o hop ho
  obtain ⟨got, hg, hv⟩ :=
    ((runSchedule_start_ok (fun _ => hcf) (fun _ => hs) (fun _ => hops) sched).2 t ht).verdict hop ho
  rw [hv, hg trivial]

/-- **Every call returns, and a cache-assisted verification returns exactly
`aggregate_verify_gt(sig, true pairings) && !(some key is the point at infinity)`** — for every
sound cache (any capacity, any prior contents), every list of concurrent `aggregate_verify` /
`update` / `evict` / `len` calls and every interleaving of their lock acquisitions.  The right-hand
side mentions neither the cache nor the schedule: the verdict is independent of capacity, contents,
evictions and interleaving.  (That right-hand side is `aggregate_verify(sig, pairs)`:
`gt_flag_eq_plain`, `cache_agrees_with_plain_sched`.) -/
theorem transparent (U : List Pair) (hcf : CollisionFree U) (c : Cache) (hs : CacheSound U c)
    (calls : List Op) (hops : ∀ op ∈ calls, OpOk U op) (sched : List Nat) :
    (runAll { cache := c, threads := calls.map Thread.start } sched).threads.map (·.op) = calls ∧
    ∀ t ∈ (runAll { cache := c, threads := calls.map Thread.start } sched).threads,
      (∃ o, t.st = .done o) ∧
      ∀ ps sig, t.op = .av ps sig →
        t.st = .done (.verdict (aggregateVerifyGt sig (ps.map Pair.pairing) && !(ps.any Pair.isInf))) := by
  refine ⟨runAll_ops c calls sched, fun t ht => ?_⟩
  obtain ⟨o, ho⟩ := runAll_done _ sched t ht
  refine ⟨⟨o, ho⟩, fun ps sig hop => ?_⟩
  rw [runAll_eq] at ht
  rw [ho, transparent_prefix U hcf c hs calls hops _ t ht ps sig o hop ho]

/-- sequential form: `BlsCache::aggregate_verify` called alone on a sound cache returns
`aggregate_verify_gt` over the true pairings, and-ed with "no key is the point at infinity", and
leaves the cache sound (also when it returns `false` because of an infinity key: the identity
pairing it has inserted IS the true pairing of that pair). -/
theorem cacheVerify_transparent (U : List Pair) (hcf : CollisionFree U) (c : Cache)
    (hs : CacheSound U c) (sig : Sig) (ps : List Pair) (hU : ∀ p ∈ ps, p ∈ U) :
    (cacheVerify c sig ps).2 = (aggregateVerifyGt sig (ps.map Pair.pairing) && !(ps.any Pair.isInf)) ∧
    CacheSound U (cacheVerify c sig ps).1 := by
  have hops : ∀ op ∈ [Op.av ps sig], OpOk U op := fun op hop => by
    rw [List.mem_singleton.mp hop]; exact hU
  exact ⟨cacheVerify_verdict c sig ps _ (fun t ht hop => ((transparent U hcf c hs _ hops []).2 t ht).2 ps sig hop),
    (cache_sound_inv U hcf c hs _ hops []).2⟩

theorem history_sound (U : List Pair) (hcf : CollisionFree U) (pre : List Op)
    (hops : ∀ op ∈ pre, OpOk U op) (c : Cache) (hs : CacheSound U c) :
    CacheSound U (runHistory c pre).1 :=
  (runHistory_inv (CacheSound U) pre (fun op hop c hs =>
    (cache_sound_inv U hcf c hs [op] (fun _ ho => List.mem_singleton.mp ho ▸ hops op hop) []).2) c hs).1

theorem aggregateVerifyGt_eq (sig : Sig) (gts : List GT) :
    aggregateVerifyGt sig gts = decide (sig = { off := false, terms := gts.foldl FSum.add [] }) := by
  unfold aggregateVerifyGt
  obtain ⟨off, terms⟩ := sig
  cases off with
  | true => simp [Sig.isValid]
  | false =>
    cases gts with
    | nil => rfl
    | cons g rest =>
      simp only [Sig.isValid, Bool.not_false, Bool.not_true, Bool.false_eq_true, if_false, pairGen_eq,
        List.foldl_cons, FSum.nil_add, Sig.mk.injEq, true_and]
      exact decide_eq_decide.mpr eq_comm

/-- what the cache-assisted path computes on a sound cache — `aggregate_verify_gt` over the true
pairings, and-ed with "no key is the point at infinity" — is `aggregate_verify`, for EVERY pair
list and signature: the pair loop fails exactly on an infinity key and otherwise multiplies the
true pairings (`avLoop_eq`). -/
theorem gt_flag_eq_plain (sig : Sig) (ps : List Pair) :
    (aggregateVerifyGt sig (ps.map Pair.pairing) && !(ps.any Pair.isInf)) = aggregateVerify sig ps := by
  unfold aggregateVerify aggregateVerifyGt
  split
  · rfl
  · cases ps with
    | nil => simp
    | cons p rest =>
      simp only [avLoop_eq, List.map_cons, List.foldl_cons, FSum.nil_add]
      cases (p :: rest).any Pair.isInf <;> simp

theorem gt_noinf (sig : Sig) (ps : List Pair) (hn : ∀ p ∈ ps, p.pk ≠ 0) :
    aggregateVerifyGt sig (ps.map Pair.pairing) = aggregateVerify sig ps := by
  rw [← gt_flag_eq_plain, any_isInf_false.mpr hn, Bool.not_false, Bool.and_true]

/-- `aggregate_verify` returns what the property prescribes, for EVERY pair list (with or without
the infinity key) and every signature: never valid if a key is the point at infinity, otherwise
valid exactly when the signature is the aggregate of signatures by those keys over those messages. -/
theorem aggregateVerify_spec (sig : Sig) (ps : List Pair) : aggregateVerify sig ps = specVerdict sig ps := by
  rw [← gt_flag_eq_plain, aggregateVerifyGt_eq, specVerdict, Bool.and_comm]
  simp only [IsAggregate, aggregate_sign]

/-- **Ideal correctness.**  Without an infinity key, `aggregate_verify` accepts exactly when
`sig = Σ sk_i · H(pk_i ‖ m_i)` (the aggregate of the owners' signatures). -/
theorem ideal_correct (sig : Sig) (ps : List Pair) (hn : ∀ p ∈ ps, p.pk ≠ 0) :
    aggregateVerify sig ps = true ↔ IsAggregate sig ps := by
  rw [aggregateVerify_spec, specVerdict, any_isInf_false.mpr hn]
  simp

/-- `verify(sig, pk, msg)` is `aggregate_verify` on the singleton list — for every key, infinity
included — hence also returns the prescribed verdict. -/
theorem verify_spec (sig : Sig) (p : Pair) :
    verify sig p = aggregateVerify sig [p] ∧ verify sig p = specVerdict sig [p] := by
  have h : verify sig p = aggregateVerify sig [p] := by
    unfold verify aggregateVerify
    cases sig with
    | mk off terms =>
      cases off with
      | true => simp [Sig.isValid]
      | false =>
        simp only [Sig.isValid, Bool.not_false, Bool.not_true, Bool.false_eq_true, if_false, avLoop]
        by_cases hp : p.pk = 0
        · simp [hp]
        · simp only [hp, if_false, FSum.nil_add]
  exact ⟨h, h.trans (aggregateVerify_spec sig [p])⟩

/-- **`aggregate_pairing` under its argument convention** — all `(pk_i, H(pk_i‖m_i))` followed by
`(−g, sig)`, as in the tests of signature.rs — is `aggregate_verify_gt` over the true pairings, for
every pair list and every signature in normal form (`Normal`: what `aggregate`/`sign`/`hash_to_g2`
build, lemma `aggregate_normal`); hence, without an infinity key, it agrees with `aggregate_verify`
and returns the prescribed verdict.  (With an infinity key the ideal `e(∞, ·) = 1` is NOT what
blst's multi-pairing computes; the harness reports that case informationally only.) -/
theorem pairing_convention (sig : Sig) (ps : List Pair) (hsig : Normal sig.terms) :
    aggregatePairing (pairingArgs sig ps) = aggregateVerifyGt sig (ps.map Pair.pairing) ∧
    ((∀ p ∈ ps, p.pk ≠ 0) → aggregatePairing (pairingArgs sig ps) = specVerdict sig ps) := by
  have main : aggregatePairing (pairingArgs sig ps) = aggregateVerifyGt sig (ps.map Pair.pairing) := by
    have hA : Normal ((ps.map Pair.pairing).foldl FSum.add []) :=
      foldl_add_normal _ (by
        intro g hg
        obtain ⟨p, _, rfl⟩ := List.mem_map.mp hg
        exact pairing_normal p) normal_nil
    have hfold : (pairingArgs sig ps).foldl (fun (acc : GT) d => FSum.add acc (pair d.1 d.2)) ([] : GT)
        = FSum.add ((ps.map Pair.pairing).foldl FSum.add []) (FSum.smul (-1) sig.terms) := by
      simp only [pairingArgs, List.foldl_append, List.foldl_map, List.foldl_cons, List.foldl_nil]
      rfl
    have hany : (pairingArgs sig ps).any (fun d => d.2.off) = sig.off := by
      simp [pairingArgs, hashToG2]
    rw [aggregateVerifyGt_eq]
    unfold aggregatePairing
    cases hd : pairingArgs sig ps with
    | nil => simp [pairingArgs] at hd
    | cons d rest =>
      simp only
      rw [← hd, hany, hfold]
      obtain ⟨off, terms⟩ := sig
      cases off with
      | true => simp
      | false =>
        simp only [Bool.false_eq_true, if_false, Sig.mk.injEq, true_and]
        exact decide_eq_decide.mpr ((add_neg_eq_nil_iff hA hsig).trans eq_comm)
  refine ⟨main, ?_⟩
  intro hn
  rw [main, gt_noinf sig ps hn, aggregateVerify_spec]

/-- For a schedule that is cut off anywhere, on ANY cache: a `BlsCache::aggregate_verify` call whose
pair list contains the point at infinity never returns anything but `false`, at any point of any
interleaving.  (The thread invariant without its assumption on the cache: `ThreadOk False`.) -/
theorem inf_full_prefix (c : Cache) (calls : List Op) (sched : List Nat) :
    ∀ t ∈ (runSchedule { cache := c, threads := calls.map Thread.start } sched).threads,
      ∀ ps sig o, t.op = .av ps sig → ps.any Pair.isInf = true → t.st = .done o →
        o = .verdict false := by
  intro t ht ps sig o hop hinf ho
  obtain ⟨got, _, hv⟩ := ((runSchedule_start_ok (S := False) (U := []) (c := c) (calls := calls) nofun nofun nofun
    sched).2 t ht).verdict hop ho
  rw [hv, hinf, Bool.not_true, Bool.and_false]

/-- **Never valid with an infinity key, every schedule.**  For EVERY cache (no soundness, no
collision-freeness, no capacity bound assumed), every list of concurrent calls and every
interleaving of their lock acquisitions: a `BlsCache::aggregate_verify` call whose pair list
contains the point at infinity returns `false` (and it does return: `runAll_done`).
This is the `invalid_key` flag (commit 601e785b): it is set for every pair taken from the list,
before the lookup, hit or miss, so no cache content can make the call accept. -/
theorem inf_full_sched (c : Cache) (calls : List Op) (sched : List Nat) :
    ∀ t ∈ (runAll { cache := c, threads := calls.map Thread.start } sched).threads,
      ∀ ps sig, t.op = .av ps sig → ps.any Pair.isInf = true → t.st = .done (.verdict false) := by
  intro t ht ps sig hop hinf
  obtain ⟨o, ho⟩ := runAll_done _ sched t ht
  rw [runAll_eq] at ht
  rw [ho, inf_full_prefix c calls _ t ht ps sig o hop hinf ho]

/-- **Never valid if any key is the point at infinity** — the cache-assisted path, called alone on
ANY cache, with any signature: no side condition.  (`former_witness_rejected` evaluates it on the
inputs of the defect recorded under 601e785b.) -/
theorem inf_full (c : Cache) (sig : Sig) (ps : List Pair) (hinf : ps.any Pair.isInf = true) :
    (cacheVerify c sig ps).2 = false :=
  cacheVerify_verdict c sig ps false (fun t ht hop => inf_full_sched c [.av ps sig] [] t ht ps sig hop hinf)

/-- **The cache-assisted path agrees with `aggregate_verify`** — for every pair list, with or
without the infinity key (no such hypothesis), every signature, every sound cache of any capacity
and prior contents, given that the finitely many keys in use do not collide (`CollisionFree`).
This is the statement of the property for the pair `BlsCache::aggregate_verify` /
`aggregate_verify`; hence the cache-assisted verdict is also the prescribed one (`specVerdict`). -/
theorem cache_agrees_with_plain (U : List Pair) (hcf : CollisionFree U) (c : Cache)
    (hs : CacheSound U c) (sig : Sig) (ps : List Pair) (hU : ∀ p ∈ ps, p ∈ U) :
    (cacheVerify c sig ps).2 = aggregateVerify sig ps := by
  rw [(cacheVerify_transparent U hcf c hs sig ps hU).1, gt_flag_eq_plain]

/-- the same inside any schedule: every concurrent cache-assisted call returns, and returns what
`aggregate_verify` returns on its input (= the prescribed verdict), whatever the other calls
(`aggregate_verify` / `update` / `evict` / `len`) do and however the lock acquisitions interleave. -/
theorem cache_agrees_with_plain_sched (U : List Pair) (hcf : CollisionFree U) (c : Cache)
    (hs : CacheSound U c) (calls : List Op) (hops : ∀ op ∈ calls, OpOk U op) (sched : List Nat) :
    ∀ t ∈ (runAll { cache := c, threads := calls.map Thread.start } sched).threads,
      ∀ ps sig, t.op = .av ps sig →
        t.st = .done (.verdict (aggregateVerify sig ps)) ∧
        t.st = .done (.verdict (specVerdict sig ps)) := by
  intro t ht ps sig hop
  have h := ((transparent U hcf c hs calls hops sched).2 t ht).2 ps sig hop
  rw [gt_flag_eq_plain] at h
  exact ⟨h, by rw [h, aggregateVerify_spec]⟩

/-- **All paths agree when no key is the point at infinity**: the cache-assisted path (alone or in
any schedule, by `transparent`), `aggregate_verify`, `aggregate_verify_gt` over the true pairings and
— for a singleton list — `verify` return the same verdict, which is the prescribed one.  (The first
and the last two conjuncts hold with an infinity key as well: `cache_agrees_with_plain`,
`verify_spec`, `aggregateVerify_spec`; only `aggregate_verify_gt` over precomputed pairings cannot
see the keys and needs the hypothesis.) -/
theorem agree_noinf (U : List Pair) (hcf : CollisionFree U) (c : Cache) (hs : CacheSound U c)
    (sig : Sig) (ps : List Pair) (hU : ∀ p ∈ ps, p ∈ U) (hn : ∀ p ∈ ps, p.pk ≠ 0) :
    (cacheVerify c sig ps).2 = aggregateVerify sig ps ∧
    aggregateVerifyGt sig (ps.map Pair.pairing) = aggregateVerify sig ps ∧
    (∀ p, ps = [p] → verify sig p = aggregateVerify sig ps) ∧
    aggregateVerify sig ps = specVerdict sig ps := by
  refine ⟨cache_agrees_with_plain U hcf c hs sig ps hU, gt_noinf sig ps hn, ?_,
    aggregateVerify_spec sig ps⟩
  intro p hp
  subst hp
  exact (verify_spec sig p).1

/-- the same inside any schedule: with no infinity key every concurrent cache-assisted call returns
the prescribed verdict (without the hypothesis too: `cache_agrees_with_plain_sched`) -/
theorem agree_noinf_sched (U : List Pair) (hcf : CollisionFree U) (c : Cache) (hs : CacheSound U c)
    (calls : List Op) (hops : ∀ op ∈ calls, OpOk U op) (sched : List Nat) :
    ∀ t ∈ (runAll { cache := c, threads := calls.map Thread.start } sched).threads,
      ∀ ps sig, t.op = .av ps sig → (∀ p ∈ ps, p.pk ≠ 0) →
        t.st = .done (.verdict (specVerdict sig ps)) := by
  intro t ht ps sig hop _
  exact (cache_agrees_with_plain_sched U hcf c hs calls hops sched t ht ps sig hop).2

/-- the real 48-byte encoding of the point at infinity -/
def infBytes : Bytes := 0xc0 :: List.replicate 47 0

def infPair : Pair := { pk := 0, pkb := infBytes, msg := [] }

/-- With an infinity key in the list EVERY path that looks at the keys returns `false`, as
prescribed: `aggregate_verify`, `verify` (singleton list) and the cache-assisted path on any cache.
The pairing of the infinity key is the identity (`e(∞, H) = 1`), which is why the key has to be
rejected explicitly: in the product of pairings it simply drops out. -/
theorem inf_all_paths (sig : Sig) (ps : List Pair) (hinf : ps.any Pair.isInf = true) :
    aggregateVerify sig ps = false ∧ (∀ p, ps = [p] → verify sig p = false) ∧
    (∀ c, (cacheVerify c sig ps).2 = false) ∧
    specVerdict sig ps = false ∧
    (∀ p ∈ ps, p.pk = 0 → p.pairing = []) := by
  have hs : specVerdict sig ps = false := by rw [specVerdict, hinf]; rfl
  have h0 : aggregateVerify sig ps = false := by rw [aggregateVerify_spec, hs]
  refine ⟨h0, ?_, fun c => inf_full c sig ps hinf, hs, ?_⟩
  · intro p hp
    subst hp
    rw [(verify_spec sig p).1, h0]
  · intro p _ hp
    simp [Pair.pairing, pair, FSum.smul, hp]

/-- **The witnesses of the recorded defect are rejected.**  The two inputs are those of the defect
that commit 601e785b ("fix: BlsCache::aggregate_verify rejects the infinity (or invalid) public
key") repairs; a `BlsCache::aggregate_verify` that does not look at the keys accepts both
(the first two cases of corpus/C15.case; the second is that of DESIGN §7): (1) an empty cache of
capacity 1, the pair list `[(∞, "")]`, the default signature; (2) `[(pk, "hello"), (∞, "x")]` with
`sign(sk, "hello")`.  The modelled code returns `false` on both, as
`aggregate_verify` does — instances of `inf_full`, evaluated by the kernel on the executable model.
The pairing of the infinity pair is looked up / computed / inserted like any other, so
the cache of (1) afterwards holds one entry (the identity pairing, which is the true pairing of that
pair: `CacheSound` is kept). -/
theorem former_witness_rejected :
    (cacheVerify { cap := 1 } Sig.zero [infPair]).2 = false ∧
    (cacheVerify { cap := 1 } Sig.zero [infPair]).1.len = 1 ∧
    (let p : Pair := { pk := 5, pkb := 0x85 :: List.replicate 47 7, msg := [0x68, 0x65, 0x6c, 0x6c, 0x6f] }
     let q : Pair := { pk := 0, pkb := infBytes, msg := [0x78] }
     (cacheVerify { cap := 2 } p.sign [p, q]).2 = false ∧ aggregateVerify p.sign [p, q] = false ∧
     (cacheVerify { cap := 2 } p.sign [p]).2 = true) := by
  decide +kernel

/-! ## non-vacuity of the hypotheses -/

/-- `CollisionFree` holds for concrete pairs (two keys, shared message, infinity key) … -/
example : CollisionFree
    [{ pk := 5, pkb := [0x85, 1], msg := [0x61] }, { pk := 7, pkb := [0x87, 2], msg := [0x61] },
     { pk := 5, pkb := [0x85, 1], msg := [] }, infPair] := by decide +kernel

/-- … and `CacheSound`/`CapOk` hold for every fresh cache -/
example (U : List Pair) (n : Nat) (c : Cache) (h : Cache.new n = some c) : CacheSound U c ∧ CapOk c := by
  obtain ⟨_, hi, hc⟩ := new_ok h
  obtain ⟨cap, items⟩ := c
  cases hi
  exact ⟨sound_empty U cap, hc⟩

/-- the hypothesis of `inf_full` is satisfiable -/
example : [infPair].any Pair.isInf = true := by decide

/-- the cache-assisted path accepts a correctly signed pair (its verdict is not constantly `false`) -/
example : (cacheVerify { cap := 1 } (Pair.sign { pk := 5, pkb := [0x85, 1], msg := [0x61] })
    [{ pk := 5, pkb := [0x85, 1], msg := [0x61] }]).2 = true := by decide +kernel

end ChiaModel.C15
