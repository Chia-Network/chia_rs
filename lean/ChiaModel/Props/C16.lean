import ChiaModel.Lemmas.Keys
import ChiaModel.Lemmas.FSum
/-
C16 — key and signature encodings round-trip and derivations commute.
The theorems are about the executable definitions of Model/Keys.lean, which the driver (Drv/C16.lean)
runs against the real code.

Scope.  /repo's part of this property is byte and integer logic around blst: flag-bit rules, the
checked/unchecked split, hash-input layout and endianness of the two `derive_unhardened`
implementations, `mod_by_group_order`, `synthetic_offset`.  These are proved here for all inputs.
The group-level statements (`derive_commutes`, `synthetic_commutes`, `add_hom`) are statements about
the **scalar model**: a G1 element is represented by its discrete logarithm (`pk ≅ sk mod r`), so
"taking the public key" is `pkOf` and the group law is addition mod `r`.  That blst's G1 realises
this group law (its generator has prime order `r`, `blst_p1_mult` multiplies by the integer it is
given) is the assumption built into the scalar model; that its point codec satisfies
`G1Codec`/`G2Codec` is an explicit hypothesis of the round-trip theorems.  Both are the TRUSTED BASE
of C16: exercised against real blst on every run, never proved.
-/
namespace ChiaModel.C16
open ChiaModel ChiaModel.Keys

/-- **Endianness.**  `PublicKey::derive_unhardened` reads the digest little-endian into a scalar
(`blst_scalar_from_lendian`), writes that scalar big-endian (`blst_bendian_from_scalar`) and hands the
bytes to `blst_p1_mult`, which reads its scalar little-endian again.  The integer the generator is
multiplied by is therefore the BIG-endian value of the digest — the integer
`SecretKey::derive_unhardened` adds (`blst_scalar_from_be_bytes`, before reduction mod `r`).
(DESIGN.md §6 states the first conjunct as `leToNat (beBytes 32 (leToNat d)) = beToNat d`, in names of
its own for `leVal`, `be`, `beVal`.) -/
theorem endianness (d : Bytes) (hl : d.length = 32) (hb : isBytes d) :
    leVal (be 32 (leVal d)) = beVal d
    ∧ multScalar (bendianFromScalar (scalarFromLendian d)) = beVal d := by
  have h1 : be 32 (leVal d) = d.reverse := by
    unfold leVal
    exact be_beVal d.reverse (isBytes_reverse hb) (by simp [hl])
  have h2 : leVal d.reverse = beVal d := by simp [leVal]
  refine ⟨by rw [h1, h2], ?_⟩
  unfold multScalar bendianFromScalar scalarFromLendian
  rw [h1, List.take_of_length_le (by simp [hl]), h2]

theorem endianness_digest (m : Bytes) :
    multScalar (bendianFromScalar (scalarFromLendian (sha256 m))) = beVal (sha256 m) :=
  (endianness _ (sha256_length m) (sha256_isBytes m)).2

/-- **Unhardened derivation commutes with taking the public key** (scalar model, any encoding
function `enc` of public keys, any secret scalar, any index): the public key of the derived secret
key is the key derived from the public key.  Both hash `enc(pk) ‖ idx_be`; the secret-key route adds
`beVal(digest) mod r`, the public-key route adds `g · beVal(digest)` (`endianness`). -/
theorem derive_commutes (enc : Nat → Bytes) (sk idx : Nat) :
    pkOf (deriveSk enc sk idx) = derivePk enc (pkOf sk) idx := by
  unfold deriveSk derivePk
  simp only [endianness_digest]
  unfold pkOf skAdd gAdd gMul scalarFromBeBytes gen
  -- the generator is 1: with `d` the digest value, `(d % r + sk) % r % r = (d % r + sk % r) % r` is left
  rw [Nat.mul_one, mod_add_hom, Nat.mod_mod]

theorem deriveSk_lt (enc : Nat → Bytes) (sk idx : Nat) : deriveSk enc sk idx < r :=
  Nat.mod_lt _ (by decide)

/-- **… along every path** (`derive_path_unhardened`, hence `master_to_wallet_unhardened` and
`master_to_wallet_unhardened_intermediate`) -/
theorem derive_path_commutes (enc : Nat → Bytes) (sk : Nat) (path : List Nat) :
    pkOf (derivePathSk enc sk path) = derivePathPk enc (pkOf sk) path := by
  unfold derivePathSk derivePathPk
  induction path generalizing sk with
  | nil => rfl
  | cons i rest ih =>
    simp only [List.foldl_cons]
    rw [ih, derive_commutes]

/-- `master_to_wallet_unhardened(key, idx)` commutes with taking the public key -/
theorem wallet_commutes (enc : Nat → Bytes) (sk idx : Nat) :
    pkOf (derivePathSk enc sk (walletPath idx)) = derivePathPk enc (pkOf sk) (walletPath idx)
    ∧ pkOf (derivePathSk enc sk walletIntermediatePath) = derivePathPk enc (pkOf sk) walletIntermediatePath :=
  ⟨derive_path_commutes _ _ _, derive_path_commutes _ _ _⟩

/-- **Adding secret keys commutes with adding public keys** (scalar model) -/
theorem add_hom (a b : Nat) : pkOf (skAdd a b) = gAdd (pkOf a) (pkOf b) := by
  unfold pkOf skAdd gAdd
  exact mod_add_hom a b r

theorem groupOrderBytes_val : intOfBytes groupOrderBytes = (r : Int) := by decide +kernel

/-- **`mod_by_group_order`, every input length.**  The result is the 32-byte big-endian encoding of
the mathematical (non-negative) remainder of the SIGNED big-endian value of the input modulo `r`; it
is 32 bytes long and its value is below `r`.  (Rust's `%` truncates towards zero; `((v % r) + r) % r`
repairs the sign; `to_bytes_be` yields a minimal string — `00` for zero — which the code left-pads.) -/
theorem modByGroupOrder_spec (b : Bytes) :
    modByGroupOrder b = be 32 ((intOfBytes b) % (r : Int)).toNat
    ∧ (modByGroupOrder b).length = 32
    ∧ beVal (modByGroupOrder b) = ((intOfBytes b) % (r : Int)).toNat
    ∧ beVal (modByGroupOrder b) < r := by
  have hrpos : (0 : Int) < (r : Int) := by decide
  have hm0 : 0 ≤ (intOfBytes b) % (r : Int) := Int.emod_nonneg _ (by decide)
  have hmlt : ((intOfBytes b) % (r : Int)).toNat < r := by
    have := Int.emod_lt_of_pos (intOfBytes b) hrpos
    omega
  have key : modByGroupOrder b = be 32 ((intOfBytes b) % (r : Int)).toNat := by
    unfold modByGroupOrder
    simp only [groupOrderBytes_val, tmod_add_tmod _ _ hrpos]
    generalize ((intOfBytes b) % (r : Int)).toNat = m
    unfold toBytesBe
    have hpad := pad_dropWhile (be 32 m)
    have hle := (List.dropWhile_sublist (fun x => x == 0) (l := be 32 m)).length_le
    rw [be_length] at hpad hle
    by_cases he : ((be 32 m).dropWhile (fun x => x == 0)).isEmpty = true
    · have hnil : (be 32 m).dropWhile (fun x => x == 0) = [] := List.isEmpty_iff.mp he
      rw [hnil] at hpad
      simp only [hnil, List.isEmpty_nil, if_true, List.length_cons, List.length_nil]
      rw [← hpad]
      decide
    · simp only [he]
      simp only [Bool.false_eq_true, if_false]
      split
      · exact hpad
      · rename_i hlen
        have : ((be 32 m).dropWhile (fun x => x == 0)).length = 32 := by omega
        rw [this] at hpad
        simpa using hpad
  refine ⟨key, by rw [key, be_length], ?_, ?_⟩
  · rw [key, beVal_be _ _ (Nat.lt_trans hmlt r_lt)]
  · rw [key, beVal_be _ _ (Nat.lt_trans hmlt r_lt)]; exact hmlt

/-- `synthetic_offset` never panics: `mod_by_group_order` always yields a string
`SecretKey::from_bytes` accepts, and the offset is the digest's signed value mod `r`. -/
theorem synthetic_offset_total (pkb hph : Bytes) :
    syntheticOffset pkb hph = some ((intOfBytes (sha256 (pkb ++ hph))) % (r : Int)).toNat := by
  obtain ⟨hk, _, hv, hlt⟩ := modByGroupOrder_spec (sha256 (pkb ++ hph))
  rw [syntheticOffset, hk]
  exact skFromBytes_skToBytes _ (hv ▸ hlt)

/-- **Deriving a synthetic key commutes with taking the public key** (scalar model): the public key
of the synthetic secret key is the synthetic public key, for every hidden puzzle hash. -/
theorem synthetic_commutes (enc : Nat → Bytes) (sk : Nat) (hph : Bytes) :
    (synthSk enc sk hph).map pkOf = synthPk enc (pkOf sk) hph := by
  unfold synthSk synthPk
  cases syntheticOffset (enc (pkOf sk)) hph with
  | none => rfl
  | some off =>
    simp only [Option.map_some]
    rw [add_hom]

theorem synthetic_total (enc : Nat → Bytes) (sk : Nat) (hph : Bytes) :
    (synthSk enc sk hph).isSome = true ∧ (synthPk enc (pkOf sk) hph).isSome = true := by
  unfold synthSk synthPk
  rw [synthetic_offset_total]
  exact ⟨rfl, rfl⟩

/-- **Secret keys.**  `from_bytes` accepts a 32-byte string exactly when its big-endian value is
below `r` (zero included, as coded); an accepted string re-serialises to itself; every scalar below
`r` survives `to_bytes`/`from_bytes`; hence the encoding is unique. -/
theorem sk_roundtrip :
    (∀ b : Bytes, b.length = 32 → isBytes b →
      ((skFromBytes b).isSome = true ↔ beVal b < r)
      ∧ ∀ s, skFromBytes b = some s → s = beVal b ∧ skToBytes s = b)
    ∧ (∀ s, s < r → skFromBytes (skToBytes s) = some s)
    ∧ (∀ s t, s < r → t < r → skToBytes s = skToBytes t → s = t) := by
  refine ⟨fun b hl hb => ?_, skFromBytes_skToBytes, fun s t hs ht h => ?_⟩
  · rw [skFromBytes_eq]
    split
    · rename_i h
      exact ⟨⟨fun _ => h, fun _ => rfl⟩, fun s hs => by cases hs; exact ⟨rfl, be_beVal b hb hl⟩⟩
    · rename_i h
      exact ⟨⟨nofun, fun h' => absurd h' h⟩, nofun⟩
  · have h1 := skFromBytes_skToBytes s hs
    rw [h, skFromBytes_skToBytes t ht] at h1
    cases h1
    rfl

/-- The three statements below about the flag bits, for all 256 first bytes × tail zero / non-zero, in one sweep by
the kernel: each case computes `g1FlagsCore b0 z` and the bits of `b0` once for all three. -/
theorem flag_bits_sweep :
    ∀ b0 < 256, ∀ z : Bool,
      (g1FlagsCore b0 z).cls = g1Table (bitC b0) (bitI b0) (bitS b0) (low5Zero b0) z ∧
      g1FlagsCore b0 z =
        (if bitC b0 && bitI b0 then (if b0 = 0xc0 ∧ z = true then .inf else .err .notCanonical)
         else if !bitC b0 then .err .infinityInvalidBits
         else if z then .err .infinityNotZero else .blst) ∧
      ((g1FlagsCore b0 z).cls = formatSpec (bitC b0) (bitI b0) (bitS b0) (low5Zero b0) z
        ∨ ((g1FlagsCore b0 z).cls = .reject
            ∧ formatSpec (bitC b0) (bitI b0) (bitS b0) (low5Zero b0) z = .blst
            ∧ bitC b0 = true ∧ bitI b0 = false ∧ low5Zero b0 = false ∧ z = true)) := by
  decide +kernel

/-- **Flag-bit table of `PublicKey::from_bytes_unchecked`** — all 256 first bytes × tail zero/non-zero
(`decide`).  On the three flag bits and the two zero tests the code implements exactly `g1Table`:
compression bit clear → reject; infinity bit set → only `c0 00 … 00` is accepted (as the point at
infinity, without consulting blst); infinity bit clear → reject when `bytes[1..]` is all zero,
otherwise blst decides. -/
theorem flag_bits_table :
    ∀ b0 < 256, ∀ z : Bool,
      (g1FlagsCore b0 z).cls = g1Table (bitC b0) (bitI b0) (bitS b0) (low5Zero b0) z :=
  fun b0 h z => (flag_bits_sweep b0 h z).1

/-- the error kinds of the rejected classes: both flag bits set → `G1NotCanonical`; compression bit
clear → `G1InfinityInvalidBits`; compressed, not infinity, zero tail → `G1InfinityNotZero` -/
theorem flag_bits_errors :
    ∀ b0 < 256, ∀ z : Bool,
      g1FlagsCore b0 z =
        (if bitC b0 && bitI b0 then (if b0 = 0xc0 ∧ z = true then .inf else .err .notCanonical)
         else if !bitC b0 then .err .infinityInvalidBits
         else if z then .err .infinityNotZero else .blst) :=
  fun b0 h z => (flag_bits_sweep b0 h z).2.1

/-- **/repo's G1 table against the format table.**  The code agrees with the ZCash format table on
every class except one, where it only rejects MORE: compression bit set, infinity bit clear, the low
five bits of the first byte non-zero and `bytes[1..]` all zero (x = k·2^376 ≠ 0, which the format
would hand to blst; the code answers `G1InfinityNotZero`).  62 encodings fall in that class; the
harness asks blst about each of them on every run: several are on the curve, none is in the
subgroup, so checked parsing is unaffected (hypothesis `no_short_x` of `G1Codec` below). -/
theorem flag_bits_vs_format :
    ∀ b0 < 256, ∀ z : Bool,
      (g1FlagsCore b0 z).cls = formatSpec (bitC b0) (bitI b0) (bitS b0) (low5Zero b0) z
      ∨ ((g1FlagsCore b0 z).cls = .reject
          ∧ formatSpec (bitC b0) (bitI b0) (bitS b0) (low5Zero b0) z = .blst
          ∧ bitC b0 = true ∧ bitI b0 = false ∧ low5Zero b0 = false ∧ z = true) :=
  fun b0 h z => (flag_bits_sweep b0 h z).2.2

theorem flag_bits_bytes (b : Bytes) (hb : isBytes b) (hne : b ≠ []) :
    (g1Flags b).cls = formatClass b
    ∨ ((g1Flags b).cls = .reject ∧ formatClass b = .blst ∧ isAllZero (b.drop 1) = true) := by
  cases b with
  | nil => exact absurd rfl hne
  | cons x t =>
    have hx : x < 256 := hb x (by simp)
    rcases flag_bits_vs_format x hx (isAllZero t) with h | ⟨h1, h2, _, _, _, h6⟩
    · exact Or.inl h
    · exact Or.inr ⟨h1, h2, h6⟩

/-- `Signature::from_bytes_unchecked` applies no rule of its own: every 96-byte string goes to
`blst_p2_uncompress` (so the format table is blst's obligation there: `G2Codec.format`) -/
theorem flag_bits_g2 (b : Bytes) : g2Flags b = .blst := rfl

variable {P : Type}

/-- **Checked parsing = unchecked parsing ∧ validity; unchecked accepts a superset** — for G1 and
G2, for the raw functions and for `Streamable::parse::<TRUSTED>` (trusted = unchecked), with any
behaviour of blst. -/
theorem checked_subset_unchecked (B : Blst P) (b : Bytes) (x : P) :
    (g1FromBytes B b = some x ↔ g1FromBytesUnchecked B b = some x ∧ B.isValid x = true)
    ∧ (g2FromBytes B b = some x ↔ g2FromBytesUnchecked B b = some x ∧ B.isValid x = true)
    ∧ (g1Parse B false b = some x → g1Parse B true b = some x)
    ∧ (g2Parse B false b = some x → g2Parse B true b = some x) := by
  -- both checked parsers are the unchecked one followed by the same validity test
  have key : ∀ u : Option P, (match u with
      | some y => if B.isValid y then some y else none
      | none => none) = some x ↔ u = some x ∧ B.isValid x = true := by
    intro u
    cases u with
    | none => simp
    | some y =>
      by_cases hv : B.isValid y = true
      · simp only [hv, if_true, Option.some.injEq]
        exact ⟨fun h => ⟨h, h ▸ hv⟩, fun h => h.1⟩
      · simp only [hv, Bool.false_eq_true, if_false, Option.some.injEq]
        exact ⟨nofun, fun h => (hv (h.1 ▸ h.2)).elim⟩
  have h1 : g1FromBytes B b = some x ↔ g1FromBytesUnchecked B b = some x ∧ B.isValid x = true := key _
  have h2 : g2FromBytes B b = some x ↔ g2FromBytesUnchecked B b = some x ∧ B.isValid x = true := key _
  exact ⟨h1, h2, fun h => (h1.mp h).1, fun h => (h2.mp h).1⟩

theorem checked_rejects (B : Blst P) (b : Bytes) :
    (g1FromBytesUnchecked B b = none → g1FromBytes B b = none)
    ∧ (∀ y, g1FromBytesUnchecked B b = some y → B.isValid y = false → g1FromBytes B b = none)
    ∧ (g2FromBytesUnchecked B b = none → g2FromBytes B b = none)
    ∧ (∀ y, g2FromBytesUnchecked B b = some y → B.isValid y = false → g2FromBytes B b = none) := by
  refine ⟨?_, ?_, ?_, ?_⟩
  · intro h; unfold g1FromBytes; rw [h]
  · intro y h hv; unfold g1FromBytes; rw [h]; simp [hv]
  · intro h; unfold g2FromBytes; rw [h]
  · intro y h hv; unfold g2FromBytes; rw [h]; simp [hv]

/-- **ASSUMPTION (blst's contract for G1, restated — not proved).**  What `blst_p1_uncompress`,
`blst_p1_compress`, `blst_p1_is_inf`/`blst_p1_in_g1` have to satisfy for /repo's wrappers to
round-trip.  Every clause is monitored on each run against real blst (harness: raw FFI calls). -/
structure G1Codec (B : Blst P) : Prop where
  /-- compress ∘ uncompress = id on accepted inputs (an accepted string is THE encoding of its point) -/
  compress_uncompress : ∀ b x, B.uncompress b = some x → B.compress x = b
  /-- uncompress ∘ compress = id on valid finite points -/
  uncompress_compress : ∀ x, B.isValid x = true → x ≠ B.inf → B.uncompress (B.compress x) = some x
  /-- the point at infinity compresses to `c0 00 … 00` and counts as valid -/
  compress_inf : B.compress B.inf = infBytes 48
  inf_valid : B.isValid B.inf = true
  /-- a finite point compresses with compression bit set and infinity bit clear -/
  compress_flags : ∀ x, x ≠ B.inf → (B.compress x).headD 0 &&& 0xc0 = 0x80
  /-- arithmetic fact about BLS12-381 that /repo's zero test relies on (`flag_bits_vs_format`): no
  valid finite point has an x-coordinate whose low 47 bytes are all zero -/
  no_short_x : ∀ x, B.isValid x = true → x ≠ B.inf → isAllZero ((B.compress x).drop 1) = false

/-- **ASSUMPTION (blst's contract for G2, restated — not proved).**  `Signature` has no logic of its
own, so the whole format table is blst's. -/
structure G2Codec (B : Blst P) : Prop where
  compress_uncompress : ∀ b x, B.uncompress b = some x → B.compress x = b
  uncompress_compress : ∀ x, B.isValid x = true → B.uncompress (B.compress x) = some x
  /-- `blst_p2_uncompress` rejects what the format table rejects -/
  format : ∀ b, formatClass b = .reject → B.uncompress b = none

theorem g1Flags_inf {b : Bytes} (hl : b.length = 48) (h : g1Flags b = .inf) : b = infBytes 48 := by
  cases b with
  | nil => cases hl
  | cons x t =>
    unfold g1Flags at h
    simp only [List.headD_cons, List.drop_succ_cons, List.drop_zero] at h
    revert h
    -- of the five arms of the flag test only the second (both flag bits set, first byte `c0`, zero tail) answers `.inf`
    fun_cases g1FlagsCore x (isAllZero t) with
    | case2 _ h2 =>
      intro _
      obtain ⟨hx, hz⟩ : x = 0xc0 ∧ isAllZero t = true := by simpa using h2
      rw [hx, isAllZero_eq_replicate hz, Nat.succ.inj hl]
      rfl
    | _ => nofun

/-- **Round trip and unique encoding for public keys, under `G1Codec`.**
(1) an encoding accepted by `from_bytes_unchecked` — a fortiori by `from_bytes` — re-serialises to
itself, so two accepted encodings of one point are equal;
(2) every valid point survives `to_bytes` / `from_bytes`. -/
theorem roundtrip_under_codec (B : Blst P) (hc : G1Codec B) :
    (∀ b x, b.length = 48 → g1FromBytesUnchecked B b = some x → toBytes B x = b)
    ∧ (∀ b x, b.length = 48 → g1FromBytes B b = some x → toBytes B x = b)
    ∧ (∀ b b' x, b.length = 48 → b'.length = 48 → g1FromBytes B b = some x → g1FromBytes B b' = some x → b = b')
    ∧ (∀ x, B.isValid x = true → g1FromBytes B (toBytes B x) = some x) := by
  have hun : ∀ b x, b.length = 48 → g1FromBytesUnchecked B b = some x → toBytes B x = b := by
    intro b x hl
    unfold toBytes
    -- the three arms of `from_bytes_unchecked`: infinity without blst, rejected, blst decides
    fun_cases g1FromBytesUnchecked B b with
    | case1 hf =>
      intro h
      cases h
      rw [hc.compress_inf, g1Flags_inf hl hf]
    | case2 => nofun
    | case3 => exact hc.compress_uncompress b x
  have hck : ∀ b x, b.length = 48 → g1FromBytes B b = some x → toBytes B x = b :=
    fun b x hl h => hun b x hl ((checked_subset_unchecked B b x).1.mp h).1
  refine ⟨hun, hck, ?_, ?_⟩
  · intro b b' x hl hl' h h'
    rw [← hck b x hl h, ← hck b' x hl' h']
  · intro x hv
    unfold toBytes
    rw [(checked_subset_unchecked B _ x).1]
    refine ⟨?_, hv⟩
    unfold g1FromBytesUnchecked
    by_cases hx : x = B.inf
    · subst hx
      rw [hc.compress_inf]
      have : g1Flags (infBytes 48) = .inf := by decide
      rw [this]
    · have h1 := hc.compress_flags x hx
      have h2 := hc.no_short_x x hv hx
      have : g1Flags (B.compress x) = .blst := by
        unfold g1Flags g1FlagsCore
        rw [h1, h2]
        simp
      rw [this]
      exact hc.uncompress_compress x hv hx

/-- **Round trip and unique encoding for signatures, under `G2Codec`**; and nothing the format
table rejects is accepted. -/
theorem roundtrip_under_codec_g2 (B : Blst P) (hc : G2Codec B) :
    (∀ b x, g2FromBytesUnchecked B b = some x → toBytes B x = b)
    ∧ (∀ b b' x, g2FromBytes B b = some x → g2FromBytes B b' = some x → b = b')
    ∧ (∀ x, B.isValid x = true → g2FromBytes B (toBytes B x) = some x)
    ∧ (∀ b, formatClass b = .reject → g2FromBytesUnchecked B b = none ∧ g2FromBytes B b = none) := by
  have hun : ∀ b x, g2FromBytesUnchecked B b = some x → toBytes B x = b :=
    fun b x h => hc.compress_uncompress b x h
  refine ⟨hun, ?_, ?_, ?_⟩
  · intro b b' x h h'
    rw [← hun b x ((checked_subset_unchecked B b x).2.1.mp h).1,
      ← hun b' x ((checked_subset_unchecked B b' x).2.1.mp h').1]
  · intro x hv
    rw [(checked_subset_unchecked B _ x).2.1]
    exact ⟨hc.uncompress_compress x hv, hv⟩
  · intro b hb
    have : g2FromBytesUnchecked B b = none := hc.format b hb
    exact ⟨this, (checked_rejects B b).2.2.1 this⟩

/-! non-vacuity of `G1Codec`/`G2Codec`: a two-point toy codec (infinity and one finite point,
`toyPoint`) satisfies every clause -/

def toyPoint : Bytes := 0x80 :: (List.replicate 46 0 ++ [1])

def toyBlst (n : Nat) (pt : Bytes) : Blst Bool :=
  { uncompress := fun b => if b = pt then some true else if b = infBytes n then some false else none,
    compress := fun x => if x then pt else infBytes n,
    inf := false,
    isValid := fun _ => true }

theorem toyBlst_compress_uncompress (n : Nat) (pt b : Bytes) (x : Bool)
    (h : (toyBlst n pt).uncompress b = some x) : (toyBlst n pt).compress x = b := by
  simp only [toyBlst] at h ⊢
  by_cases h1 : b = pt
  · rw [if_pos h1] at h; cases h; exact h1.symm
  · rw [if_neg h1] at h
    by_cases h2 : b = infBytes n
    · rw [if_pos h2] at h; cases h; exact h2.symm
    · rw [if_neg h2] at h; cases h

example : G1Codec (toyBlst 48 toyPoint) := by
  refine ⟨toyBlst_compress_uncompress 48 toyPoint, ?_, rfl, rfl, ?_, ?_⟩
  · intro x _ hx
    cases x with
    | false => exact absurd rfl hx
    | true => decide +kernel
  · intro x hx
    cases x with
    | false => exact absurd rfl hx
    | true => decide +kernel
  · intro x _ hx
    cases x with
    | false => exact absurd rfl hx
    | true => decide +kernel

example : G2Codec (toyBlst 96 (0x80 :: (List.replicate 94 0 ++ [1]))) := by
  refine ⟨toyBlst_compress_uncompress 96 _, ?_, ?_⟩
  · intro x _
    cases x with
    | false => decide +kernel
    | true => decide +kernel
  · intro b hb
    simp only [toyBlst]
    by_cases h1 : b = 0x80 :: (List.replicate 94 0 ++ [1])
    · subst h1; revert hb; decide +kernel
    · rw [if_neg h1]
      by_cases h2 : b = infBytes 96
      · subst h2; revert hb; decide +kernel
      · rw [if_neg h2]

/-- the oracle instance the driver runs (`oracleBlst`: blst's two answers for the encoding on the
case line) satisfies the unique-encoding clause by construction — so what the driver prints for an
accepted encoding (the input itself) is exactly what `roundtrip_under_codec` prescribes, and the
model's checked verdict is `unchecked ∧ v` (`checked_subset_unchecked`). -/
theorem oracle_unique_encoding (n : Nat) (b : Bytes) (u v : Bool) (b' : Bytes) (x : OPoint) :
    (oracleBlst n b u v).uncompress b' = some x → (oracleBlst n b u v).compress x = b' := by
  intro h
  simp only [oracleBlst] at h ⊢
  split at h
  · rename_i hc
    cases h
    exact hc.1.symm
  · cases h

/-- **Pairing elements.**  `GTElement::from_bytes`/`to_bytes` are raw copies: every 576-byte string
is accepted and re-serialises to itself, every element survives the round trip; equality of elements
is equality of these bytes, so the encoding is unique.  (There is no checked parse for GT: membership
in the target group is not tested by /repo.) -/
theorem gt_roundtrip (b : Bytes) : gtToBytes (gtFromBytes b) = b ∧ gtFromBytes (gtToBytes b) = b :=
  ⟨rfl, rfl⟩

/-- **Signing is deterministic**: in the ideal BLS of C15 the signature is the closed form
`sk · H(pk ‖ msg)` — a function of the key, its encoding and the message, with no other input. -/
theorem sign_deterministic (sk : Nat) (pkb msg : Bytes) :
    signModel sk pkb msg = { off := false, terms := Bls.FSum.smul (sk : Int) [(pkb ++ msg, 1)] } := rfl

/-- a signature is a valid G2 element and verifies under its own key and message, unless the key is
zero (`verify` rejects the infinity public key) -/
theorem sign_verifies (sk : Nat) (pkb msg : Bytes) :
    (signModel sk pkb msg).isValid = true
    ∧ (sk ≠ 0 → verifyModel (signModel sk pkb msg) sk pkb msg = true)
    ∧ verifyModel (signModel 0 pkb msg) 0 pkb msg = false := by
  refine ⟨rfl, ?_, ?_⟩
  · intro h
    unfold verifyModel signModel Bls.verify
    have h0 : ((sk : Nat) : Int) ≠ 0 := by omega
    simp only [Bls.sign_off, Bool.false_eq_true, if_false, h0, Bls.pairGen_eq, Bls.sign_terms]
    simp
  · unfold verifyModel signModel Bls.verify
    simp [Bls.sign_off]

end ChiaModel.C16
