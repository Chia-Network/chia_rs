import ChiaModel.Lemmas.DeserRoundtrip
/-
C17 — every tree-hash routine computes the same hash.
The specification is `Sexp.treeHash` (Base/Sexp.lean): atoms hashed with prefix 1, pairs with
prefix 2, applied to `denote heap n`, the tree a pointer stands for whatever the sharing.
`Gen.precomputed`, `Gen.thAtomPrefix`, `Gen.thPairPrefix` are regenerated from
clvm-utils/src/tree_hash.rs on every run.
-/
namespace ChiaModel.C17
open ChiaModel ChiaModel.TreeHash

/-- Every entry `i` of `PRECOMPUTED_HASHES` is the tree hash of the atom that is the canonical CLVM
integer `i`: `sha256 (1 :: canonNat i)`, and there are exactly 24 entries. -/
theorem precomputed_ok : Gen.precomputed = (List.range 24).map (fun i => sha256 (1 :: canonNat i)) :=
  precomputed_eq

/-- pointwise form, in terms of the bytes the allocator shows for the small atom `i` -/
theorem precomputed_entry (i : Nat) (hi : i < 24) :
    Gen.precomputed[i]? = some (Sexp.treeHash (.atom (canonNat i))) ∧ smallBytes i = canonNat i := by
  refine ⟨?_, smallBytes_eq_canon i (by omega)⟩
  rw [precomputed_eq]; simp [hi, Sexp.treeHash]

/-- `tree_hash_atom` / `tree_hash_pair` use the domain-separation prefixes 1 and 2 of the definition -/
theorem prefixes_ok : Gen.thAtomPrefix = 1 ∧ Gen.thPairPrefix = 2 := prefixes_eq

/-- The explicit two-stack machine of `tree_hash` run from `[SExp(n)]` with any fuel of at least
`2·size + 1` ends with exactly one hash on the stack: the tree hash of the denoted tree. -/
theorem iter_run {h : Heap} (hwf : WF h) {n : Nat} (hn : n < h.size) (fuel : Nat)
    (hf : 2 * (denote h n).size + 1 ≤ fuel) :
    runIter h fuel [.sexp n] [] = some [Sexp.treeHash (denote h n)] := by
  have := stepsOf_le (denote h n)
  obtain ⟨f', rfl⟩ : ∃ f', fuel = (f' + 1) + stepsOf (denote h n) := ⟨fuel - stepsOf (denote h n) - 1, by omega⟩
  rw [runIter_sexp hwf n hn, runIter]

/-- `tree_hash(a, n)` returns the specified tree hash for every well-formed heap and every pointer
into it (no fuel left in the statement: the routine supplies `2·size + 1`). -/
theorem iter_eq {h : Heap} (hwf : WF h) {n : Nat} (hn : n < h.size) :
    treeHashIter h n = some (Sexp.treeHash (denote h n)) := by
  simp only [treeHashIter, iterFuel, sizeTable_getD hwf hn, iter_run hwf hn _ (Nat.le_refl _)]

/-- the linear table the driver prints is the specification's value at every index -/
theorem hashTable_spec {h : Heap} (hwf : WF h) {n : Nat} (hn : n < h.size) :
    (hashTable h).getD n [] = Sexp.treeHash (denote h n) := by
  rw [treeHash_fold]; exact table_spec _ _ _ h hwf n hn

/-- `CacheOK heap c` (every memoised slot of a pair holds the tree hash of what that pair denotes;
size limits respected) holds for the empty cache, -/
theorem cache_inv_empty (h : Heap) : CacheOK h Cache.empty :=
  ⟨by simp [Cache.empty, SEEN_MULTIPLE], by simp [Cache.empty], by intro n s hs; simp [Cache.empty] at hs⟩

/-- … is preserved by `visit_tree` (which always terminates within its fuel: every pair is pushed at
most once in a cache's life time), -/
theorem cache_inv_visit {h : Heap} {c : Cache} (hc : CacheOK h c) (n : Nat) :
    ∃ c', visitTree h c n = some c' ∧ CacheOK h c' := by
  obtain ⟨c', hv⟩ := visitTree_total h c n
  exact ⟨c', hv, visitTree_ok hc hv⟩

/-- … by `tree_hash_cached`, -/
theorem cache_inv {h : Heap} (hwf : WF h) {n : Nat} (hn : n < h.size) {c : Cache} (hc : CacheOK h c) :
    ∃ x c', treeHashCached h n c = some (x, c') ∧ CacheOK h c' := by
  obtain ⟨c', hh, hc'⟩ := treeHashCached_spec hwf hn hc
  exact ⟨_, c', hh, hc'⟩

/-- … and by the allocator appending nodes (the heap growing between two uses of the cache). -/
theorem cache_inv_append {h h' : Heap} (he : Extends h h') (hwf : WF h') {c : Cache} (hc : CacheOK h c) :
    CacheOK h' c ∧ ∀ n, n < h.size → denote h' n = denote h n :=
  ⟨cacheOK_extends he hwf hc, fun _ hn => denote_extends he hwf hn⟩

/-- Under the invariant – i.e. whatever the cache saw before – `tree_hash_cached` returns the
specified tree hash (and never fails). -/
theorem cached_eq {h : Heap} (hwf : WF h) {n : Nat} (hn : n < h.size) {c : Cache} (hc : CacheOK h c) :
    (treeHashCached h n c).map (·.1) = some (Sexp.treeHash (denote h n)) := by
  obtain ⟨c', hh, _⟩ := treeHashCached_spec hwf hn hc
  rw [hh]; rfl

/-- Every sequence of pre-visits and cached hashes pushed through ONE cache, starting from the empty
cache, returns the specified hash at every step. -/
theorem history_eq {h : Heap} (hwf : WF h) (ops : List CacheOp) (hr : ∀ op, op ∈ ops → op.root < h.size) :
    (runHistory h Cache.empty ops).map (·.1) = some (specHistory h ops) := by
  obtain ⟨c', hrun, _⟩ := runHistory_spec hwf ops Cache.empty (cache_inv_empty h) hr
  rw [hrun]; rfl

/-- non-vacuity: a well-formed heap with a shared pair and a history that memoises and re-uses it -/
example : ∃ h : Heap, WF h ∧ 3 < h.size ∧
    (runHistory h Cache.empty [.hash 3, .visit 2, .hash 3, .hash 2]).isSome = true :=
  ⟨#[.small 1, .atom [0, 23], .pair 0 1, .pair 2 2],
   by intro n l r hn
      match n, hn with
      | 2, hn => simp at hn; omega
      | 3, hn => simp at hn; omega,
   by decide, by decide +kernel⟩

/-- The results of the plain and the memoizing routine depend only on the tree a pointer denotes:
two pointers (in the same or in different heaps, reached through caches with different histories)
that denote the same tree get the same hash from both routines. -/
theorem sharing_irrelevant {h h' : Heap} (hwf : WF h) (hwf' : WF h') {n n' : Nat} (hn : n < h.size)
    (hn' : n' < h'.size) {c c' : Cache} (hc : CacheOK h c) (hc' : CacheOK h' c')
    (e : denote h n = denote h' n') :
    treeHashIter h n = treeHashIter h' n' ∧
    (treeHashCached h n c).map (·.1) = (treeHashCached h' n' c').map (·.1) ∧
    (treeHashCached h n c).map (·.1) = treeHashIter h' n' := by
  rw [iter_eq hwf hn, iter_eq hwf' hn', cached_eq hwf hn hc, cached_eq hwf' hn' hc', e]
  exact ⟨rfl, rfl, rfl⟩

/-- The back-reference deserialiser always builds a well-formed heap and returns a pointer into it. -/
theorem deser_wf {b : Bytes} {heap : Heap} {root : Nat} (h : deserializeBackrefs b = some (heap, root)) :
    WF heap ∧ root < heap.size :=
  deserLoop_ok _ _ _ _ _ _ _ ⟨by intro n l r hn; simp at hn, by intro i v hv; simp at hv⟩ h

/-- If `node_from_bytes_backrefs` yields a tree (with whatever sharing the back-references create),
`tree_hash_from_bytes` returns the tree hash of that tree. -/
theorem from_bytes_eq {b : Bytes} {heap : Heap} {root : Nat} (h : deserializeBackrefs b = some (heap, root)) :
    treeHashFromBytes b = some (Sexp.treeHash (denote heap root)) := by
  obtain ⟨hwf, hr⟩ := deser_wf h
  obtain ⟨c', hh, _⟩ := treeHashCached_spec hwf hr (cache_inv_empty heap)
  simp only [treeHashFromBytes, h, hh]

/-- … and fails exactly when deserialisation fails. -/
theorem from_bytes_none {b : Bytes} (h : deserializeBackrefs b = none) : treeHashFromBytes b = none := by
  simp only [treeHashFromBytes, h]

/-- The deserialiser reads the plain serialisation (`node_to_bytes`) of any tree back as that tree
(`AtomsOK`: atoms are byte strings shorter than 2^34 bytes, the serialiser's own limit). -/
theorem deser_serialize (t : Sexp) (ht : AtomsOK t) :
    ∃ heap root, deserializeBackrefs (Sexp.serialize t) = some (heap, root) ∧ denote heap root = t := by
  have hs := stepsOf_le t
  have hl := size_le_serialize t ht
  obtain ⟨f', hf'⟩ : ∃ f', 2 * (Sexp.serialize t).length + 2 = (f' + 1) + stepsOf t :=
    ⟨2 * (Sexp.serialize t).length + 2 - stepsOf t - 1, by omega⟩
  obtain ⟨heap', n, run, _, _, _, dn⟩ := deserLoop_serialize t ht (f' + 1) [] #[] #[] []
    (by intro n l r hn; simp at hn)
  refine ⟨heap', n, ?_, dn⟩
  unfold deserializeBackrefs
  rw [hf']
  rw [List.append_nil] at run
  rw [run, deserLoop]
  simp

/-- Hence `tree_hash_from_bytes` of the plain serialisation of `t` is the tree hash of `t`, -/
theorem from_bytes_serialize (t : Sexp) (ht : AtomsOK t) :
    treeHashFromBytes (Sexp.serialize t) = some (Sexp.treeHash t) := by
  obtain ⟨heap, root, hd, ht'⟩ := deser_serialize t ht
  rw [from_bytes_eq hd, ht']

/-- … and any byte string (e.g. one with back-references) that deserialises to the same tree gets
the same hash as the plain serialisation. -/
theorem from_bytes_modes {b : Bytes} {heap : Heap} {root : Nat} (h : deserializeBackrefs b = some (heap, root))
    (ht : AtomsOK (denote heap root)) :
    treeHashFromBytes b = treeHashFromBytes (Sexp.serialize (denote heap root)) := by
  rw [from_bytes_eq h, from_bytes_serialize _ ht]

/-- non-vacuity: a byte string with a back-reference, denoting a tree that satisfies `AtomsOK` -/
example : ∃ b heap root, deserializeBackrefs b = some (heap, root) ∧ AtomsOK (denote heap root) ∧
    denote heap root = .pair (.atom [0x66, 0x6f]) (.atom [0x66, 0x6f]) := by
  have hd : denote #[Node.small 26223, Node.pair 0 0] 1 = .pair (.atom [0x66, 0x6f]) (.atom [0x66, 0x6f]) := by
    decide +kernel
  refine ⟨[0xff, 0x82, 0x66, 0x6f, 0xfe, 0x02], #[.small 26223, .pair 0 0], 1, by decide +kernel, ?_, hd⟩
  rw [hd]
  exact ⟨⟨by decide, by decide⟩, ⟨by decide, by decide⟩⟩

/-- `curry_tree_hash` of the program's hash and the arguments' hashes is the tree hash of the actual
curried program `(a (q . p) (c (q . a1) … 1))`. -/
theorem curry_eq (p : Sexp) (args : List Sexp) :
    curryTreeHash (Sexp.treeHash p) (args.map Sexp.treeHash) = Sexp.treeHash (curry p args) := by
  simp only [curryTreeHash, curry, th_pair, th_atom]
  rw [curryArgs_hash]

/-- `curry_and_treehash` (fast_forward.rs): with `mod_hash` the tree hash of the singleton top layer
`P` and `inner_puzzle_hash` that of the inner puzzle, the result is the tree hash of `P` curried with
the singleton struct `(mod_hash . (launcher_id . launcher_puzzle_hash))` and the inner puzzle. -/
theorem curry_and_treehash_eq (P inner : Sexp) (modHash launcherId launcherPh : Bytes)
    (hP : Sexp.treeHash P = modHash) :
    curryAndTreehash (Sexp.treeHash inner) modHash launcherId launcherPh =
      Sexp.treeHash (curry P [.pair (.atom modHash) (.pair (.atom launcherId) (.atom launcherPh)), inner]) := by
  simp only [curryAndTreehash, currySingleArg, curry, curryArgs, th_pair, th_atom, hP]

/-- non-vacuity of `curry_and_treehash_eq`: its hypothesis is satisfiable -/
example : ∃ P : Sexp, Sexp.treeHash P = Sexp.treeHash (.atom [1]) := ⟨.atom [1], rfl⟩

end ChiaModel.C17
