import ChiaModel.Lemmas.Blob
import ChiaModel.Lemmas.BlobBytes
import ChiaModel.Lemmas.BlobBatchOk
import ChiaModel.Lemmas.BlobDelOk
import ChiaModel.Lemmas.BlobUpsOk
import ChiaModel.Lemmas.BlobDec
import ChiaModel.Lemmas.BlobInteg
import ChiaModel.Lemmas.BlobReload
import ChiaModel.Lemmas.BlobStep
import ChiaModel.Lemmas.BlobProof
/-
C18 — the DataLayer Merkle blob stays a valid authenticated map under any history.
The property theorems, with the few definitions their statements need (`runBoth`, `runHist`, the hash
invariant `Good` on trees with stored hashes, `SOk`, the sample history `threeLeaves`); the lemmas are in
Lemmas/Blob*.lean.  All statements are about the executable definitions of Model/Blob.lean that the
driver runs.
-/
namespace ChiaModel.C18
open ChiaModel ChiaModel.Blob List

/-! ## L1: plain trees against the specification map -/

private theorem toMap_perm {t t' : Tree} {l : List KVH} (p : Tree.entries t' ~ l ++ Tree.entries t) :
    Tree.toMap t' ~ l.map (fun e => (e.1, e.2.1)) ++ Tree.toMap t := by
  rw [Tree.toMap_eq, Tree.toMap_eq, ← List.map_append]; exact p.map _

private theorem nodup_toMap_keys {t : Tree} (h : (Tree.keys t).Nodup) : ((Tree.toMap t).map (·.1)).Nodup := by
  rw [Tree.toMap_keys]; exact h

private theorem filter_map_kv (l : List KVH) (k : KeyId) :
    (l.filter (fun e => e.1 ≠ k)).map (fun e => (e.1, e.2.1))
      = (l.map (fun e => (e.1, e.2.1))).filter (fun e => e.1 ≠ k) := by
  rw [List.filter_map]
  rfl

/-- What one operation does to the entries of a tree `t` with distinct keys, as a relation between the operation
and the success flag and tree it returns; each successful case also says what the operation does to a plain map. -/
private inductive Effect (op : Op) (t : Tree) : Bool → Tree → Prop
  /-- a failed operation; hash recomputation -/
  | keep (b : Bool) (hm : b = true → ∀ m, Map.step op m = m) : Effect op t b t
  /-- insert, upsert of an absent key, batch insert: entries with new keys and new hashes are added -/
  | add (l : List KVH) (t' : Tree) (p : Tree.entries t' ~ l ++ Tree.entries t)
      (fresh : (l.map (·.1)).Nodup ∧ (l.map (·.2.2)).Nodup ∧ ∀ e ∈ l, e.1 ∉ Tree.keys t ∧ e.2.2 ∉ Tree.hashes t)
      (hm : ∀ m, Map.step op m = l.foldl (fun m (x : KVH) => Map.set m x.1 x.2.1) m) : Effect op t true t'
  /-- upsert of a present key: its entry is rewritten in place -/
  | replace (k : KeyId) (v : ValueId) (h : Hash) (t' : Tree)
      (e : Tree.entries t' = (Tree.entries t).map (fun e => if e.1 = k then (k, v, h) else e))
      (hk : k ∈ Tree.keys t) (hf : h ∉ ((Tree.entries t).filter (fun e => e.1 ≠ k)).map (·.2.2))
      (hm : ∀ m, Map.step op m = Map.set m k v) : Effect op t true t'
  /-- delete -/
  | remove (k : KeyId) (t' : Tree) (e : Tree.entries t' = (Tree.entries t).filter (fun e => e.1 ≠ k))
      (hm : ∀ m, Map.step op m = Map.erase m k) : Effect op t true t'

private theorem step_effect (op : Op) (t : Tree) (hn : (Tree.keys t).Nodup) :
    Effect op t (Tree.step op t).1 (Tree.step op t).2 := by
  have one : ∀ {k : KeyId} {v : ValueId} {h : Hash}, k ∉ Tree.keys t → h ∉ Tree.hashes t →
      ([(k, v, h)].map (·.1)).Nodup ∧ ([(k, v, h)].map (·.2.2)).Nodup ∧
        ∀ e ∈ [(k, v, h)], e.1 ∉ Tree.keys t ∧ e.2.2 ∉ Tree.hashes t :=
    fun hk hh => ⟨List.pairwise_singleton _ _, List.pairwise_singleton _ _, fun e he => by
      rw [List.mem_singleton.mp he]; exact ⟨hk, hh⟩⟩
  cases op with
  | ins k v h loc =>
    simp only [Tree.step]
    cases hi : Tree.insert k v h loc t with
    | none => exact .keep false nofun
    | some t' =>
      obtain ⟨p, hk, hh⟩ := Tree.insert_spec hn hi
      exact .add [(k, v, h)] t' p (one hk hh) fun _ => rfl
  | ups k v h =>
    simp only [Tree.step]
    cases hu : Tree.upsert k v h t with
    | none => exact .keep false nofun
    | some t' =>
      rcases Tree.upsert_spec hn hu with ⟨hk, hfresh, e⟩ | ⟨hk, p, hh⟩
      · exact .replace k v h t' e hk hfresh fun _ => rfl
      · exact .add [(k, v, h)] t' p (one hk hh) fun _ => rfl
  | del k =>
    simp only [Tree.step]
    cases hd : Tree.delete k t with
    | none => exact .keep false nofun
    | some t' => exact .remove k t' (Tree.delete_spec hn hd).1 fun _ => rfl
  | batch l =>
    simp only [Tree.step]
    rcases Tree.batch_spec l t hn with ⟨hf, hok, p⟩ | ⟨_, e⟩
    · rw [hok]
      exact .add l _ p (Tree.fresh_unpack hf) fun _ => rfl
    · rw [e]; exact .keep false nofun
  | hashes => exact .keep true fun _ _ => rfl

private theorem nodup_added {α : Type} {f : KVH → α} {l : List KVH} {old new : List α}
    (p : new ~ l.map f ++ old) (hl : (l.map f).Nodup) (ho : old.Nodup) (hfr : ∀ e ∈ l, f e ∉ old) : new.Nodup := by
  refine p.nodup_iff.mpr (List.nodup_append.mpr ⟨hl, ho, ?_⟩)
  intro a ha b hb hab
  obtain ⟨e, he, rfl⟩ := List.mem_map.mp ha
  exact hfr e he (hab ▸ hb)

/-- a projection `f` of the entries (the key, the hash) stays duplicate-free under one operation: unchanged, a
sublist, or new entries added, given what `f` makes of the added entries' freshness (`hadd`) and of a rewritten entry
(`hrep`), the two places where keys and hashes differ -/
private theorem nodup_step {α : Type} (f : KVH → α) {op : Op} {t t' : Tree} {b : Bool} (eff : Effect op t b t')
    (ho : ((Tree.entries t).map f).Nodup)
    (hadd : ∀ l : List KVH, ((l.map (·.1)).Nodup ∧ (l.map (·.2.2)).Nodup ∧ ∀ e ∈ l, e.1 ∉ Tree.keys t ∧ e.2.2 ∉ Tree.hashes t) →
      (l.map f).Nodup ∧ ∀ e ∈ l, f e ∉ (Tree.entries t).map f)
    (hrep : ∀ k v h, k ∈ Tree.keys t → h ∉ ((Tree.entries t).filter (fun e => e.1 ≠ k)).map (·.2.2) →
      (((Tree.entries t).map fun e => if e.1 = k then (k, v, h) else e).map f).Nodup) :
    ((Tree.entries t').map f).Nodup := by
  cases eff with
  | keep => exact ho
  | add l t' p fresh =>
    exact nodup_added (by rw [← List.map_append]; exact p.map f) (hadd l fresh).1 ho (hadd l fresh).2
  | replace k v h t' e hk hf => rw [e]; exact hrep k v h hk hf
  | remove k t' e => rw [e]; exact ho.sublist ((List.filter_sublist).map _)

/-- the keys after one operation (keys stay pairwise distinct) -/
theorem keys_unique (op : Op) (t : Tree) (hn : (Tree.keys t).Nodup) :
    (Tree.keys (Tree.step op t).2).Nodup := by
  have eff := step_effect op t hn
  rw [Tree.keys_eq] at hn ⊢
  exact nodup_step (·.1) eff hn (fun l fr => ⟨fr.1, fun e he => by rw [← Tree.keys_eq]; exact (fr.2.2 e he).1⟩)
    fun k v h _ _ => by rw [map_replace_keys]; exact hn

/-- One step of the simulation: when the tree and a map `m` agree on every lookup, a successful operation
keeps them in agreement, and a failed one leaves the tree unchanged. -/
theorem map_simulation (op : Op) (t : Tree) (hn : (Tree.keys t).Nodup) (m : Map)
    (hm : ∀ k, Map.lookup (Tree.toMap t) k = Map.lookup m k) :
    ((Tree.step op t).1 = true →
        ∀ k, Map.lookup (Tree.toMap (Tree.step op t).2) k = Map.lookup (Map.step op m) k)
    ∧ ((Tree.step op t).1 = false → (Tree.step op t).2 = t) := by
  have hkn' := keys_unique op t hn
  have eff := step_effect op t hn
  generalize (Tree.step op t).1 = b, (Tree.step op t).2 = t' at hkn' eff ⊢
  cases eff with
  | keep b hs => exact ⟨fun hb k' => by rw [hs hb, hm], fun _ => rfl⟩
  | add l t' p fresh hs =>
    refine ⟨fun _ k' => ?_, nofun⟩
    rw [hs, Map.lookup_perm (toMap_perm p) (nodup_toMap_keys hkn'), Map.lookup_append,
      Map.lookup_foldl_set l m k' fresh.1, hm]
  | replace k v h t' e hk _ hs =>
    refine ⟨fun _ k' => ?_, nofun⟩
    rw [hs, Tree.toMap_eq, e, map_replace_kv, ← Tree.toMap_eq, Map.lookup_map_replace, Map.lookup_set,
      Tree.toMap_keys, if_pos hk, hm]
  | remove k t' e hs =>
    refine ⟨fun _ k' => ?_, nofun⟩
    rw [hs, Tree.toMap_eq, e, filter_map_kv, ← Tree.toMap_eq]
    show Map.lookup (Map.erase (Tree.toMap t) k) k' = _
    rw [Map.lookup_erase, Map.lookup_erase, hm]

/-- **Refinement to a map.**  For every operation (insert at any location, upsert, delete, batch
insert, hash recomputation) on a tree with pairwise distinct keys: if the operation succeeds, looking
up any key in the resulting tree gives what the plain map gives after the same operation; if it
fails, the tree is unchanged. -/
theorem map_refinement (op : Op) (t : Tree) (hn : (Tree.keys t).Nodup) :
    ((Tree.step op t).1 = true →
        ∀ k, Map.lookup (Tree.toMap (Tree.step op t).2) k = Map.lookup (Map.step op (Tree.toMap t)) k)
    ∧ ((Tree.step op t).1 = false → (Tree.step op t).2 = t) :=
  map_simulation op t hn _ fun _ => rfl

/-- the leaf hashes stay pairwise distinct (insert rejects a present hash, upsert a hash of another
key, batch insert a present or repeated hash) -/
theorem hashes_unique (op : Op) (t : Tree) (hkn : (Tree.keys t).Nodup) (hhn : (Tree.hashes t).Nodup) :
    (Tree.hashes (Tree.step op t).2).Nodup := by
  have eff := step_effect op t hkn
  rw [Tree.keys_eq] at hkn
  rw [Tree.hashes_eq] at hhn ⊢
  exact nodup_step (·.2.2) eff hhn (fun l fr => ⟨fr.2.1, fun e he => by rw [← Tree.hashes_eq]; exact (fr.2.2 e he).2⟩)
    fun k v h _ hf => nodup_hashes_replace _ k v h hkn hhn hf

/-- run a history on the tree together with the specification map, which is subjected to the same
successful operations -/
def runBoth : List Op → Tree × Map → Tree × Map
  | [], st => st
  | op :: rest, (t, m) =>
    runBoth rest ((Tree.step op t).2, if (Tree.step op t).1 then Map.step op m else m)

/-- **Under any history** (any finite sequence of inserts at any location, upserts, deletes, batch
inserts and hash recomputations, successful or failed, from any tree with distinct keys and leaf
hashes — in particular from the empty one): keys and leaf hashes stay pairwise distinct and the
key → value content equals that of a plain map subjected to the same successful operations. -/
theorem history_refinement (ops : List Op) (t : Tree) (m : Map) (hk : (Tree.keys t).Nodup)
    (hh : (Tree.hashes t).Nodup) (hm : ∀ k, Map.lookup (Tree.toMap t) k = Map.lookup m k) :
    (Tree.keys (runBoth ops (t, m)).1).Nodup ∧ (Tree.hashes (runBoth ops (t, m)).1).Nodup
      ∧ ∀ k, Map.lookup (Tree.toMap (runBoth ops (t, m)).1) k = Map.lookup (runBoth ops (t, m)).2 k := by
  induction ops generalizing t m with
  | nil => exact ⟨hk, hh, hm⟩
  | cons op rest ih =>
    obtain ⟨hsucc, hfail⟩ := map_simulation op t hk m hm
    simp only [runBoth]
    apply ih _ _ (keys_unique op t hk) (hashes_unique op t hk hh)
    intro k
    cases hres : (Tree.step op t).1 with
    | true =>
      rw [if_pos rfl]
      exact hsucc hres k
    | false =>
      rw [if_neg Bool.false_ne_true, hfail hres]
      exact hm k

/-- from the empty blob: the instance the property speaks about -/
theorem history_refinement_empty (ops : List Op) :
    (Tree.keys (runBoth ops (none, [])).1).Nodup ∧ (Tree.hashes (runBoth ops (none, [])).1).Nodup
      ∧ ∀ k, Map.lookup (Tree.toMap (runBoth ops (none, [])).1) k = Map.lookup (runBoth ops (none, [])).2 k :=
  history_refinement ops none [] List.nodup_nil List.nodup_nil (fun _ => rfl)

/-! ## L1: lazy hash recomputation and inclusion proofs -/

/-- **Root hash.**  On a tree satisfying the hash invariant, `calculate_lazy_hashes` (which only
walks through dirty nodes) leaves the tree's content unchanged, every node clean, the invariant
intact, and the root storing the Merkle hash recomputed independently over the whole tree. -/
theorem root_hash (t : HT) (hg : Good t) :
    (HT.recompute t).hash = t.erase.merkle ∧ (HT.recompute t).erase = t.erase
      ∧ (HT.recompute t).allClean = true ∧ Good (HT.recompute t) := by
  obtain ⟨hc, hh⟩ := hg.recompute.clean t.recompute_rootClean
  exact ⟨by rw [hh, HT.recompute_erase], HT.recompute_erase t, hc, hg.recompute⟩

/-- the executable check used by the driver's well-formedness test implies the invariant -/
theorem check_good (t : HT) (m : Hash) (h : t.check = some m) : Good t ∧ m = t.erase.merkle := by
  rw [HT.check_eq] at h
  split at h
  · rename_i hl
    injection h with h
    exact ⟨hl, h.symm⟩
  · cases h

private theorem validFrom_append (h : Hash) (a b : List (Side × Hash × Hash)) :
    Proof.validFrom h (a ++ b) = (Proof.validFrom h a).bind (fun h' => Proof.validFrom h' b) := by
  induction a generalizing h with
  | nil => rfl
  | cons x a ih =>
    obtain ⟨s, o, c⟩ := x
    simp only [List.cons_append, Proof.validFrom]
    split
    · exact ih _
    · rfl

private theorem validFrom_snoc (p : Proof) (a : Hash) (s : Side) (o c : Hash)
    (hv : Proof.validFrom p.nodeHash p.layers = some a) (hc : calcInternalHash a s o = c) :
    Proof.validFrom p.nodeHash (p.layers ++ [(s, o, c)]) = some c
      ∧ Proof.rootHash { p with layers := p.layers ++ [(s, o, c)] } = c := by
  refine ⟨?_, ?_⟩
  · rw [validFrom_append, hv]
    simp only [Option.bind, Proof.validFrom, hc, if_true]
  · simp [Proof.rootHash]

private theorem proofOf_spec (k : KeyId) (t : T) (p : Proof) (h : t.proofOf k = some p) :
    Proof.validFrom p.nodeHash p.layers = some t.merkle ∧ p.rootHash = t.merkle := by
  induction t generalizing p with
  | leaf k' v hh =>
    simp only [T.proofOf] at h
    split at h
    · injection h with h; subst h; exact ⟨rfl, rfl⟩
    · cases h
  | node l r ihl ihr =>
    simp only [T.proofOf] at h
    split at h
    · rename_i q hq
      injection h with h; subst h
      exact validFrom_snoc q _ _ _ _ (ihl q hq).1 rfl
    · split at h
      · rename_i q hq
        injection h with h; subst h
        exact validFrom_snoc q _ _ _ _ (ihr q hq).1 rfl
      · cases h

private theorem proofOf_some (k : KeyId) (t : T) (hk : k ∈ t.keys) : ∃ p, t.proofOf k = some p := by
  induction t with
  | leaf k' v h =>
    simp only [T.keys, List.mem_singleton] at hk
    exact ⟨{ nodeHash := h, layers := [] }, by simp only [T.proofOf, if_pos hk.symm]⟩
  | node l r ihl ihr =>
    simp only [T.keys, List.mem_append] at hk
    simp only [T.proofOf]
    cases hl : l.proofOf k with
    | some p => exact ⟨_, rfl⟩
    | none =>
      rcases hk with hk | hk
      · obtain ⟨p, hp⟩ := ihl hk; rw [hl] at hp; cases hp
      · obtain ⟨p, hp⟩ := ihr hk; rw [hp]; exact ⟨_, rfl⟩

/-- **Inclusion proofs.**  Every key of the tree has an inclusion proof; it is valid
(`ProofOfInclusion::valid`) and ends in the Merkle root of the tree. -/
theorem proof_valid (t : T) (k : KeyId) (hk : k ∈ t.keys) :
    ∃ p, t.proofOf k = some p ∧ p.valid = true ∧ p.rootHash = t.merkle := by
  obtain ⟨p, hp⟩ := proofOf_some k t hk
  obtain ⟨v, r⟩ := proofOf_spec k t p hp
  exact ⟨p, hp, by simp [Proof.valid, v, r], r⟩

/-- on a clean tree satisfying the hash invariant, the proof read off the STORED hashes (what
`get_proof_of_inclusion` returns) is the proof recomputed from the tree -/
theorem proofOf_stored (t : HT) (k : KeyId) (hg : Good t) (hc : t.allClean = true) :
    t.proofOf k = t.erase.proofOf k := by
  induction t with
  | leaf k' v h => rfl
  | node h d l r ihl ihr =>
    obtain ⟨gl, gr, gd⟩ := hg
    simp only [HT.allClean, Bool.and_eq_true, Bool.not_eq_true'] at hc
    obtain ⟨⟨hd, cl⟩, cr⟩ := hc
    obtain ⟨e, _, _⟩ := gd hd
    simp only [HT.proofOf, HT.erase, T.proofOf, ihl gl cl, ihr gr cr,
      (gl.clean (HT.rootClean_of_allClean l cl)).2, (gr.clean (HT.rootClean_of_allClean r cr)).2, T.merkle, e]

/-- **Root and proofs after recomputation.**  Once the lazy hashes are recomputed, every key has an
inclusion proof (built from the stored hashes) that is valid and ends in the stored root hash, which
is the Merkle hash of the tree. -/
theorem proof_valid_after_recompute (t : HT) (hg : Good t) (k : KeyId) (hk : k ∈ t.erase.keys) :
    ∃ p, (HT.recompute t).proofOf k = some p ∧ p.valid = true
      ∧ p.rootHash = (HT.recompute t).hash ∧ (HT.recompute t).hash = t.erase.merkle := by
  obtain ⟨hh, he, hc, hg'⟩ := root_hash t hg
  obtain ⟨p, hp, hv, hr⟩ := proof_valid t.erase k hk
  refine ⟨p, ?_, hv, by rw [hr, hh], hh⟩
  rw [proofOf_stored _ k hg' hc, he, hp]

/-! ## L2: the index-level model -/

/-- the state after a history (whatever each operation returned) -/
def runHist (ops : List Op) : Blob := ops.foldl (fun s op => (step op s).2) Blob.empty

def hh (b : Nat) : Hash := List.replicate 32 b

def threeLeaves : List Op :=
  [.ins 1 11 (hh 1) .auto, .ins 2 12 (hh 2) (.at 1 .left), .ins 3 13 (hh 3) (.at 1 .left)]

/-- **Reload (bytes).**  When every block fits the byte format (32-byte hashes, u32 indexes, 64-bit
keys and values), serializing the blob and loading the bytes again (`MerkleBlob::new`) decodes exactly
the same blocks: the result is the cache rebuild (`BlockStatusCache::new`) on the same block list, and
whenever it succeeds the reloaded blob has the same blocks and the same bytes. -/
theorem reload_partial (s : Blob) (h : ∀ b ∈ s.blocks, BlockOk b) :
    Blob.ofBytes s.bytes = ofBlocks s.blocks
      ∧ ∀ n, Blob.ofBytes s.bytes = some n → n.blocks = s.blocks ∧ n.bytes = s.bytes := by
  have e := ofBytes_bytes s h
  refine ⟨e, fun n hn => ?_⟩
  rw [e] at hn
  have hb : n.blocks = s.blocks := by
    unfold ofBlocks at hn
    split at hn
    split at hn
    · cases hn
    · split at hn
      · cases hn
      · injection hn with hn; rw [← hn]
  exact ⟨hb, by simp [Blob.bytes, hb]⟩

/-- `Block::from_bytes (Block::to_bytes b) = b` for every block the format can hold -/
theorem block_format_roundtrip (b : Block) (hb : BlockOk b) : decBlock (encBlock b) = some b :=
  decBlock_encBlock b hb

theorem threeLeaves_blockOk : ∀ b ∈ (runHist threeLeaves).blocks, BlockOk b := by
  decide +kernel

/-- non-vacuity: the blocks of the three-leaf blob fit the format -/
example : ∀ b ∈ (runHist threeLeaves).blocks, BlockOk b := threeLeaves_blockOk

/-- `insert` next to a reference key: the key is looked up first; when it is absent the step fails at once,
otherwise the insert goes to the leaf the cache gives, which is live -/
private theorem step_ins {s : Blob} (hinv : LInv s) (k : KeyId) (v : ValueId) (h : Hash) (loc : RefLoc) :
    step (.ins k v h loc) s = (.error .err, s)
      ∨ ∃ l, (l = .auto ∨ ∃ idx side, l = .leaf idx side ∧ idx ∉ s.free)
          ∧ step (.ins k v h loc) s = (do let _ ← insert k v h l; pure () : M Unit) s := by
  cases loc with
  | auto => exact Or.inr ⟨.auto, Or.inl rfl, rfl⟩
  | «at» ref side =>
    simp only [step]
    cases hr : refIndex s ref with
    | none => exact Or.inl rfl
    | some idx => exact Or.inr ⟨.leaf idx side, Or.inr ⟨idx, side, rfl, (hinv.key_leaf (k := ref) hr).1⟩, rfl⟩

/-- **A failed operation leaves the blob unchanged** (index-level model: `insert` at any location,
`upsert`, `delete`, `batch_insert`).  `LInv` is the local, decidable part of the invariant (free
indexes distinct and in range, parent pointers in range, root at index 0 without parent, every live
node's parent is a live internal node having it as a child, live internal nodes have two distinct live
children that point back to them, both caches hold exactly the live leaves, a parentless leaf is the
only leaf); the driver evaluates it after every step of every history.  Under it, once an operation
is past its checks none of its writes, index allocations, parent/child updates, tree walks or the
dirty-marking walk can fail, so an error can only come from a check that precedes the first
mutation; for `batch_insert` that check is the validation of the whole batch.
Not covered: `calculate_lazy_hashes`. -/
theorem fail_unchanged (op : Op) (s : Blob) (hinv : LInv s) (hh : op ≠ .hashes)
    (he : errOf (step op s).1 ≠ none) : (step op s).2 = s := by
  cases op with
  | ins k v h loc =>
    rcases step_ins hinv k v h loc with e | ⟨l, hl, e⟩
    · rw [e]
    · rw [e] at he ⊢
      exact ((insert_failOr hinv k v h l hl).discard (R := fun _ _ => True)
        fun _ _ _ => trivial).keepOrOk.error_unchanged he
  | ups k v h => exact (upsert_keepOrOk hinv k v h).error_unchanged he
  | del k => exact (delete_keepOrOk hinv k).error_unchanged he
  | batch l => exact (batchInsert_keepOrOk hinv l).error_unchanged he
  | hashes => exact absurd rfl hh

/-- non-vacuity: the local invariant holds on the three-leaf blob, and a failing operation exists -/
example : LInv (runHist threeLeaves) ∧ errOf (step (.ins 1 5 (hh 9) .auto) (runHist threeLeaves)).1 ≠ none := by
  decide +kernel

/-- **A batch that does not pass its validation leaves the blob unchanged** (any state): a key or
leaf hash of the batch that is already in the cache or repeated inside the batch makes
`batch_insert` return an error before anything is mutated. -/
theorem fail_unchanged_batch_validation (l : List KVH) (s : Blob) (h : batchValid s l [] [] = false) :
    step (.batch l) s = (.error .err, s) := by
  simp only [step, batchInsert, bind_run, M.get, h]
  rfl

/-- **A batch that passed its validation succeeds** on a locally well-formed blob: the two checked
inserts (with at most one leaf), the allocation of the leaves and of the pairing levels, the
breadth-first search for the minimum-height leaf and the attachment of the subtree cannot fail. -/
theorem batch_commit_succeeds (l : List KVH) (s : Blob) (hinv : LInv s) (hv : batchValid s l [] [] = true) :
    errOf (step (.batch l) s).1 = none := by
  obtain ⟨a, s', e, _⟩ := batchCommit_ok hinv l hv
  simp only [step, batchInsert, bind_run, M.get, hv, if_true, e]
  rfl

/-- **A validated `insert` succeeds** on a locally well-formed blob (the pseudo-random walk reaches a
live leaf because every node has exactly one parent and the root none) -/
theorem insert_succeeds (k : KeyId) (v : ValueId) (h : Hash) (s : Blob) (hinv : LInv s)
    (hk : mapGet s.k2i k = none) (hh : mapGet s.h2i h = none) :
    errOf (step (.ins k v h .auto) s).1 = none := by
  obtain ⟨a, s', e, _, _⟩ := insert_auto_ok hinv k v h hk hh
  simp only [step]
  show errOf ((insert k v h .auto >>= fun _ => pure ()) s).1 = none
  rw [bind_run, e]
  rfl

/-- **`insert` preserves the local invariant**: for an insert at the
automatic location or next to any reference key, successful or failed, the blob after the operation
satisfies `LInv` again — through `insert_first`, `insert_second` (blob rebuilt with three blocks) and
`insert_third_or_later` (two allocated indexes — reused free ones or appended —, the new leaf, the
new internal node, the re-parented old leaf, the patched old parent, the dirty-marked lineage). -/
theorem linv_preserved_insert (k : KeyId) (v : ValueId) (h : Hash) (loc : RefLoc) (s : Blob) (hinv : LInv s) :
    LInv (step (.ins k v h loc) s).2 := by
  rcases step_ins hinv k v h loc with e | ⟨l, hl, e⟩
  · rw [e]
    exact hinv
  · rw [e, discard_snd]
    exact insert_linv hinv k v h l hl

/-- **`upsert` preserves the local invariant**, whatever it returns -/
theorem linv_preserved_upsert (k : KeyId) (v : ValueId) (h : Hash) (s : Blob) (hinv : LInv s) :
    LInv (step (.ups k v h) s).2 := (upsert_failOr hinv k v h).snd hinv (fun _ _ q => q)

/-- hence along any history of inserts and upserts from the empty blob the local invariant holds, by the local
argument alone (for all histories, deletes and batches included, it follows from the structural invariant:
`history_refinement_l2`) -/
theorem inserts_upserts_history (ops : List Op)
    (hops : ∀ op ∈ ops, (∃ k v h loc, op = .ins k v h loc) ∨ (∃ k v h, op = .ups k v h)) :
    LInv (ops.foldl (fun s op => (step op s).2) Blob.empty) := by
  refine List.foldlRecOn (motive := LInv) ops _ (by decide) fun s hs op hop => ?_
  rcases hops op hop with ⟨k, v, h, loc, e⟩ | ⟨k, v, h, e⟩
  · subst e; exact linv_preserved_insert k v h loc s hs
  · subst e; exact linv_preserved_upsert k v h s hs

/-! ## L2 → L1: the structural invariant, refinement of every operation, any history

The local invariant `LInv` is not inductive for `delete`: local clauses do not exclude a locally
consistent component detached from the root.  The structural invariant (`Blob.SInv`, `Blob.Good`;
Lemmas/BlobRep.lean) says that ONE index-annotated tree `t` (`Blob.IT`) is stored below index 0, that every
other index below the blob's length is on the free list, once, and that the two caches hold exactly the
leaves of `t`.  `structOk` (Model/Blob.lean) decides it; the driver evaluates it after every step.  It does
not look at the stored hashes and dirty flags of internal nodes. -/

def SOk (s : Blob) : Prop := ∃ t : Option IT, SInv s t

theorem struct_ok_decides (s : Blob) : structOk s = true ↔ SOk s := structOk_iff s

theorem struct_ok_empty : structOk Blob.empty = true := by decide

/-- the structural invariant implies the local one -/
theorem struct_ok_linv (s : Blob) (h : structOk s = true) : LInv s := by
  obtain ⟨t, ht⟩ := (structOk_iff s).mp h
  cases t with
  | none => simp only [SInv] at ht; subst ht; decide
  | some t => exact Blob.Good.linv ht

/-- **The structural invariant is inductive for EVERY operation** (insert at any
location, upsert, delete, batch insert, hash recomputation; successful or failed), and it implies
the local invariant. -/
theorem inv_preserved (op : Op) (s : Blob) (h : structOk s = true) :
    structOk (step op s).2 = true ∧ LInv (step op s).2 := by
  obtain ⟨t, ht⟩ := (structOk_iff s).mp h
  obtain ⟨t', ht', _, _⟩ := step_refines ht op
  have h' := (structOk_iff _).mpr ⟨t', ht'⟩
  exact ⟨h', struct_ok_linv _ h'⟩

/-- **Refinement L2 → L1.** On a state satisfying the invariant an operation
succeeds exactly when the tree-level operation does, and the abstraction of the new state is the
tree-level result — for every operation. -/
theorem abs_commutes (op : Op) (s : Blob) (t : Tree) (h : structOk s = true) (ha : abs s = some t) :
    (errOf (step op s).1 = none ↔ (Tree.step op t).1 = true) ∧ abs (step op s).2 = some (Tree.step op t).2 := by
  obtain ⟨it, ht⟩ := (structOk_iff s).mp h
  have e := ht.abs
  rw [ha] at e
  injection e with e
  subst e
  obtain ⟨t', ht', he, hsucc, _⟩ := step_refines ht op
  exact ⟨hsucc, by rw [ht'.abs, he]⟩

/-- the abstraction is defined on every state satisfying the invariant -/
theorem abs_defined (s : Blob) (h : structOk s = true) : ∃ t, abs s = some t := by
  obtain ⟨it, ht⟩ := (structOk_iff s).mp h
  exact ⟨_, ht.abs⟩

/-- A state satisfying the invariant passes `check_integrity` (as is, and
again after `calculate_lazy_hashes` on the clone) -/
theorem integrity_of_inv (s : Blob) (h : structOk s = true) : checkIntegrity s = .ok := by
  obtain ⟨it, ht⟩ := (structOk_iff s).mp h
  exact checkIntegrity_good ht

/-- `calculate_lazy_hashes` cannot fail on a state satisfying the invariant, so that a failed
operation never changes the state (`fail_unchanged` covers the other operations) -/
theorem hashes_never_fails (s : Blob) (h : structOk s = true) : errOf (step .hashes s).1 = none := by
  have := (abs_commutes .hashes s _ h (abs_defined s h).choose_spec).1
  exact this.mpr rfl

theorem fail_unchanged_all (op : Op) (s : Blob) (h : structOk s = true) (hf : errOf (step op s).1 ≠ none) :
    (step op s).2 = s := by
  by_cases ho : op = .hashes
  · subst ho; exact absurd (hashes_never_fails s h) hf
  · exact fail_unchanged op s (struct_ok_linv s h) ho hf

/-- the state and the abstract tree / specification map after a history, from given starting points -/
theorem history_from (ops : List Op) :
    ∀ (s : Blob) (t : Tree) (m : Map), structOk s = true → abs s = some t →
    structOk (ops.foldl (fun s op => (step op s).2) s) = true
      ∧ abs (ops.foldl (fun s op => (step op s).2) s) = some (runBoth ops (t, m)).1 := by
  induction ops with
  | nil => intro s t m h ha; exact ⟨h, ha⟩
  | cons op rest ih =>
    intro s t m h ha
    simp only [List.foldl_cons, runBoth]
    exact ih _ _ _ (inv_preserved op s h).1 (abs_commutes op s t h ha).2

/-- **Any finite history on the block-array model, from the empty blob** (inserts at any location,
upserts, deletes, batch inserts, hash recomputations; successful or failed): the reached state
satisfies the structural and the local invariant, passes `check_integrity`, its abstraction is the
tree reached by the same history on the tree model, keys and leaf hashes are pairwise distinct, and
the key → value content equals that of a plain map subjected to the same successful operations. -/
theorem history_refinement_l2 (ops : List Op) :
    structOk (runHist ops) = true ∧ LInv (runHist ops) ∧ checkIntegrity (runHist ops) = .ok
      ∧ ∃ t, abs (runHist ops) = some t ∧ t = (runBoth ops (none, [])).1
        ∧ (Tree.keys t).Nodup ∧ (Tree.hashes t).Nodup
        ∧ ∀ k, Map.lookup (Tree.toMap t) k = Map.lookup (runBoth ops (none, [])).2 k := by
  obtain ⟨h1, h2⟩ := history_from ops Blob.empty none [] struct_ok_empty rfl
  obtain ⟨k1, k2, k3⟩ := history_refinement_empty ops
  exact ⟨h1, struct_ok_linv _ h1, integrity_of_inv _ h1, _, h2, rfl, k1, k2, k3⟩

/-- each operation of a history succeeds on the blob exactly when it succeeds on the tree model -/
theorem history_success_agrees (ops : List Op) (op : Op) :
    errOf (step op (runHist ops)).1 = none ↔ (Tree.step op (runBoth ops (none, [])).1).1 = true := by
  obtain ⟨h1, h2⟩ := history_from ops Blob.empty none [] struct_ok_empty rfl
  exact (abs_commutes op _ _ h1 h2).1

/-- `calculate_lazy_hashes` on the blocks is `HT.recompute` on the abstraction
with stored hashes and dirty flags (so `root_hash` and `proof_valid_after_recompute` speak about the
blob whenever the stored hashes satisfy the hash invariant `Good`, which the driver evaluates as
`hashesOk` on every state) -/
theorem hashes_commute (s : Blob) (h : structOk s = true) :
    absH (calcLazyHashes s).2 = (absH s).map (Option.map HT.recompute) := by
  obtain ⟨it, ht⟩ := (structOk_iff s).mp h
  exact Blob.hashes_commute ht

/-- `MerkleBlob::new` on the blocks of a state satisfying the invariant rebuilds
the caches: the same key → index and leaf-hash → index content, the same free indexes up to order;
the reloaded state satisfies the invariant and has the same abstraction -/
theorem reload_caches (s : Blob) (h : structOk s = true) :
    ∃ n, ofBlocks s.blocks = some n ∧ n.blocks = s.blocks
      ∧ (∀ k, mapGet n.k2i k = mapGet s.k2i k) ∧ (∀ hh, mapGet n.h2i hh = mapGet s.h2i hh)
      ∧ n.free.Perm s.free ∧ structOk n = true ∧ abs n = abs s := by
  obtain ⟨it, ht⟩ := (structOk_iff s).mp h
  cases it with
  | none =>
    simp only [SInv] at ht
    subst ht
    exact ⟨Blob.empty, by decide, rfl, fun _ => rfl, fun _ => rfl, List.Perm.refl _, by decide, rfl⟩
  | some t =>
    have g : Blob.Good s t := ht
    obtain ⟨n, e, hb, gn, hf⟩ := ofBlocks_good g
    refine ⟨n, e, hb, ?_, ?_, hf, (structOk_iff n).mpr ⟨some t, gn⟩, by rw [gn.abs, g.abs]⟩
    · intro k
      exact mapGet_perm (gn.k2i.trans g.k2i.symm) gn.k2i_keys_nodup k
    · intro x
      exact mapGet_perm (gn.h2i.trans g.h2i.symm) gn.h2i_keys_nodup x

/-- Serializing a state satisfying the invariant and loading the bytes with
`MerkleBlob::new` yields the same blocks and bytes, caches with the same content, the same free
indexes up to order, the same abstraction, and again a state satisfying the invariant.  (`BlockOk`:
every field fits the byte format — indexes below 2^32, 32-byte hashes, 64-bit keys and values.) -/
theorem reload (s : Blob) (h : structOk s = true) (hb : ∀ b ∈ s.blocks, BlockOk b) :
    ∃ n, Blob.ofBytes s.bytes = some n ∧ n.blocks = s.blocks ∧ n.bytes = s.bytes
      ∧ (∀ k, mapGet n.k2i k = mapGet s.k2i k) ∧ (∀ hh, mapGet n.h2i hh = mapGet s.h2i hh)
      ∧ n.free.Perm s.free ∧ structOk n = true ∧ abs n = abs s := by
  obtain ⟨n, e, hbl, hk, hhc, hf, hs, ha⟩ := reload_caches s h
  exact ⟨n, by rw [(reload_partial s hb).1, e], hbl, by simp [Blob.bytes, hbl], hk, hhc, hf, hs, ha⟩

/-- The hash invariant (`hashesOk`: every clean internal node stores the
Merkle hash of its subtree and has only clean descendants) is preserved by every operation — marking
the lineage dirty suffices, and `calculate_lazy_hashes` re-establishes cleanliness. -/
theorem hash_inv_preserved (op : Op) (s : Blob) (h : structOk s = true) (hh : hashesOk s = true) :
    hashesOk (step op s).2 = true := by
  obtain ⟨t, ht⟩ := (structOk_iff s).mp h
  obtain ⟨t', ht', _, _, hl⟩ := step_refines ht op
  exact (hashesOk_iff ht').mpr (hl ((hashesOk_iff ht).mp hh))

/-- along any history from the empty blob the stored hashes satisfy the hash invariant -/
theorem history_hashes_ok (ops : List Op) : hashesOk (runHist ops) = true := by
  have h : structOk (runHist ops) = true ∧ hashesOk (runHist ops) = true :=
    List.foldlRecOn (motive := fun s => structOk s = true ∧ hashesOk s = true) ops _ ⟨struct_ok_empty, by decide⟩
      fun s hs op _ => ⟨(inv_preserved op s hs.1).1, hash_inv_preserved op s hs.1 hs.2⟩
  exact h.2

/-- **Root hash and proofs at the end of any history.**  After any finite history from the empty
blob followed by `calculate_lazy_hashes`: the operation succeeds, the content is unchanged, every
node is clean, `get_root_hash` returns the Merkle root recomputed independently over the content,
and every key has an inclusion proof over the stored hashes that is valid and ends in that root. -/
theorem root_after_hashes (ops : List Op) (ht : HT) (ha : absH (runHist ops) = some (some ht)) :
    errOf (step .hashes (runHist ops)).1 = none
      ∧ absH (runHist (ops ++ [.hashes])) = some (some ht.recompute)
      ∧ abs (runHist (ops ++ [.hashes])) = abs (runHist ops)
      ∧ ht.recompute.allClean = true
      ∧ rootHash (runHist (ops ++ [.hashes])) = .ok (some ht.erase.merkle)
      ∧ ∀ k ∈ ht.erase.keys, ∃ p, ht.recompute.proofOf k = some p ∧ p.valid = true
          ∧ p.rootHash = ht.erase.merkle := by
  obtain ⟨hs, _⟩ := history_refinement_l2 ops
  have hrun : runHist (ops ++ [.hashes]) = (calcLazyHashes (runHist ops)).2 := by
    rw [runHist, List.foldl_append]
    rfl
  have hcomm := hashes_commute (runHist ops) hs
  rw [ha, Option.map_some, Option.map_some, ← hrun] at hcomm
  have hgood : Good ht := by
    have hok := history_hashes_ok ops
    unfold hashesOk at hok
    rw [ha] at hok
    obtain ⟨m, hc⟩ := Option.isSome_iff_exists.mp hok
    exact (check_good ht m hc).1
  obtain ⟨hroot, herase, hclean, _⟩ := root_hash ht hgood
  obtain ⟨it, hit⟩ := (structOk_iff _).mp (history_refinement_l2 (ops ++ [.hashes])).1
  obtain ⟨t, g, e⟩ := hit.good_of_absH hcomm
  refine ⟨hashes_never_fails _ hs, hcomm, ?_, hclean, ?_, ?_⟩
  · unfold abs
    rw [hcomm, ha]
    simp only [herase]
  · rw [g.rootHash (e ▸ HT.rootClean_of_allClean _ hclean), e, hroot]
  · intro k hk
    obtain ⟨p, hp, hv, hr, hm⟩ := proof_valid_after_recompute ht hgood k hk
    exact ⟨p, hp, hv, by rw [hr, hm]⟩

/-- When every node is clean, `get_proof_of_inclusion` on the blocks (walking
the parent pointers up from the leaf) returns exactly the proof read off the abstraction -/
theorem proof_commutes (s : Blob) (ht : HT) (k : KeyId) (h : structOk s = true)
    (ha : absH s = some (some ht)) (hc : ht.allClean = true) (hk : k ∈ ht.erase.keys) :
    ∃ p, proofOfInclusion s k = .ok p ∧ ht.proofOf k = some p := by
  obtain ⟨it, hit⟩ := (structOk_iff s).mp h
  obtain ⟨t, g, e⟩ := hit.good_of_absH ha
  subst e
  exact Blob.proof_commutes g hc k (by rw [← IT.toHT_erase s.blocks t]; exact hk)

/-- **The blob as an authenticated map, end to end.**  After any finite history from the empty blob
followed by `calculate_lazy_hashes`, for every key of the content `get_proof_of_inclusion` succeeds
and its proof is valid (`ProofOfInclusion::valid`) and ends in the hash `get_root_hash` returns,
which is the Merkle root recomputed independently over the content. -/
theorem authenticated_map (ops : List Op) (t : T) (ha : abs (runHist ops) = some (some t)) :
    rootHash (runHist (ops ++ [.hashes])) = .ok (some t.merkle)
      ∧ abs (runHist (ops ++ [.hashes])) = some (some t)
      ∧ ∀ k ∈ t.keys, ∃ p, proofOfInclusion (runHist (ops ++ [.hashes])) k = .ok p ∧ p.valid = true
          ∧ p.rootHash = t.merkle := by
  obtain ⟨ht, hht, hte⟩ : ∃ ht, absH (runHist ops) = some (some ht) ∧ ht.erase = t := by
    unfold abs at ha
    split at ha
    · rename_i ht hab
      injection ha with ha
      injection ha with ha
      exact ⟨ht, hab, ha⟩
    · injection ha with ha
      cases ha
    · cases ha
  obtain ⟨_, h2, h3, h4, h5, h6⟩ := root_after_hashes ops ht hht
  have hs : structOk (runHist (ops ++ [.hashes])) = true := (history_refinement_l2 _).1
  rw [hte] at h5 h6
  refine ⟨h5, by rw [h3, ha], ?_⟩
  intro k hk
  obtain ⟨p, hp, hv, hr⟩ := h6 k hk
  have herase : ht.recompute.erase = t := by rw [HT.recompute_erase, hte]
  obtain ⟨q, hq1, hq2⟩ := proof_commutes _ ht.recompute k hs h2 h4 (by rw [herase]; exact hk)
  rw [hp] at hq2
  injection hq2 with hq2
  subst hq2
  exact ⟨p, hq1, hv, hr⟩

/-! ## Three histories whose last operation is rejected

These are the inputs that witnessed the defects repaired in /repo (DESIGN §7, C18a and C18b; commits 934ac687 and
fbd3f8c2, "validate before mutating").  Before the repair the first batch and the upsert returned `Ok` and left a
blob that failed `check_integrity` (and, for the upsert, bytes that `MerkleBlob::new` refused), and a failing batch on a
tree with at most one leaf had already inserted an item.  Since the repair `batch_insert` validates the whole batch
before it mutates anything, and `upsert` rejects a hash that belongs to another leaf: the offending operation fails and
leaves the blob as it was. -/

/-- a batch that repeats the present key 1 is rejected, nothing changes -/
theorem former_witness_batch_rejected :
    errOf (step (.batch [(1, 50, hh 5), (7, 51, hh 6)]) (runHist threeLeaves)).1 = some .err
      ∧ (step (.batch [(1, 50, hh 5), (7, 51, hh 6)]) (runHist threeLeaves)).2 = runHist threeLeaves
      ∧ checkIntegrity (runHist threeLeaves) = .ok := by
  have he : errOf (step (.batch [(1, 50, hh 5), (7, 51, hh 6)]) (runHist threeLeaves)).1 = some .err := by
    decide +kernel
  have hl := history_refinement_l2 threeLeaves
  exact ⟨he, fail_unchanged _ _ hl.2.1 (fun h => by cases h) (by rw [he]; exact fun h => by cases h), hl.2.2.1⟩

/-- an upsert of key 1 to the leaf hash of key 2 is rejected, nothing changes -/
theorem former_witness_upsert_rejected :
    errOf (step (.ups 1 11 (hh 2)) (runHist threeLeaves)).1 = some .err
      ∧ (step (.ups 1 11 (hh 2)) (runHist threeLeaves)).2 = runHist threeLeaves
      ∧ (Blob.ofBytes (runHist threeLeaves).bytes).isSome = true := by
  have he : errOf (step (.ups 1 11 (hh 2)) (runHist threeLeaves)).1 = some .err := by decide +kernel
  have hl := history_refinement_l2 threeLeaves
  obtain ⟨n, hn, _⟩ := reload _ hl.1 threeLeaves_blockOk
  exact ⟨he, fail_unchanged _ _ hl.2.1 (fun h => by cases h) (by rw [he]; exact fun h => by cases h),
    by rw [hn]; rfl⟩

/-- on the empty blob a batch whose two items share a key is rejected before its first insert -/
theorem former_witness_failed_batch_unchanged :
    errOf (step (.batch [(1, 11, hh 1), (1, 12, hh 2)]) Blob.empty).1 = some .err
      ∧ (step (.batch [(1, 11, hh 1), (1, 12, hh 2)]) Blob.empty).2 = Blob.empty
      ∧ Tree.step (.batch [(1, 11, hh 1), (1, 12, hh 2)]) none = (false, none) := by
  decide +kernel

/-- an upsert that keeps the leaf's own hash is accepted -/
example : errOf (step (.ups 1 99 (hh 1)) (runHist threeLeaves)).1 = none := by decide +kernel

end ChiaModel.C18
