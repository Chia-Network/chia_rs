import ChiaModel.Lemmas.Mempool
import ChiaModel.Lemmas.Fingerprint
import ChiaModel.Lemmas.BundleRules
/-
C19 — mempool rewrites (fast-forward, dedup) preserve spend validity and meaning.
The models are `Mp.fastForward` (fast_forward_singleton), `Mp.fpStream` / `Mp.fingerprint`
(compute_puzzle_fingerprint) and the `parse_spends` model of Model/Conditions.lean with the mempool
visitor.

One clause of the property is outside the reach of a model of /repo: "runs successfully against the
new coin … and creates the same coins" is a statement about the CLVM program
`singleton_top_layer_v1_1` (chia-puzzles).  It is proved here conditionally on the named hypothesis
structure `Mp.SingletonSpec` (`ff_preserves`), and checked unconditionally at run time (harness
`prop=`: both solutions are run with the real interpreter and validated by `run_spendbundle`).
-/
namespace ChiaModel.C19
open ChiaModel ChiaModel.Cond ChiaModel.Mp ChiaModel.TreeHash

/-- **The rewritten solution.**  Whenever the model of `fast_forward_singleton` accepts, puzzle and
solution have the shapes `(a (q . mod) (c (q . (mh . (lid . lph))) (c (q . inner) 1)))` and
`((lp lih la . t1) amt isol . t2)`, and the new solution is `((lp' lih la') amt' isol)` with
`lp'` = the new parent's parent id, `la'` / `amt'` = the canonical amounts of the new parent / the new
coin: the lineage's inner puzzle hash and the inner solution are untouched, exactly the three fields are
replaced — and the two list tails `t1`, `t2` (which `FromClvm`'s `list` representation does not look at)
are re-encoded as nil. -/
theorem ff_shape {puzzle solution : Sexp} {coin nc np : CoinM} {sol' : Sexp}
    (h : fastForward puzzle solution coin nc np = .ok sol') :
    ∃ lp lih la t1 amt isol t2, solution = mkSolution lp lih la t1 amt isol t2 ∧
      sol' = mkSolution np.parent lih (canonNat np.amount) Sexp.nil (canonNat nc.amount) isol Sexp.nil := by
  obtain ⟨_, pp, pih, pa, t1, amt, isol, t2, _, e2, _, e3⟩ := ff_ok h
  exact ⟨pp, pih, pa, t1, amt, isol, t2, e2, e3⟩

def Call.replace3 (c : Call) : Sexp :=
  mkSolution c.np.parent c.pih (canonNat c.np.amount) c.t1 (canonNat c.nc.amount) c.isol c.t2

/-- **Full strength for solutions that are proper lists** (what every wallet produces, and the only
solutions whose every element the puzzle can see): the result is the original with exactly
(lineage parent, lineage amount, coin amount) replaced. -/
theorem ff_shape_proper {c : Call} {sol' : Sexp} (h : c.run = .ok sol') (h1 : c.t1 = Sexp.nil) (h2 : c.t2 = Sexp.nil) :
    sol' = Call.replace3 c := by
  rw [(Call.run_ok h).2, Call.result, Call.replace3, h1, h2]

def ff_shape_full : Prop := ∀ (c : Call) (sol' : Sexp), c.run = .ok sol' → sol' = Call.replace3 c

/-- an accepted call, for any tree `mod` hashing to the singleton mod hash (the real puzzle bytes do:
case kind `mh` of the correspondence) -/
def witness (mod : Sexp) (t2 : Sexp) : Call :=
  let sg : Singleton := ⟨mod, singletonModHash, zeros 32, zeros 32, .atom [1]⟩
  let pih := Sexp.treeHash (.atom [1])
  let ph := Sexp.treeHash sg.puzzle
  let np : CoinM := ⟨zeros 32, ph, 1⟩
  { sg := sg, pp := zeros 32, pih := pih, pa := [1], t1 := Sexp.nil, amt := [1], isol := Sexp.nil, t2 := t2,
    coin := ⟨coinIdOf (zeros 32) (curryAndTreehash pih singletonModHash (zeros 32) (zeros 32)) 1, ph, 1⟩,
    nc := ⟨np.coinId, ph, 1⟩, np := np }

theorem witness_accepted (mod : Sexp) (hm : Sexp.treeHash mod = singletonModHash) (t2 : Sexp) :
    (witness mod t2).run = .ok (witness mod t2).result := by
  rw [Call.run_iff]
  refine ⟨?_, rfl⟩
  have l32 : singletonModHash.length = 32 := by decide
  have d1 : decodeU64 [1] = some 1 := by decide
  refine ⟨rfl, rfl, rfl, rfl, rfl, l32, by simp [witness, zeros], by simp [witness, zeros], by simp [witness, zeros],
    treeHash_length _, rfl, hm, d1, ⟨1, d1, rfl⟩, rfl, rfl, rfl⟩

/-- **Negation witness**: a valid call whose solution carries an extra trailing element is accepted and
the element is dropped, so the full-strength statement fails exactly there (recorded as a finding: the
dropped data is never read by the puzzle, the rewritten spend means the same). -/
theorem ff_shape_full_false (hm : ∃ mod : Sexp, Sexp.treeHash mod = singletonModHash) : ¬ ff_shape_full := by
  obtain ⟨mod, hm⟩ := hm
  intro hf
  have := hf (witness mod (.pair (.atom [7]) Sexp.nil)) _ (witness_accepted mod hm _)
  simp [Call.result, Call.replace3, witness, mkSolution, Sexp.nil] at this

/-- **The guards.**  Acceptance implies: the three amounts are odd; the three puzzle hashes are equal; the
curried mod hash is the singleton mod hash and so is the tree hash of the curried mod; the solution's
amount is the coin's amount; the old coin's parent is the coin id of (lineage parent, curried hash of the
lineage inner puzzle hash, lineage amount); the revealed inner puzzle hashes to the lineage inner puzzle
hash; the revealed puzzle hashes to the coin's puzzle hash; the new coin's parent is the coin id of the
new parent.  Hence anything that is not a singleton spend of the stated coin with matching lineage is refused. -/
theorem ff_guards {puzzle solution : Sexp} {coin nc np : CoinM} {sol' : Sexp}
    (h : fastForward puzzle solution coin nc np = .ok sol') :
    ∃ (sg : Singleton) (lp lih la : Bytes) (t1 : Sexp) (amt : Bytes) (isol t2 : Sexp) (v : Nat),
      puzzle = curry sg.mod [structOf sg.modHash sg.launcherId sg.launcherPh, sg.inner] ∧
      solution = mkSolution lp lih la t1 amt isol t2 ∧
      (coin.amount % 2 = 1 ∧ np.amount % 2 = 1 ∧ nc.amount % 2 = 1) ∧
      (coin.puzzleHash = np.puzzleHash ∧ coin.puzzleHash = nc.puzzleHash) ∧
      (sg.modHash = singletonModHash ∧ Sexp.treeHash sg.mod = singletonModHash) ∧
      decodeU64 amt = some coin.amount ∧
      decodeU64 la = some v ∧
      coin.parent = coinIdOf lp (curryAndTreehash lih sg.modHash sg.launcherId sg.launcherPh) v ∧
      Sexp.treeHash sg.inner = lih ∧
      Sexp.treeHash puzzle = coin.puzzleHash ∧
      nc.parent = np.coinId := by
  obtain ⟨sg, pp, pih, pa, t1, amt, isol, t2, e1, e2, a, _⟩ := ff_ok h
  obtain ⟨v, hv, hid⟩ := a.lineage
  exact ⟨sg, pp, pih, pa, t1, amt, isol, t2, v, e1, e2, ⟨a.oddCoin, a.oddParent, a.oddNew⟩, ⟨a.phParent, a.phNew⟩,
    ⟨a.modHash, a.modTree⟩, a.amount, hv, hid.symm, a.innerHash, by rw [e1]; exact a.puzzleHash, a.newParent⟩

/-- the guards are also sufficient: acceptance is *equivalent* to them (on decoded parts) -/
theorem ff_iff (c : Call) (sol' : Sexp) :
    c.run = .ok sol' ↔ Accepts c.sg c.pp c.pih c.pa c.amt c.coin c.nc c.np ∧ sol' = c.result :=
  Call.run_iff c sol'

/-- **Genuine lineage**: the old coin's parent was a coin of the very same puzzle (same puzzle hash),
with the lineage proof's parent id and amount — `curry_and_treehash` of the lineage inner puzzle hash is
the tree hash of the revealed puzzle (C17 `curry_and_treehash_eq`). -/
theorem ff_parent_same_puzzle {c : Call} {sol' : Sexp} (h : c.run = .ok sol') :
    ∃ v, decodeU64 c.pa = some v ∧ c.coin.parent = coinIdOf c.pp c.coin.puzzleHash v := by
  obtain ⟨a, _⟩ := Call.run_ok h
  obtain ⟨v, hv, hid⟩ := a.lineage
  exact ⟨v, hv, by rw [← hid, a.curried]⟩

/-- **Every single-field corruption is refused**, up to an explicit SHA-256 collision: starting from an
accepted call, changing the curried mod, the struct's mod hash / launcher id / launcher puzzle hash, the
inner puzzle, the lineage parent / inner puzzle hash / amount (to another integer), the solution's amount
(to another integer), the old coin's parent / puzzle hash / amount, the new coin's parent / puzzle hash /
amount parity, or the new parent's parent / puzzle hash / amount makes `fast_forward_singleton` return an
error — or exhibits two different byte strings with the same SHA-256. -/
theorem ff_corruption {c c' : Call} {sol' : Sexp} (h : c.run = .ok sol') (wf : c.WF) (hc : Corrupt c c') :
    (∃ e, c'.run = .error e) ∨ Collision := by
  cases hr : c'.run with
  | error e => exact Or.inl ⟨e, rfl⟩
  | ok s' =>
    obtain ⟨a, _⟩ := Call.run_ok h
    obtain ⟨a', _⟩ := Call.run_ok hr
    obtain ⟨v, hv, hid⟩ := a.lineage
    obtain ⟨v', hv', hid'⟩ := a'.lineage
    have hvlt : v < 2^64 := decodeU64_lt wf.paBytes hv
    cases hc with
    | mod x hx =>
      have e : Sexp.treeHash x = Sexp.treeHash c.sg.mod := by rw [a.modTree]; exact a'.modTree
      exact (treeHash_inj _ _ e).imp_left (fun e => absurd e hx)
    | modHash x hx => exact absurd (a'.modHash.trans a.modHash.symm) hx
    | launcherId x hx =>
      exact (treeHash_inj _ _ (a'.puzzleHash.trans a.puzzleHash.symm)).imp_left
        (fun e => absurd (congrArg Singleton.launcherId (puzzle_inj e)) hx)
    | launcherPh x hx =>
      exact (treeHash_inj _ _ (a'.puzzleHash.trans a.puzzleHash.symm)).imp_left
        (fun e => absurd (congrArg Singleton.launcherPh (puzzle_inj e)) hx)
    | inner x hx =>
      exact (treeHash_inj _ _ (a'.innerHash.trans a.innerHash.symm)).imp_left (fun e => absurd e hx)
    | lineageParent x hx =>
      simp only at hv' hid' a'
      rw [hv] at hv'; injection hv' with hv'; subst hv'
      exact (coinIdOf_inj (by rw [a'.lenPp, a.lenPp]) hvlt hvlt (hid'.trans hid.symm)).imp_left (fun e => absurd e.1 hx)
    | lineageInnerPh x hx => exact absurd (a'.innerHash.symm.trans a.innerHash) hx
    | lineageAmount x hb hx =>
      simp only at hv' hid' a'
      have hvlt' : v' < 2^64 := decodeU64_lt hb hv'
      exact (coinIdOf_inj rfl hvlt' hvlt (hid'.trans hid.symm)).imp_left (fun e => absurd (by rw [hv, hv', e.2]) hx)
    | solutionAmount x hx => exact absurd (a'.amount.trans a.amount.symm) hx
    | coinParent x hx =>
      simp only at hv' hid'
      rw [hv] at hv'; injection hv' with hv'; subst hv'
      exact absurd (hid'.symm.trans hid) hx
    | coinPh x hx => exact absurd (a'.puzzleHash.symm.trans a.puzzleHash) hx
    | coinAmount x hx =>
      have := a'.amount.symm.trans a.amount
      injection this with this
      exact absurd this hx
    | newCoinParent x hx => exact absurd (a'.newParent.trans a.newParent.symm) hx
    | newCoinPh x hx => exact absurd (a'.phNew.symm.trans a.phNew) hx
    | newCoinAmountEven x hx => have := a'.oddNew; simp only at this; omega
    | newParentParent x hl hx =>
      have e := a'.newParent.symm.trans a.newParent
      simp only [CoinM.coinId] at e
      exact (coinIdOf_inj (by rw [hl, wf.npParent]) wf.npAmount wf.npAmount e).imp_left (fun e => absurd e.1 hx)
    | newParentPh x hx => exact absurd (a'.phParent.symm.trans a.phParent) hx
    | newParentAmount x hlt hx =>
      have e := a'.newParent.symm.trans a.newParent
      simp only [CoinM.coinId] at e
      exact (coinIdOf_inj rfl hlt wf.npAmount e).imp_left (fun e => absurd e.2 hx)

/-- **Runs against the new coin, same created coins** — conditional on `SingletonSpec`, the documented
behaviour of the external CLVM puzzle: for an accepted call whose original spend runs, the rewritten
solution runs too; both outputs consist of two self-assertions followed by the SAME morphed inner
conditions `m` (hence the same CREATE_COINs), and the new run's self-assertions are
`ASSERT_MY_AMOUNT new_coin.amount`, `ASSERT_MY_PARENT_ID new_coin.parent`.  (Also checked at run time with
the real interpreter on every accepted case: harness `prop=`.) -/
theorem ff_preserves {run : Sexp → Sexp → Option Sexp} (spec : SingletonSpec run) {c : Call} {sol' : Sexp}
    (h : c.run = .ok sol') (hnc : c.nc.amount < 2^64) {out : Sexp}
    (horig : run c.sg.puzzle c.solution = some out) :
    ∃ m, out = Sexp.pair (condAssertMyAmount c.amt) (Sexp.pair (condAssertMyParentId
            (sha256 (c.pp ++ c.coin.puzzleHash ++ c.pa))) m) ∧
      run c.sg.puzzle sol' = some (Sexp.pair (condAssertMyAmount (canonNat c.nc.amount))
        (Sexp.pair (condAssertMyParentId c.nc.parent) m)) := by
  obtain ⟨a, e⟩ := Call.run_ok h
  subst e
  have e1 := spec.eval c.sg c.pp c.pih c.pa c.t1 c.amt c.isol c.t2 a.modTree
  have e2 := spec.eval c.sg c.np.parent c.pih (canonNat c.np.amount) Sexp.nil (canonNat c.nc.amount) c.isol Sexp.nil a.modTree
  simp only [Call.solution] at horig
  rw [horig] at e1
  simp only [Call.result]
  rw [e2]
  cases hi : run c.sg.inner c.isol with
  | none => rw [hi] at e1; cases e1
  | some conds =>
    rw [hi] at e1; simp only at e1 ⊢
    have hodd : beVal (canonNat c.nc.amount) % 2 = 1 := by
      rw [(C11.canonNat_spec _ hnc).1]; exact a.oddNew
    rw [if_pos hodd]
    split at e1
    · cases hm : spec.morph (structOf c.sg.modHash c.sg.launcherId c.sg.launcherPh) conds with
      | none => rw [hm] at e1; cases e1
      | some m =>
        rw [hm] at e1; simp only [Option.map_some, Option.some.injEq] at e1 ⊢
        refine ⟨m, ?_, ?_⟩
        · rw [e1, a.curried]
        · rw [a.curried, a.newParent, CoinM.coinId, coinIdOf, a.phParent]
    · cases e1

/-- **The fingerprint is SHA-256 of the stream** (by definition of the model; the stream is what the
correspondence compares through the hash on every case) -/
theorem fp_stream (conds : Sexp) : fingerprint conds = (fpStream conds).map sha256 := rfl

/-- **Equal streams ⇒ equal parsed conditions.**  For two condition lists in which every condition with a
recognised opcode parses (under any one flag word — in particular mempool mode) and whose atoms are
shorter than 2^32 bytes, equal fingerprint streams imply equal lists of parsed conditions (`Cond` values
of the `parse_spends` model, in order; ignored conditions — REMARK, negative/oversized tautological locks —
appear as `skip`).  Length-prefixed atoms, the opcode first and an opcode-determined number of atoms make
the stream uniquely decodable; absent / empty / oversized / non-atom hints all give the marker
`00000000` and all parse to "no hint". -/
theorem fp_injective (flags : Nat) (c₁ c₂ : Sexp) (s : Bytes)
    (h₁ : fpStream c₁ = some s) (h₂ : fpStream c₂ = some s)
    (p₁ : ParsesAll flags c₁) (p₂ : ParsesAll flags c₂) (a₁ : AtomsShort c₁) (a₂ : AtomsShort c₂) :
    TL.parsedConds flags c₁ = TL.parsedConds flags c₂ := by
  obtain ⟨ls₁, e₁, w₁, q₁⟩ := fpStream_items flags c₁ s h₁
  obtain ⟨ls₂, e₂, w₂, q₂⟩ := fpStream_items flags c₂ s h₂
  have hl : ls₁ = ls₂ := encItems_inj ls₁ ls₂ (w₁ a₁) (w₂ a₂) (by rw [← e₁, ← e₂])
  subst hl
  exact (q₁ p₁).trans (q₂ p₂).symm

/-- **Two spends that pass validation with equal fingerprints have identical parsed conditions**: for
condition lists the `parse_conditions` model accepts (any spend state, any limit, either visitor — in
particular two spends of the same coin in mempool mode), equal fingerprints imply equal parsed
conditions or an explicit SHA-256 collision. -/
theorem fp_injective_accepted (env : Env) (c₁ c₂ : Sexp) (s₁ s₂ : CSt) (m₁ m₂ : Nat) (r₁ r₂ : CSt × Nat) (f : Bytes)
    (v₁ : condLoop env c₁ s₁ m₁ = .ok r₁) (v₂ : condLoop env c₂ s₂ m₂ = .ok r₂)
    (f₁ : fingerprint c₁ = some f) (f₂ : fingerprint c₂ = some f) (a₁ : AtomsShort c₁) (a₂ : AtomsShort c₂) :
    TL.parsedConds env.flags c₁ = TL.parsedConds env.flags c₂ ∨ Collision := by
  unfold fingerprint at f₁ f₂
  cases h₁ : fpStream c₁ with
  | none => rw [h₁] at f₁; cases f₁
  | some x₁ =>
    cases h₂ : fpStream c₂ with
    | none => rw [h₂] at f₂; cases f₂
    | some x₂ =>
      rw [h₁] at f₁; rw [h₂] at f₂
      simp only [Option.map_some, Option.some.injEq] at f₁ f₂
      rcases sha_inj (f₁.trans f₂.symm) with e | cl
      · subst e
        exact Or.inl (fp_injective env.flags c₁ c₂ x₁ h₁ h₂ (condLoop_parsesAll env c₁ s₁ m₁ r₁ v₁)
          (condLoop_parsesAll env c₂ s₂ m₂ r₂ v₂) a₁ a₂)
      · exact Or.inr cl

/-! ### ELIGIBLE_FOR_DEDUP: the closed form of Appendix A.3 (`Rules.dedup_flag_closed_form`) in the vocabulary of the mempool model -/

theorem and_dedup_iff (f : Nat) : f &&& ELIGIBLE_FOR_DEDUP ≠ 0 ↔ f % 2 = 1 := by
  rw [and_one]; omega

theorem blocksDedup_false_iff (c : Cond) : blocksDedup c = false ↔
    (∀ op pk msg, c ≠ .aggSig op pk msg) ∧ (∀ a b d, c ≠ .sendMessage a b d) ∧ (∀ a b d, c ≠ .receiveMessage a b d) := by
  rw [← Rules.visitBits_fst_iff 0]; cases c <;> rfl

theorem additions_eq (cs : List Cond) : Rules.additions cs = (cs.map createdAmount).sum := by
  have hc (c : Cond) : createdAmount c = ((Rules.newCoinOf c).map (·.amount)).getD 0 := by cases c <;> rfl
  unfold Rules.additions Rules.newCoins
  induction cs with
  | nil => rfl
  | cons c cs ih =>
    rw [List.map_cons, List.sum_cons, ← ih, hc, List.filterMap_cons]
    cases Rules.newCoinOf c
    · exact (Nat.zero_add _).symm
    · rfl

theorem spendRec_dedup {env : Env} (hm : env.mempool = true) (cc : Nat) (p : Rules.PSpend) :
    ((Rules.spendRec env cc p).flags &&& ELIGIBLE_FOR_DEDUP ≠ 0 ↔
      (∀ c ∈ itemConds p.items, blocksDedup c = false) ∧ p.attrs.amount ≤ ((itemConds p.items).map createdAmount).sum) := by
  rw [Rules.dedup_flag_closed_form env cc ({}, {}) p _ hm (by rw [Rules.enterSpend_eq]; simp), additions_eq]
  simp only [blocksDedup_false_iff]

/-- **ELIGIBLE_FOR_DEDUP in closed form, one spend**: after `process_single_spend` under the mempool
visitor the pushed spend record carries the flag exactly when none of its parsed conditions is an
AGG_SIG_* or SEND/RECEIVE_MESSAGE and the sum of its created amounts is at least the coin's amount. -/
theorem dedup_flag_iff {env : Env} (hm : env.mempool = true) {ret : Bundle} {st : PState}
    {parent ph amount conds : Sexp} {cc m : Nat} {ret' : Bundle} {st' : PState} {m' : Nat}
    (h : processSingleSpend env ret st parent ph amount conds cc m = .ok ((ret', st'), m')) :
    ∃ sp, ret'.spends = ret.spends ++ [sp] ∧
      (sp.flags &&& ELIGIBLE_FOR_DEDUP ≠ 0 ↔
        ((∀ c ∈ TL.parsedConds env.flags conds, blocksDedup c = false) ∧
          sp.coinAmount ≤ ((TL.parsedConds env.flags conds).map createdAmount).sum)) := by
  obtain ⟨p, hp, -, -, -, -, he⟩ := Rules.processSingleSpend_enter h
  obtain ⟨-, -, -, -, -, -, -, -, hc, -⟩ := Rules.tuple_tree hp
  have hr : ret' = (Rules.enterSpend env cc (ret, st) p).1 := congrArg Prod.fst he
  refine ⟨Rules.spendRec env cc p, hr ▸ Rules.enterSpend_spends .., ?_⟩
  rw [hc, spendRec_dedup hm, Rules.spendRec_eq]

/-- **A spend is flagged dedup-eligible only if it emits no signature or message conditions and creates
at least as much value as it consumes** (the direction the property states) -/
theorem dedup_flag {env : Env} (hm : env.mempool = true) {ret : Bundle} {st : PState}
    {parent ph amount conds : Sexp} {cc m : Nat} {ret' : Bundle} {st' : PState} {m' : Nat}
    (h : processSingleSpend env ret st parent ph amount conds cc m = .ok ((ret', st'), m')) :
    ∃ sp, ret'.spends = ret.spends ++ [sp] ∧
      (sp.flags &&& ELIGIBLE_FOR_DEDUP ≠ 0 →
        (∀ c ∈ TL.parsedConds env.flags conds,
          (∀ op pk msg, c ≠ .aggSig op pk msg) ∧ (∀ a b d, c ≠ .sendMessage a b d) ∧ (∀ a b d, c ≠ .receiveMessage a b d)) ∧
        sp.coinAmount ≤ (sp.createCoin.map (·.amount)).sum ∧
        (sp.createCoin.map (·.amount)).sum = ((TL.parsedConds env.flags conds).map createdAmount).sum) := by
  obtain ⟨p, hp, -, -, -, -, he⟩ := Rules.processSingleSpend_enter h
  obtain ⟨-, -, -, -, -, -, -, -, hc, -⟩ := Rules.tuple_tree hp
  have hr : ret' = (Rules.enterSpend env cc (ret, st) p).1 := congrArg Prod.fst he
  refine ⟨Rules.spendRec env cc p, hr ▸ Rules.enterSpend_spends .., fun hf => ?_⟩
  obtain ⟨b1, b2⟩ := (spendRec_dedup hm cc p).mp hf
  -- the created coins of the record are those of the parsed conditions
  have hsum : ((Rules.spendRec env cc p).createCoin.map (·.amount)).sum = ((itemConds p.items).map createdAmount).sum := by
    rw [Rules.spendRec_eq]; exact additions_eq _
  rw [hc, hsum]
  exact ⟨fun c hcm => (blocksDedup_false_iff c).mp (b1 c hcm), by rw [Rules.spendRec_eq]; exact b2, rfl⟩

/-- `post_process` clears ELIGIBLE_FOR_FF only -/
theorem ppSpend_dedup (env : Env) (st : PState) (s : Spend) : (Rules.ppSpend env st s).flags % 2 = s.flags % 2 := by
  unfold Rules.ppSpend clr
  simp only [Bool.false_eq_true, if_false]
  split
  · exact clearFlag_ff _
  · rfl

theorem elems_eq : ∀ t : Sexp, elems t = listElems t
  | .pair _ r => congrArg (_ :: ·) (elems_eq r)
  | .atom _ => rfl

theorem dedupOfSpendTree_eq {flags : Nat} {sp : Sexp} {p : Rules.PSpend} (h : Rules.parseSpend flags sp = some p) :
    dedupOfSpendTree flags sp = dedupClosedForm (itemConds p.items) p.attrs.amount := by
  obtain ⟨amt, conds, hps, hs, -, -, -, hc, -⟩ := Rules.parseSpend_tree h
  simp only [dedupOfSpendTree, hps, hs, hc]

/-- **The whole bundle**: for every generator output the `parse_spends` model accepts under the mempool
visitor, the ELIGIBLE_FOR_DEDUP bits of the resulting spends are, in order, the closed form evaluated on
the spend tuples of the tree (this is what the model driver prints for case kind `dd`). -/
theorem dedup_flag_bundle (env : Env) (hm : env.mempool = true) (sigOk : List (Bytes × Bytes) → Bool)
    (t : Sexp) (maxCost clvmCost : Nat) (b : Bundle) (st : PState)
    (h : parseSpends env sigOk t maxCost clvmCost = .ok (b, st)) :
    b.spends.map (fun s => decide (s.flags &&& ELIGIBLE_FOR_DEDUP ≠ 0)) = dedupOfOutput env.flags t := by
  obtain ⟨iter, ret, costLeft, ret2, hi, hl, hfb, rfl⟩ := parseSpends_ok_iff.mp h
  obtain ⟨-, -, rfl⟩ := finishBundle_ok_iff.mp hfb
  cases t with
  | atom x => cases hi
  | pair it ext =>
    cases hi
    -- every pushed record carries the bit of its tuple's closed form; `post_process` keeps the bit
    have := Rules.spendLoop_enter env clvmCost (fun acc _ ts =>
        acc.1.spends.map (fun s => decide (s.flags % 2 = 1)) = ts.map (dedupOfSpendTree env.flags)) iter
      (fun acc _ done tree p _ hq hp _ _ _ => by
        have hbit : decide ((Rules.spendRec env clvmCost p).flags % 2 = 1) = dedupOfSpendTree env.flags tree := by
          rw [dedupOfSpendTree_eq hp, Bool.eq_iff_iff, decide_eq_true_eq, ← and_dedup_iff, spendRec_dedup hm]
          simp [dedupClosedForm]
        rw [Rules.enterSpend_spends, List.map_append, hq, List.map_append]
        exact congrArg (_ ++ [·]) hbit)
      {} {} _ _ ret st costLeft [] hl rfl
    show (postProcess env ret st).spends.map _ = _
    simp only [Rules.postProcess_eq, List.map_map, and_dedup_iff, dedupOfOutput, elems_eq]
    rw [List.nil_append] at this
    rw [← this]
    exact List.map_congr_left fun s _ => by simp only [Function.comp, ppSpend_dedup]

section examples
def ph0 : Bytes := zeros 32
def ccA : Sexp := Sexp.ofList [Sexp.ofList [.atom [51], .atom ph0, .atom [1]]]
def ccB : Sexp := Sexp.ofList [Sexp.ofList [.atom [51], .atom ph0, .atom [1], .pair Sexp.nil Sexp.nil]]
def annAB : Sexp := Sexp.ofList [Sexp.ofList [.atom [62], .atom [97, 98]], Sexp.ofList [.atom [62], .atom [99]]]
def annBC : Sexp := Sexp.ofList [Sexp.ofList [.atom [62], .atom [97]], Sexp.ofList [.atom [62], .atom [98, 99]]]

/-- `fp_injective` is not vacuous: two *different* condition lists (hint absent / hint `(())`) have the
same fingerprint stream, and the same parsed conditions -/
example : ccA ≠ ccB ∧ fpStream ccA = fpStream ccB ∧ (fpStream ccA).isSome = true ∧
    TL.parsedConds 0 ccA = TL.parsedConds 0 ccB := by decide

/-- the length prefixes separate `"ab","c"` from `"a","bc"` -/
example : fpStream annAB ≠ fpStream annBC := by decide

/-- `dedup_flag`'s hypothesis is satisfiable: a spend of amount 3 that re-creates 3 is accepted under the
mempool visitor and keeps ELIGIBLE_FOR_DEDUP (1) and ELIGIBLE_FOR_FF (4) -/
example : (match processSingleSpend { flags := 0, mempool := true, pkOk := fun _ => true } {} {} (.atom ph0) (.atom ph0) (.atom [3])
      (Sexp.ofList [Sexp.ofList [.atom [51], .atom ph0, .atom [3]]]) 0 11000000000 with
    | .ok ((b, _), _) => b.spends.map (fun s => (s.flags, s.coinAmount)) | .error _ => []) = [(1 + 4, 3)] := by
  decide +kernel

/-- `ff_shape` / `ff_guards` / `ff_corruption` are not vacuous: `witness_accepted` constructs an accepted
call from any tree hashing to the singleton mod hash; that such a tree exists (the 967 bytes of
`SINGLETON_TOP_LAYER_V1_1`) is confirmed by the correspondence on every run (case kind `mh`), not by
kernel evaluation. -/
example (mod : Sexp) (hm : Sexp.treeHash mod = singletonModHash) :
    ∃ c : Call, ∃ s, c.run = .ok s ∧ c.WF :=
  ⟨witness mod Sexp.nil, _, witness_accepted mod hm _,
    ⟨by show isBytes [1]; decide, by simp [witness, zeros], by show (1 : Nat) < 2^64; decide⟩⟩
end examples

end ChiaModel.C19
