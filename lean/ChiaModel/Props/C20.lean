import ChiaModel.Lemmas.JsonDictBytes
import ChiaModel.Gen.Streamable
import ChiaModel.Gen.JsonDict
/-!
# C20 — Python JSON representation round-trips every exported value

Theorems about the executable model `ChiaModel.JsonDict` (`toJson`, `fromJson`: the definitions the driver runs), for
every type descriptor, all values, all JSON inputs.  `O : Oracles` is the external code (blst point checks, clvmr's
serialised-length scan); only `decoded_bytesOK` and `from_bytes_roundtrip` assume something about it (`OracleContract O`).  pyo3's `extract` is modelled by `pyIndex` + range checks
(assumption `PyExtract`, see `Model/JsonDict.lean`).
-/
namespace ChiaModel.C20
open ChiaModel ChiaModel.Streamable ChiaModel.JsonDict

def Rejected (x : Except String V) : Prop := ∃ e, x = .error e

/-- **Round trip.** For every descriptor satisfying `WFjson` (no `Option` around a type whose JSON can be `null`,
tuples of 2 or 3, distinct dict keys, `u8` discriminants) and every well-formed value whose byte strings consist of
bytes: converting to the JSON dict and back yields exactly that value. -/
theorem roundtrip (O : Oracles) (t : Ty) (h : WFjson t = true) (v : V) (hv : WF O false t v = true)
    (hb : bytesOK v = true) : ∃ j, toJson t v = some j ∧ fromJson O t j = .ok v :=
  rt_json O t h v hv hb

/-- … hence with **identical byte encoding and hash**: whatever `fromJson` returns for the JSON of `v` has the
encoding of `v` and feeds the hasher the same chunks (`C13.hash_is_sha_of_encoding` says these are the prescribed
pre-image, `C13.roundtrip` that the encoding decodes to `v` again). -/
theorem roundtrip_same_bytes_and_hash (O : Oracles) (t : Ty) (h : WFjson t = true) (v : V)
    (hv : WF O false t v = true) (hb : bytesOK v = true) :
    ∃ j v', toJson t v = some j ∧ fromJson O t j = .ok v' ∧ v' = v ∧ encode O t v' = encode O t v ∧
      encodeForHash O t v' = encodeForHash O t v ∧ digestChunks O t v' = digestChunks O t v := by
  obtain ⟨j, hj, hg⟩ := roundtrip O t h v hv hb
  exact ⟨j, v, hj, hg, rfl, rfl, rfl, rfl⟩

/-- every value the decoder returns for a real byte string consists of bytes, so the hypothesis `bytesOK` of
`roundtrip` holds for everything that can arrive over the wire -/
theorem decoded_bytesOK (O : Oracles) (hO : OracleContract O) (t : Ty) (b : Bytes) (hb : isBytes b) (v : V) (r : Bytes)
    (h : (decode O false t b).out = .ok (v, r)) : bytesOK v = true := by
  obtain ⟨p, he, hp, hw⟩ := C13.canonical O hO t b hb v r h
  exact bok_encode O false t v p hw he (isBytes_append.mp (hp ▸ hb)).1

/-- **The property as the correspondence exercises it**: whatever `from_bytes` accepts converts to a JSON dict from
which `from_json_dict` returns the same value, whose encoding is the original byte string (and whose hash is therefore
the same, `C13.hash_is_sha_of_encoding`). -/
theorem from_bytes_roundtrip (O : Oracles) (hO : OracleContract O) (t : Ty) (ht : WFjson t = true) (b : Bytes)
    (hb : isBytes b) (v : V) (h : (fromBytes O false t b).out = .ok v) :
    ∃ j, toJson t v = some j ∧ fromJson O t j = .ok v ∧ encode O t v = some b := by
  obtain ⟨he, hw⟩ := C13.from_bytes_to_bytes O hO t b hb v h
  obtain ⟨j, hj, hg⟩ := roundtrip O t ht v hw (bok_encode O false t v b hw he hb)
  exact ⟨j, hj, hg, he⟩

/-- **Every exported class satisfies the side condition**, so the round trip is unconditional for the classes that
exist: no `Option<Option<_>>`, no `Option` of a transparent struct around an `Option`, no colliding keys
(also after `py_uppercase`), only 2- and 3-tuples.  Re-checked against the source on every run (`Gen/JsonDict.lean`). -/
theorem no_nested_option : ∀ d ∈ Gen.JsonDict.exported, WFjson d.2 = true := by
  decide +kernel

def sameEntry (e w : String × Ty) : Bool := w.1 == e.1 && sameWire e.2 w.2

def behindHit (e : String × Ty) : List (String × Ty) → Option (List (String × Ty))
  | [] => none
  | w :: ws => if sameEntry e w then some ws else behindHit e ws

/-- every entry of `es` has a match in `ws`.  Each search resumes behind the previous hit (`cur`) and starts over
from the front of `ws` only when that fails: a name comparison is slow in the kernel, and the two tables stand in
nearly the same order. -/
def covered (ws : List (String × Ty)) : List (String × Ty) → List (String × Ty) → Bool
  | [], _ => true
  | e :: es, cur =>
    match (behindHit e cur).or (behindHit e ws) with
    | some r => covered ws es r
    | none => false

theorem behindHit_some {e : String × Ty} : ∀ {ws r}, behindHit e ws = some r → ws.any (sameEntry e) = true ∧ r ⊆ ws
  | w :: ws, r, h => by
    simp only [behindHit] at h
    split at h
    · rename_i hw
      cases h
      exact ⟨by simp only [List.any_cons, hw, Bool.true_or], List.subset_cons_self w ws⟩
    · obtain ⟨ha, hs⟩ := behindHit_some h
      exact ⟨by simp only [List.any_cons, ha, Bool.or_true], List.subset_cons_of_subset w hs⟩

theorem covered_sound (ws : List (String × Ty)) : ∀ es cur, cur ⊆ ws → covered ws es cur = true →
    ∀ e ∈ es, ws.any (sameEntry e) = true
  | [], _, _, _, _, he => nomatch he
  | e :: es, cur, hc, h, e', he' => by
    simp only [covered] at h
    split at h
    · rename_i r hr
      have hit : ws.any (sameEntry e) = true ∧ r ⊆ ws := by
        rcases Option.or_eq_some_iff.mp hr with h1 | ⟨_, h2⟩
        · obtain ⟨ha, hs⟩ := behindHit_some h1
          obtain ⟨w, hw, hp⟩ := List.any_eq_true.mp ha
          exact ⟨List.any_eq_true.mpr ⟨w, hc hw, hp⟩, hs.trans hc⟩
        · exact behindHit_some h2
      rcases List.mem_cons.mp he' with rfl | he'
      · exact hit.1
      · exact covered_sound ws es r hit.2 h e' he'
    · cases h

/-- **The JSON views are the wire descriptors**: every exported name is a streamable type of `Gen/Streamable.lean`
(the descriptors C13 / C14 are instantiated for) with the same wire shape — the two renderings of the translator agree,
so the bytes / hash statements of C13 speak about the same types. -/
theorem json_views_same_wire : ∀ e ∈ Gen.JsonDict.exported,
    (Gen.Streamable.streamableTypes.any fun w => w.1 == e.1 && sameWire e.2 w.2) = true :=
  covered_sound _ _ _ (List.Subset.refl _) (by decide +kernel)

theorem exported_roundtrip (O : Oracles) : ∀ d ∈ Gen.JsonDict.exported, ∀ v, WF O false d.2 v = true → bytesOK v = true →
    ∃ j, toJson d.2 v = some j ∧ fromJson O d.2 j = .ok v :=
  fun d hd v hv hb => roundtrip O d.2 (no_nested_option d hd) v hv hb

/-- **The side condition is needed:** for `Option<Option<u8>>` the value `Some(None)` comes back as `None`
(both are `null`) — the hypothesis `WFjson` excludes exactly this. -/
theorem roundtrip_needs_WFjson (O : Oracles) :
    WF O false (.option (.option (.uint 1))) (.some .none) = true ∧
    toJson (.option (.option (.uint 1))) (.some .none) = some .null ∧
    fromJson O (.option (.option (.uint 1))) .null = .ok .none := by
  refine ⟨rfl, rfl, rfl⟩

/-! ## malformed input is rejected

Each conversion of a leaf is inverted once (`hex_accept`, `uint_accept`, `sint_accept`, `enum_accept`: what an accepted
input looks like); the rejections are the contrapositives. -/

theorem rejected_of_not_ok {x : Except String V} (h : ∀ v, x ≠ .ok v) : Rejected x := by
  cases x with
  | error e => exact ⟨e, rfl⟩
  | ok v => exact absurd rfl (h v)

def fixedLen : Ty → Option Nat
  | .bytesN n => some n
  | .g1 => some 48
  | .g2 => some 96
  | .gt => some 576
  | .secretKey => some 32
  | _ => none

def isHexTy : Ty → Bool
  | .bytes | .bytesN _ | .program | .g1 | .g2 | .gt | .secretKey => true
  | _ => false

theorem isHexTy_of_fixedLen {t : Ty} {n : Nat} (h : fixedLen t = some n) : isHexTy t = true := by
  cases t <;> first | rfl | cases h

def digitsOf (s : Bytes) : Bytes := (strip0x s).getD s

theorem hexOfBytesJ_ok {s c : Bytes} (h : hexOfBytesJ (.str s) = .ok c) :
    unhexB (digitsOf s) = some c ∧ (s ≠ [] → strip0x s ≠ none) := by
  simp only [hexOfBytesJ] at h
  unfold digitsOf
  split at h
  · rename_i he
    cases h
    cases List.isEmpty_iff.mp he
    exact ⟨rfl, fun hn => absurd rfl hn⟩
  · split at h
    · cases h
    · rename_i d hd
      split at h
      · rename_i c' hu
        cases h
        rw [hd]
        exact ⟨hu, fun _ => Option.some_ne_none d⟩
      · cases h

theorem fromBytesN_ok {n : Nat} {s : Bytes} {v : V} (h : fromBytesN n (.str s) = .ok v) :
    ∃ c, v = .bytes c ∧ unhexB (digitsOf s) = some c ∧ c.length = n ∧ strip0x s ≠ none := by
  simp only [fromBytesN] at h
  unfold digitsOf
  split at h
  · cases h
  · rename_i d hd
    split at h
    · rename_i c hu
      split at h
      · rename_i hl
        cases h
        rw [hd]
        exact ⟨c, rfl, hu, hl, Option.some_ne_none d⟩
      · cases h
    · cases h

theorem parseHexString_str (n : Nat) (s : Bytes) :
    parseHexString n (.str s) =
      match unhexB (digitsOf s) with
      | some c => if c.length = n then .ok c else .error "invalid length"
      | none => .error "invalid hex" := by
  simp only [parseHexString, digitsOf]
  cases strip0x s <;> rfl

theorem parseHexString_ok {n : Nat} {s c : Bytes} (h : parseHexString n (.str s) = .ok c) :
    unhexB (digitsOf s) = some c ∧ c.length = n := by
  rw [parseHexString_str] at h
  split at h
  · rename_i c' hu
    split at h
    · rename_i hl
      cases h
      exact ⟨hu, hl⟩
    · cases h
  · cases h

theorem fromBls_ok {n : Nat} {valid : Bytes → Bool} {s : Bytes} {v : V} (h : fromBls n valid (.str s) = .ok v) :
    ∃ c, v = .bytes c ∧ unhexB (digitsOf s) = some c ∧ c.length = n := by
  unfold fromBls at h
  split at h
  · rename_i c hp
    split at h
    · cases h
      exact ⟨c, rfl, parseHexString_ok hp⟩
    · cases h
  · cases h

/-- **What an accepted hex string is**, for every type whose JSON is one: the value is the bytes its digits decode to
(so all of them are hex digits, two per byte), as many as the type has where it has a length, and the `0x` prefix is
there where the type demands it. -/
theorem hex_accept (O : Oracles) (t : Ty) (ht : isHexTy t = true) (s : Bytes) (v : V)
    (h : fromJson O t (.str s) = .ok v) :
    ∃ c, v = .bytes c ∧ unhexB (digitsOf s) = some c ∧ (∀ n, fixedLen t = some n → c.length = n) ∧
      ((t = .bytes ∨ (∃ n, t = .bytesN n) ∨ t = .program) → s ≠ [] → strip0x s ≠ none) := by
  cases t <;> simp only [isHexTy, Bool.false_eq_true] at ht <;> simp only [fromJson] at h
  case bytes =>
    simp only [fromBytesJ] at h
    split at h
    · rename_i c hc
      cases h
      exact ⟨c, rfl, (hexOfBytesJ_ok hc).1, nofun, fun _ => (hexOfBytesJ_ok hc).2⟩
    · cases h
  case program =>
    simp only [fromProgram] at h
    split at h
    · rename_i c hc
      split at h
      · cases h
        exact ⟨c, rfl, (hexOfBytesJ_ok hc).1, nofun, fun _ => (hexOfBytesJ_ok hc).2⟩
      · cases h
    · cases h
  case bytesN m =>
    obtain ⟨c, rfl, hu, hl, hp⟩ := fromBytesN_ok h
    exact ⟨c, rfl, hu, fun n hn => by cases hn; exact hl, fun _ _ => hp⟩
  all_goals
    obtain ⟨c, rfl, hu, hl⟩ := fromBls_ok h
    exact ⟨c, rfl, hu, fun n hn => by cases hn; exact hl, by simp⟩

/-- an accepted fixed-length hex string decodes to exactly the value's bytes, which have exactly the type's length
(**no truncation, no padding**) -/
theorem hex_fixed_accept (O : Oracles) (t : Ty) (n : Nat) (ht : fixedLen t = some n) (s : Bytes) (v : V)
    (h : fromJson O t (.str s) = .ok v) : ∃ c, v = .bytes c ∧ c.length = n ∧ unhexB (digitsOf s) = some c := by
  obtain ⟨c, hv, hu, hl, _⟩ := hex_accept O t (isHexTy_of_fixedLen ht) s v h
  exact ⟨c, hv, hl n ht, hu⟩

/-- **Wrong byte length** (`BytesImpl<N>`, BLS elements): a hex string holding another number of bytes than the type
has is rejected — never truncated or padded. -/
theorem rejects_wrong_length (O : Oracles) (t : Ty) (n : Nat) (ht : fixedLen t = some n) (s c : Bytes)
    (hs : unhexB (digitsOf s) = some c) (hc : c.length ≠ n) : Rejected (fromJson O t (.str s)) :=
  rejected_of_not_ok fun v h => by
    obtain ⟨c', _, hl, hu⟩ := hex_fixed_accept O t n ht s v h
    cases hs.symm.trans hu
    exact hc hl

/-- **Invalid hex digit**: a byte that is not a hex digit anywhere in the digits ⇒ rejected (all hex-string types). -/
theorem rejects_bad_digit (O : Oracles) (t : Ty) (ht : isHexTy t = true) (s : Bytes) (x : Nat)
    (hx : x ∈ digitsOf s) (hbad : hexValB x = none) : Rejected (fromJson O t (.str s)) :=
  rejected_of_not_ok fun v h => by
    obtain ⟨c, _, hu, _⟩ := hex_accept O t ht s v h
    exact unhexB_digits _ c hu x hx hbad

/-- **Odd digit count** ⇒ rejected (all hex-string types). -/
theorem rejects_odd_digits (O : Oracles) (t : Ty) (ht : isHexTy t = true) (s : Bytes)
    (hodd : (digitsOf s).length % 2 = 1) : Rejected (fromJson O t (.str s)) :=
  rejected_of_not_ok fun v h => by
    obtain ⟨c, _, hu, _⟩ := hex_accept O t ht s v h
    have := unhexB_length _ c hu
    omega

/-- **Missing `0x` prefix** ⇒ rejected for `Bytes`, `BytesImpl<N>` and `Program` (a non-empty string; the empty string
is the empty `Bytes`).  The BLS elements accept both forms, see `bls_prefix_optional`. -/
theorem rejects_missing_prefix (O : Oracles) (t : Ty) (ht : t = .bytes ∨ (∃ n, t = .bytesN n) ∨ t = .program)
    (s : Bytes) (hne : s ≠ []) (hp : strip0x s = none) : Rejected (fromJson O t (.str s)) :=
  rejected_of_not_ok fun v h => by
    have hhex : isHexTy t = true := by
      rcases ht with rfl | ⟨_, rfl⟩ | rfl <;> rfl
    obtain ⟨_, _, _, _, hpre⟩ := hex_accept O t hhex s v h
    exact hpre ht hne hp

/-- (documented leniency of `chia_bls::parse_hex_string`) for the BLS elements the prefix is optional: with and
without it the same bytes are parsed — and then checked for length and validity all the same -/
theorem bls_prefix_optional (n : Nat) (d : Bytes) (hd : strip0x d = none) :
    parseHexString n (.str (pfx0x ++ d)) = parseHexString n (.str d) := by
  simp only [parseHexString_str, digitsOf, strip0x_pfx, hd, Option.getD_some, Option.getD_none]

/-- what an accepted integer is: the value of the Python integer itself, inside the range (**no wrap, no default**) -/
theorem uint_accept (O : Oracles) (n : Nat) (j : J) (v : V) (h : fromJson O (.uint n) j = .ok v) :
    ∃ i : Int, pyIndex j = some i ∧ 0 ≤ i ∧ i < ((256 ^ n : Nat) : Int) ∧ v = .n i.toNat := by
  simp only [fromJson, fromUint] at h
  split at h
  · rename_i i hi
    split at h
    · rename_i hr
      cases h
      exact ⟨i, hi, hr.1, hr.2, rfl⟩
    · cases h
  · cases h

theorem sint_accept (O : Oracles) (n : Nat) (j : J) (v : V) (h : fromJson O (.sint n) j = .ok v) :
    ∃ i : Int, pyIndex j = some i ∧ sintOk n i = true ∧ v = .i i := by
  simp only [fromJson, fromSint] at h
  split at h
  · rename_i i hi
    split at h
    · rename_i hr
      cases h
      exact ⟨i, hi, hr, rfl⟩
    · cases h
  · cases h

theorem enum_accept (O : Oracles) (name : String) (vals : List Nat) (j : J) (v : V)
    (h : fromJson O (.enum8 name vals) j = .ok v) :
    ∃ i : Int, pyIndex j = some i ∧ 0 ≤ i ∧ i.toNat ∈ vals ∧ v = .n i.toNat := by
  simp only [fromJson, fromEnum] at h
  split at h
  · rename_i x hx
    split at h
    · rename_i hc
      cases h
      obtain ⟨i, hi, h0, _, hv⟩ := uint_accept O 1 j _ hx
      cases hv
      exact ⟨i, hi, h0, List.contains_iff_mem.mp hc, rfl⟩
    · cases h
  · cases h
  · cases h

/-- **Integer outside the range of its width** ⇒ rejected: never wrapped or truncated.  (`uN`) -/
theorem rejects_uint_out_of_range (O : Oracles) (n : Nat) (j : J) (i : Int) (hj : pyIndex j = some i)
    (hr : i < 0 ∨ ((256 ^ n : Nat) : Int) ≤ i) : Rejected (fromJson O (.uint n) j) :=
  rejected_of_not_ok fun v h => by
    obtain ⟨i', hi, h0, h1, _⟩ := uint_accept O n j v h
    cases hj.symm.trans hi
    omega

theorem rejects_sint_out_of_range (O : Oracles) (n : Nat) (j : J) (i : Int) (hj : pyIndex j = some i)
    (hr : 2 * i < -((256 ^ n : Nat) : Int) ∨ ((256 ^ n : Nat) : Int) ≤ 2 * i) : Rejected (fromJson O (.sint n) j) :=
  rejected_of_not_ok fun v h => by
    obtain ⟨i', hi, hok, _⟩ := sint_accept O n j v h
    cases hj.symm.trans hi
    simp only [sintOk, Bool.and_eq_true, decide_eq_true_eq] at hok
    omega

/-- an enum value that is not a declared discriminant (in particular anything outside `u8`) ⇒ rejected -/
theorem rejects_enum_unknown (O : Oracles) (name : String) (vals : List Nat) (j : J) (i : Int) (hj : pyIndex j = some i)
    (hr : i < 0 ∨ i.toNat ∉ vals) : Rejected (fromJson O (.enum8 name vals) j) :=
  rejected_of_not_ok fun v h => by
    obtain ⟨i', hi, h0, hm, _⟩ := enum_accept O name vals j v h
    cases hj.symm.trans hi
    rcases hr with hr | hr
    · omega
    · exact hr hm

/-- **Not an integer** (float, string, `null`, list, dict) where an integer or enum is expected ⇒ rejected -/
theorem rejects_non_int (O : Oracles) (t : Ty) (ht : (∃ n, t = .uint n) ∨ (∃ n, t = .sint n) ∨ ∃ nm vals, t = .enum8 nm vals)
    (j : J) (hj : pyIndex j = none) : Rejected (fromJson O t j) :=
  rejected_of_not_ok fun v h => by
    rcases ht with ⟨n, rfl⟩ | ⟨n, rfl⟩ | ⟨nm, vals, rfl⟩
    · obtain ⟨i, hi, _⟩ := uint_accept O n j v h
      cases hj.symm.trans hi
    · obtain ⟨i, hi, _⟩ := sint_accept O n j v h
      cases hj.symm.trans hi
    · obtain ⟨i, hi, _⟩ := enum_accept O nm vals j v h
      cases hj.symm.trans hi

/-- **Wrong element count** for a tuple ⇒ rejected (no element dropped, none defaulted) -/
theorem rejects_tuple_count (O : Oracles) (ts : List Ty) (l : List J) (h : l.length ≠ ts.length) :
    Rejected (fromJson O (.tuple ts) (.list l)) := by
  simp only [fromJson, fixedSeq, h, if_false]
  split <;> exact ⟨_, rfl⟩

/-- **Wrong element count** for an array ⇒ rejected -/
theorem rejects_array_count (O : Oracles) (n : Nat) (t : Ty) (l : List J) (h : l.length ≠ n) :
    Rejected (fromJson O (.array n t) (.list l)) := by
  simp only [fromJson, fromArray, fixedSeq, h, if_false]
  exact ⟨_, rfl⟩

/-- **Missing key** ⇒ rejected: a dict that lacks any key of a named struct — whether the field is optional or
not — is an error; no field is ever defaulted (not even an `Option` to `None`). -/
theorem rejects_missing_key (O : Oracles) (name : String) (keys : List String) (ts : List Ty)
    (hnamed : (keys.isEmpty && !ts.isEmpty) = false) (d : List (String × J)) (k : String) (hk : k ∈ keys)
    (hmiss : d.lookup k = none) : Rejected (fromJson O (.struct name keys ts) (.dict d)) :=
  rejected_of_not_ok fun v h => by
    simp only [fromJson, hnamed, Bool.false_eq_true, if_false] at h
    split at h
    · rename_i vs hvs
      obtain ⟨j, hj⟩ := fromJsonF_keys O ts keys _ vs hvs k hk
      simp only [getItem, hmiss, reduceCtorEq] at hj
    · cases h

/-- the same for `ProofOfSpace` (ten declared fields) -/
theorem rejects_missing_key_pos (O : Oracles) (d : List (String × J)) (k : String) (hk : k ∈ posKeys)
    (hmiss : d.lookup k = none) : Rejected (fromJson O .proofOfSpace (.dict d)) :=
  rejected_of_not_ok fun v h => by
    simp only [fromJson, fromPos] at h
    split at h
    · rename_i vs hvs
      obtain ⟨j, hj⟩ := fieldsFromJ_keys (posFromFields O) _ vs hvs k hk
      simp only [getItem, hmiss, reduceCtorEq] at hj
    · cases h

mutual
/-- the types for which `null` can be accepted: `Option`, transparent structs around such a type, and the structs
without fields (whose conversion looks at nothing) -/
def nullOK : Ty → Bool
  | .option _ => true
  | .struct _ keys ts => if keys.isEmpty && !ts.isEmpty then nullOKNT ts else ts.isEmpty
  | _ => false
def nullOKNT : List Ty → Bool
  | [t] => nullOK t
  | _ => false
end

mutual
/-- **`null` for a non-optional value** ⇒ rejected, for every type except `Option`s (and the field-less structs, which
accept any object, see `empty_struct_accepts_anything`). -/
theorem rejects_null (O : Oracles) : ∀ t : Ty, nullOK t = false → Rejected (fromJson O t .null)
  | .option _, h => nomatch h
  | .tuple ts, _ => by simp only [fromJson, fixedSeq]; split <;> exact ⟨_, rfl⟩
  | .struct _ keys ts, h => by
    refine rejected_of_not_ok fun v hv => ?_
    simp only [nullOK] at h
    simp only [fromJson] at hv
    split at hv
    · rename_i hk
      rw [if_pos hk] at h
      obtain ⟨e, he⟩ := rejects_nullNT O ts h
      rw [he] at hv
      cases hv
    · rename_i hk
      rw [if_neg hk] at h
      split at hv
      · -- a struct with a field asks `null` for the item under its first key
        rename_i vs hvs
        cases ts with
        | nil => cases h
        | cons t ts =>
          cases keys with
          | nil => rw [fromJsonF_nil_cons] at hvs; cases hvs
          | cons k keys =>
            obtain ⟨j, hj⟩ := fromJsonF_keys O _ _ _ vs hvs k List.mem_cons_self
            cases hj
      · cases hv
  | .uint _, _ | .sint _, _ | .bool, _ | .unit, _ | .bytes, _ | .bytesN _, _ | .str, _ | .vec _, _ | .array _ _, _
  | .enum8 _ _, _ | .program, _ | .g1, _ | .g2, _ | .gt, _ | .secretKey, _ | .optpair _ _, _ | .genTail _, _
  | .proofOfSpace, _ => ⟨_, rfl⟩
theorem rejects_nullNT (O : Oracles) : ∀ ts : List Ty, nullOKNT ts = false → ∃ e, fromJsonNT O ts .null = .error e
  | [t], h => rejects_null O t h
  | [], _ | _ :: _ :: _, _ => ⟨_, rfl⟩
end

/-- **`null` as the value of a non-optional field** ⇒ rejected (first field shown; any ordinary field that is reached
behaves the same, as the fields are converted one by one with `fromJson` of their type) -/
theorem rejects_null_field (O : Oracles) (name k : String) (keys : List String) (t : Ty) (ts : List Ty)
    (hg : isGroup t = false) (hn : nullOK t = false) (d : List (String × J)) (hd : d.lookup k = some .null) :
    Rejected (fromJson O (.struct name (k :: keys) (t :: ts)) (.dict d)) := by
  obtain ⟨e, he⟩ := rejects_null O t hn
  simp only [fromJson, List.isEmpty_cons, Bool.false_and, Bool.false_eq_true, if_false]
  rw [fromJsonF_plain O _ _ _ _ _ hg]
  simp only [getItem, hd, he]
  exact ⟨_, rfl⟩

def lowerB (x : Nat) : Nat := if 65 ≤ x ∧ x ≤ 70 then x + 32 else x

theorem hexDigitB_of_val {x d : Nat} (h : hexValB x = some d) : hexDigitB d = lowerB x ∧ d < 16 := by
  -- 102 = `f` is the largest byte that has a value: below 103 the table is swept, from there on `hexValB` is `none`
  have small : ∀ x < 103, ∀ d ∈ hexValB x, hexDigitB d = lowerB x ∧ d < 16 := by decide +kernel
  by_cases hx : x < 103
  · exact small x hx d h
  · unfold hexValB at h
    rw [if_neg (by omega), if_neg (by omega), if_neg (by omega)] at h
    cases h

theorem hexB_unhexB : ∀ (h c : Bytes), unhexB h = some c → hexB c = h.map lowerB
  | [], _, hh => by cases hh; rfl
  | [_], _, hh => by cases hh
  | a :: b :: rest, _, hh => by
    obtain ⟨x, y, r, hx, hy, hr, rfl⟩ := unhexB_cons_cons hh
    obtain ⟨hxa, hx16⟩ := hexDigitB_of_val hx
    obtain ⟨hyb, hy16⟩ := hexDigitB_of_val hy
    have hxy : (x * 16 + y) / 16 % 16 = x ∧ (x * 16 + y) % 16 = y := by omega
    simp only [hexB, hxy.1, hxy.2, hxa, hyb, List.map_cons, hexB_unhexB rest r hr]

/-- **Canonical form (partial: the leaves).** Whatever a fixed-length hex type accepts re-renders as the same digits,
lower-cased, behind `0x` — so `fromJson` followed by `toJson` changes an accepted string only by the documented
normalisations (digit case; the prefix the BLS elements allow to be missing).  The analogous statement for
composite types (up to extra keys, `bool` for `int`, iterables for lists, `"0x"` for the empty `Bytes`) is open. -/
theorem fromJson_canonical_partial (O : Oracles) (t : Ty) (n : Nat) (ht : fixedLen t = some n) (s : Bytes) (v : V)
    (h : fromJson O t (.str s) = .ok v) : toJson t v = some (.str (pfx0x ++ (digitsOf s).map lowerB)) := by
  obtain ⟨c, rfl, _, hu⟩ := hex_fixed_accept O t n ht s _ h
  have := hexB_unhexB _ c hu
  cases t <;> simp only [fixedLen, reduceCtorEq] at ht <;> simp only [toJson, toHexJ, this]

theorem fromJson_canonical_uint (O : Oracles) (n : Nat) (i : Int) (v : V) (h : fromJson O (.uint n) (.int i) = .ok v) :
    toJson (.uint n) v = some (.int i) := by
  obtain ⟨i', hi, h0, _, rfl⟩ := uint_accept O n _ v h
  simp only [pyIndex, Option.some.injEq] at hi
  subst hi
  simp only [toJson, toUint, Int.toNat_of_nonneg h0]

/-! ## documented leniencies of the real conversions (mirrored by the model, outside the property's list) -/

/-- a struct without fields never looks at its argument: any JSON value is accepted -/
theorem empty_struct_accepts_anything (O : Oracles) (name : String) (j : J) :
    fromJson O (.struct name [] []) j = .ok (.tup []) := rfl

/-- `bool` is a subclass of `int` in Python: `true` is accepted as the integer 1 (`PyExtract`) -/
theorem bool_accepted_as_int (O : Oracles) : fromJson O (.uint 1) (.bool true) = .ok (.n 1) := rfl

/-- `Vec<T>` is filled from any iterable: an empty string or an empty dict is an empty list -/
theorem vec_accepts_empty_str_and_dict (O : Oracles) (t : Ty) :
    fromJson O (.vec t) (.str []) = .ok (.list []) ∧ fromJson O (.vec t) (.dict []) = .ok (.list []) :=
  ⟨rfl, rfl⟩

/-- the hypotheses of `roundtrip` are satisfiable, and the conclusion is the expected dict -/
example : WFjson (.struct "Coin" ["parent", "amount"] [.bytesN 2, .option (.uint 8)]) = true ∧
    WF C13.trivialOracles false (.struct "Coin" ["parent", "amount"] [.bytesN 2, .option (.uint 8)])
      (.tup [.bytes [1, 255], .some (.n 7)]) = true ∧
    bytesOK (.tup [.bytes [1, 255], .some (.n 7)]) = true ∧
    (toJson (.struct "Coin" ["parent", "amount"] [.bytesN 2, .option (.uint 8)]) (.tup [.bytes [1, 255], .some (.n 7)])).map render
      = some "{\"amount\": 7, \"parent\": \"0x01ff\"}" := by
  decide +kernel

/-- the hypotheses of the rejection theorems are satisfiable -/
example : unhexB (digitsOf (pfx0x ++ [48, 49])) = some [1] ∧ fixedLen (.bytesN 2) = some 2 := by decide

end ChiaModel.C20
