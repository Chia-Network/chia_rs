import ChiaModel.Spec.BundleRules
import ChiaModel.Spec.CostTable
/-
C01 — the ARGUMENT GRAMMAR of the individual conditions, as a data table with a small generic
interpreter (DESIGN.md Appendix A.1, written from that table and from `parse_args`,
`condition_sanitizers.rs`, `sanitize_int.rs`, `messages.rs::SpendId::parse` in
/repo/crates/chia-consensus/src — NOT by unfolding the model's `parseArgs`).  Core Lean only.

`grammar op` gives, for every recognised opcode, the kinds of its required arguments in order and its
tail rule; `build op` gives the condition the decoded argument values yield; `specParseArgs` walks
the table.  `Lemmas/ArgGrammar.lean` proves `parseArgs = specParseArgs` for every tree, opcode
number and flag set, and the value-level reading of the integer classes for byte strings.

What the table says (every peculiarity of the real code is explicit here; nothing is hidden in the
interpreter):

 1. Every argument is an ATOM; a pair where an argument is expected rejects.  The argument list is
    walked with `first`/`rest`: when an argument is required the list must be a pair at that point
    (an atom — NIL or not — where a required argument should start rejects).
 2. `hash32` / `pubkey48`: exactly 32 / 48 bytes (so the empty atom, 31, 33, 47, 49 bytes reject).
    Only the LENGTH of a public key is checked here; that it is a valid non-infinity G1 point is a
    rule of the condition's effect (`SpendAccepts`), not of the grammar.  Likewise the
    AGG_SIG_UNSAFE message-suffix rule.
 3. `announceMsg`: at most 1024 bytes, inclusive; the empty atom is a message.
 4. Integers (`int w neg over`) are classified by `intClass w` exactly as `sanitize_uint` does:
      neg   — first byte ≥ 0x80.  NO canonicity test is made on negative atoms (`ff ff` is "neg"),
               and the length is irrelevant;
      bad   — non-negative with a redundant leading zero byte: the atom `00`, or `00` followed by
               a byte < 0x80.  ALWAYS rejects, in every kind (zero is the EMPTY atom only);
      over  — canonical, non-negative, more than `w` significant bytes (one leading `00` that is
               needed for the sign is not counted: `00 ff×8` is a u64, `01 00×8` is "over");
      canon — canonical, non-negative, at most `w` significant bytes: the value is `beVal`.
    For byte strings "at most w significant bytes" ⇔ value < 256^w, and a canon atom IS
    `canonNat` of its value (`Lemmas/ArgGrammar.lean`: `intClass_canon_iff`, `intClass_over_iff`).
    What neg / over DO depends on the kind (columns `neg`, `over` of the kind):
      amounts (CREATE_COIN, RESERVE_FEE, ASSERT_MY_AMOUNT, the amount field of a message
        end-point), SOFTFORK cost, ASSERT_MY_BIRTH_*:           neg ⇒ reject, over ⇒ reject;
      ASSERT_{SECONDS,HEIGHT}_{RELATIVE,ABSOLUTE} ("after"):    neg ⇒ VACUOUS, over ⇒ reject
        (a lock that far in the future can never be met);
      ASSERT_BEFORE_{SECONDS,HEIGHT}_{RELATIVE,ABSOLUTE}:       neg ⇒ reject (can never hold),
        over ⇒ VACUOUS.
    A VACUOUS argument turns the condition into `skip` (absolute kinds: no effect at all) or
    `skipRelativeCondition` (relative kinds: no lock is recorded, but the spend is STILL marked as
    carrying a relative condition, i.e. "not ephemeral"; the mempool visitor does not treat it as a
    relative lock).  Heights are u32 (4 bytes), seconds u64 (8 bytes).
 5. `messageMode`: the canonical encoding of an integer 0 … 63: the empty atom (0) or one byte
    `01 … 3f`.  `00`, `40`, negative atoms, anything longer reject.
 6. STRICT_ARGS_COUNT, stated ONCE (`terminatorOk`): the tail rule names the node at which the
    argument list must end; under the flag that node must be NIL, without it the node is not looked
    at (so extra arguments AND improper terminators are ignored).  Tail rules:
      exact     — the node right after the last required argument (ASSERT_EPHEMERAL has no
                  arguments: the argument list itself);
      ignored   — REMARK, SOFTFORK, two-byte opcodes: nothing is required even under the flag;
                  REMARK and the two-byte opcodes do not look at their arguments at all (an atom
                  as argument list is fine), SOFTFORK reads only its first argument;
      memos     — CREATE_COIN: ONE optional further argument (the memo list), of any shape; the
                  list must end right after the amount or right after the memos.  The hint
                  (`memoHint`) is the first element of the memos when the memos are a pair whose
                  first element is an atom of 1 … 32 bytes; an EMPTY first memo, one of 33+ bytes,
                  a pair as first memo, memos that are an atom (NIL or not): no hint, NOT an error;
      endpoint  — SEND_MESSAGE / RECEIVE_MESSAGE: after (mode, message) come the fields of the
                  OTHER end-point, selected by three bits of the mode (`endpointFields`): SEND
                  transmits the destination = LOW three bits and keeps `mode >> 3` as its own
                  (source) mode; RECEIVE transmits the source = HIGH three bits and keeps
                  `mode & 7`.  7 = one hash32 (the coin id), NOT three fields; otherwise parent
                  hash32 (bit 4), puzzle hash32 (bit 2), amount u64 (bit 1) in that order; 0 = no
                  field.  The key of the end-point is the selector byte followed by the fields,
                  the amount as EIGHT big-endian bytes.  The list must end right after them.
 7. SOFTFORK (90) and the two-byte opcodes 256 … 65535 (`unknownClass`) are rejected as a whole
    under NO_UNKNOWN_CONDS.  Otherwise they yield `softfork cost`: SOFTFORK's u32 argument × 10 000,
    resp. the two-byte cost table (`Spec.unknownConditionCost`).
 8. An opcode number without an entry (a one-byte value outside the whitelist, anything above
    65535) rejects; `parse_opcode` never produces one.
 9. Only the accept / reject verdict and the parsed condition are specified: which error code a
    rejected argument list reports (and hence the order of the checks) is not part of C01.
-/
namespace ChiaModel.Grammar
open ChiaModel ChiaModel.Cond

/-! ## integer classes (`sanitize_uint`) -/

inductive IntClass where
  | canon (v : Nat)
  | neg
  | over
  | bad
  deriving Repr, DecidableEq

/-- number of significant bytes: the length, not counting one leading zero byte (which a canonical
atom has only when the next byte is ≥ 0x80, i.e. when the sign needs it) -/
def sigBytes (b : Bytes) : Nat := if b.head? = some 0 then b.length - 1 else b.length

/-- the class of an integer atom for a width of `w` bytes -/
def intClass (w : Nat) (b : Bytes) : IntClass :=
  if headGe128 b = true then .neg
  else if Minimal b then (if sigBytes b ≤ w then .canon (beVal b) else .over)
  else .bad

/-! ## argument kinds -/

/-- what an integer outside the representable range does to its condition -/
inductive Policy where
  | reject
  | vacuous
  deriving Repr, DecidableEq

inductive ArgKind where
  | hash32
  | pubkey48
  | announceMsg
  | int (width : Nat) (neg over : Policy)
  | messageMode
  deriving Repr, DecidableEq

/-- coin amounts and fees: u64, out of range rejects -/
abbrev amountU64 : ArgKind := .int 8 .reject .reject
/-- the cost argument of SOFTFORK: u32, out of range rejects -/
abbrev costU32 : ArgKind := .int 4 .reject .reject
/-- ASSERT_MY_BIRTH_SECONDS / ASSERT_MY_BIRTH_HEIGHT -/
abbrev birthSecondsU64 : ArgKind := .int 8 .reject .reject
abbrev birthHeightU32 : ArgKind := .int 4 .reject .reject
/-- "not before" locks: negative ⇒ vacuous, too large ⇒ reject -/
abbrev afterSecondsU64 : ArgKind := .int 8 .vacuous .reject
abbrev afterHeightU32 : ArgKind := .int 4 .vacuous .reject
/-- "before" locks: negative ⇒ reject, too large ⇒ vacuous -/
abbrev beforeSecondsU64 : ArgKind := .int 8 .reject .vacuous
abbrev beforeHeightU32 : ArgKind := .int 4 .reject .vacuous

/-- decoded argument values -/
inductive Val where
  | bytes (b : Bytes)
  | int (v : Nat)
  | vacuous                      -- an integer out of range on the side where the condition cannot fail
  | hint (h : Option Bytes)      -- CREATE_COIN: the hint taken from the memos
  | key (k : Bytes)              -- SEND / RECEIVE_MESSAGE: the transmitted end-point, as a message-key part
  deriving Repr, DecidableEq

def outOfRange : Policy → Option Val
  | .reject => none
  | .vacuous => some .vacuous

/-- accepted atoms of a kind and the value they decode to; `none` = reject -/
def argValue (k : ArgKind) : Sexp → Option Val
  | .pair _ _ => none
  | .atom b =>
    match k with
    | .hash32 => if b.length = 32 then some (.bytes b) else none
    | .pubkey48 => if b.length = 48 then some (.bytes b) else none
    | .announceMsg => if b.length ≤ 1024 then some (.bytes b) else none
    | .int w neg over =>
      match intClass w b with
      | .canon v => some (.int v)
      | .neg => outOfRange neg
      | .over => outOfRange over
      | .bad => none
    | .messageMode =>
      match intClass 1 b with
      | .canon v => if v ≤ 63 then some (.int v) else none
      | _ => none

/-! ## tail rules -/

/-- which three bits of the message mode select the transmitted end-point -/
inductive Side where
  | low       -- `mode & 7`        (SEND_MESSAGE: the destination)
  | high      -- `(mode >> 3) & 7` (RECEIVE_MESSAGE: the source)
  deriving Repr, DecidableEq

inductive Tail where
  | exact
  | ignored
  | memos
  | endpoint (s : Side)
  deriving Repr, DecidableEq

/-! ## the table -/

/-- the one-byte opcodes: required arguments in order, tail rule -/
def oneByteTable : List (Nat × List ArgKind × Tail) :=
  [ (1,  [],                              .ignored),         -- REMARK
    (43, [.pubkey48, .announceMsg],       .exact),           -- AGG_SIG_PARENT
    (44, [.pubkey48, .announceMsg],       .exact),           -- AGG_SIG_PUZZLE
    (45, [.pubkey48, .announceMsg],       .exact),           -- AGG_SIG_AMOUNT
    (46, [.pubkey48, .announceMsg],       .exact),           -- AGG_SIG_PUZZLE_AMOUNT
    (47, [.pubkey48, .announceMsg],       .exact),           -- AGG_SIG_PARENT_AMOUNT
    (48, [.pubkey48, .announceMsg],       .exact),           -- AGG_SIG_PARENT_PUZZLE
    (49, [.pubkey48, .announceMsg],       .exact),           -- AGG_SIG_UNSAFE
    (50, [.pubkey48, .announceMsg],       .exact),           -- AGG_SIG_ME
    (51, [.hash32, amountU64],            .memos),           -- CREATE_COIN
    (52, [amountU64],                     .exact),           -- RESERVE_FEE
    (60, [.announceMsg],                  .exact),           -- CREATE_COIN_ANNOUNCEMENT
    (61, [.hash32],                       .exact),           -- ASSERT_COIN_ANNOUNCEMENT
    (62, [.announceMsg],                  .exact),           -- CREATE_PUZZLE_ANNOUNCEMENT
    (63, [.hash32],                       .exact),           -- ASSERT_PUZZLE_ANNOUNCEMENT
    (64, [.hash32],                       .exact),           -- ASSERT_CONCURRENT_SPEND
    (65, [.hash32],                       .exact),           -- ASSERT_CONCURRENT_PUZZLE
    (66, [.messageMode, .announceMsg],    .endpoint .low),   -- SEND_MESSAGE
    (67, [.messageMode, .announceMsg],    .endpoint .high),  -- RECEIVE_MESSAGE
    (70, [.hash32],                       .exact),           -- ASSERT_MY_COIN_ID
    (71, [.hash32],                       .exact),           -- ASSERT_MY_PARENT_ID
    (72, [.hash32],                       .exact),           -- ASSERT_MY_PUZZLEHASH
    (73, [amountU64],                     .exact),           -- ASSERT_MY_AMOUNT
    (74, [birthSecondsU64],               .exact),           -- ASSERT_MY_BIRTH_SECONDS
    (75, [birthHeightU32],                .exact),           -- ASSERT_MY_BIRTH_HEIGHT
    (76, [],                              .exact),           -- ASSERT_EPHEMERAL
    (80, [afterSecondsU64],               .exact),           -- ASSERT_SECONDS_RELATIVE
    (81, [afterSecondsU64],               .exact),           -- ASSERT_SECONDS_ABSOLUTE
    (82, [afterHeightU32],                .exact),           -- ASSERT_HEIGHT_RELATIVE
    (83, [afterHeightU32],                .exact),           -- ASSERT_HEIGHT_ABSOLUTE
    (84, [beforeSecondsU64],              .exact),           -- ASSERT_BEFORE_SECONDS_RELATIVE
    (85, [beforeSecondsU64],              .exact),           -- ASSERT_BEFORE_SECONDS_ABSOLUTE
    (86, [beforeHeightU32],               .exact),           -- ASSERT_BEFORE_HEIGHT_RELATIVE
    (87, [beforeHeightU32],               .exact),           -- ASSERT_BEFORE_HEIGHT_ABSOLUTE
    (90, [costU32],                       .ignored) ]        -- SOFTFORK

/-- the grammar of opcode number `op`: the one-byte table, and "no arguments, everything ignored" for
every two-byte opcode -/
def grammar (op : Nat) : Option (List ArgKind × Tail) :=
  if 256 ≤ op ∧ op ≤ 65535 then some ([], .ignored) else oneByteTable.lookup op

/-- opcodes that stand for conditions of a future soft fork: rejected under NO_UNKNOWN_CONDS -/
def unknownClass (op : Nat) : Bool := op = 90 || (256 ≤ op && op ≤ 65535)

/-- fields transmitted for an end-point selector (three bits), in order -/
def endpointFields : List (List ArgKind) :=
  [ [],                              -- 0: nothing
    [amountU64],                     -- 1: amount
    [.hash32],                       -- 2: puzzle hash
    [.hash32, amountU64],            -- 3: puzzle hash, amount
    [.hash32],                       -- 4: parent id
    [.hash32, amountU64],            -- 5: parent id, amount
    [.hash32, .hash32],              -- 6: parent id, puzzle hash
    [.hash32] ]                      -- 7: coin id

def Side.select (s : Side) (mode : Nat) : Nat :=
  match s with
  | .low => mode % 8
  | .high => mode / 8 % 8

/-- the bytes a transmitted field contributes to the message key: hashes as they are, the amount as
eight big-endian bytes -/
def fieldBytes : Val → Bytes
  | .bytes b => b
  | .int v => be 8 v
  | _ => []

def keyBytes : List Val → Bytes
  | [] => []
  | v :: vs => fieldBytes v ++ keyBytes vs

/-- the CREATE_COIN hint rule -/
def memoHint : Sexp → Option Bytes
  | .pair (.atom h) _ => if 1 ≤ h.length ∧ h.length ≤ 32 then some h else none
  | _ => none

/-! ## the interpreter -/

/-- read the required arguments `kinds` from the argument list; returns the values and what follows -/
def walk : List ArgKind → Sexp → Option (List Val × Sexp)
  | [], t => some ([], t)
  | k :: ks, .pair a r =>
    match argValue k a, walk ks r with
    | some v, some (vs, t) => some (v :: vs, t)
    | _, _ => none
  | _ :: _, .atom _ => none

/-- the tail rule applied to what follows the required arguments: further values, and the node at which
the argument list must end under STRICT_ARGS_COUNT (`none`: no requirement) -/
def tailRule (tail : Tail) (vals : List Val) (t : Sexp) : Option (List Val × Option Sexp) :=
  match tail with
  | .exact => some ([], some t)
  | .ignored => some ([], none)
  | .memos =>
    match t with
    | .pair memos r => some ([.hint (memoHint memos)], some r)
    | .atom _ => some ([.hint none], some t)
  | .endpoint s =>
    match vals with
    | .int mode :: _ =>
      match walk (endpointFields.getD (s.select mode) []) t with
      | some (fs, t') => some ([.key (s.select mode :: keyBytes fs)], some t')
      | none => none
    | _ => none

/-- **the strict-terminator rule**: under STRICT_ARGS_COUNT the argument list ends (NIL) at the node the
tail rule names; without the flag nothing is required -/
def terminatorOk (flags : Nat) : Option Sexp → Bool
  | none => true
  | some t => !hasFlag flags Gen.flagStrictArgsCount || t.isNil

/-! ## the condition each opcode yields -/

def noArgs (c : Cond) : List Val → Option Cond
  | [] => some c
  | _ => none

def oneBytes (mk : Bytes → Cond) : List Val → Option Cond
  | [.bytes b] => some (mk b)
  | _ => none

def twoBytes (mk : Bytes → Bytes → Cond) : List Val → Option Cond
  | [.bytes a, .bytes b] => some (mk a b)
  | _ => none

def oneInt (mk : Nat → Cond) : List Val → Option Cond
  | [.int v] => some (mk v)
  | _ => none

/-- a lock: the recorded condition, or `vac` when the argument is vacuous -/
def lockInt (mk : Nat → Cond) (vac : Cond) : List Val → Option Cond
  | [.int v] => some (mk v)
  | [.vacuous] => some vac
  | _ => none

/-- the parsed condition for the values `vs` of opcode `op` (required arguments, then what the tail rule
added) -/
def build (op : Nat) (vs : List Val) : Option Cond :=
  if 256 ≤ op ∧ op ≤ 65535 then noArgs (.softfork (Spec.unknownConditionCost op)) vs
  else match op with
  | 1 => noArgs .skip vs
  | 43 => twoBytes (.aggSig 43) vs
  | 44 => twoBytes (.aggSig 44) vs
  | 45 => twoBytes (.aggSig 45) vs
  | 46 => twoBytes (.aggSig 46) vs
  | 47 => twoBytes (.aggSig 47) vs
  | 48 => twoBytes (.aggSig 48) vs
  | 49 => twoBytes (.aggSig 49) vs
  | 50 => twoBytes (.aggSig 50) vs
  | 51 => (match vs with
           | [.bytes ph, .int amount, .hint h] => some (.createCoin ph amount h)
           | _ => none)
  | 52 => oneInt .reserveFee vs
  | 60 => oneBytes .createCoinAnnouncement vs
  | 61 => oneBytes .assertCoinAnnouncement vs
  | 62 => oneBytes .createPuzzleAnnouncement vs
  | 63 => oneBytes .assertPuzzleAnnouncement vs
  | 64 => oneBytes .assertConcurrentSpend vs
  | 65 => oneBytes .assertConcurrentPuzzle vs
  | 66 => (match vs with
           | [.int mode, .bytes msg, .key dst] => some (.sendMessage (Side.high.select mode) dst msg)
           | _ => none)
  | 67 => (match vs with
           | [.int mode, .bytes msg, .key src] => some (.receiveMessage src (Side.low.select mode) msg)
           | _ => none)
  | 70 => oneBytes .assertMyCoinId vs
  | 71 => oneBytes .assertMyParentId vs
  | 72 => oneBytes .assertMyPuzzlehash vs
  | 73 => oneInt .assertMyAmount vs
  | 74 => oneInt .assertMyBirthSeconds vs
  | 75 => oneInt .assertMyBirthHeight vs
  | 76 => noArgs .assertEphemeral vs
  | 80 => lockInt .assertSecondsRelative .skipRelativeCondition vs
  | 81 => lockInt .assertSecondsAbsolute .skip vs
  | 82 => lockInt .assertHeightRelative .skipRelativeCondition vs
  | 83 => lockInt .assertHeightAbsolute .skip vs
  | 84 => lockInt .assertBeforeSecondsRelative .skipRelativeCondition vs
  | 85 => lockInt .assertBeforeSecondsAbsolute .skip vs
  | 86 => lockInt .assertBeforeHeightRelative .skipRelativeCondition vs
  | 87 => lockInt .assertBeforeHeightAbsolute .skip vs
  | 90 => oneInt (fun cost => .softfork (cost * 10000)) vs
  | _ => none

/-! ## the specification of `parse_args` -/

/-- walk the required arguments, apply the tail rule and the strict-terminator rule, build the condition -/
def interp (kinds : List ArgKind) (tail : Tail) (bld : List Val → Option Cond) (c : Sexp) (flags : Nat) : R Cond :=
  match walk kinds c with
  | none => .error .reject
  | some (vals, t) =>
    match tailRule tail vals t with
    | none => .error .reject
    | some (extra, endNode) =>
      if terminatorOk flags endNode then
        match bld (vals ++ extra) with
        | some cva => .ok cva
        | none => .error .reject
      else .error .reject

/-- **Table-driven specification of `parse_args`**: the parsed condition for the argument list `c` of
opcode number `op` under `flags`, or rejection -/
def specParseArgs (c : Sexp) (op flags : Nat) : R Cond :=
  match grammar op with
  | none => .error .reject
  | some (kinds, tail) =>
    if unknownClass op && hasFlag flags Gen.flagNoUnknownConds then .error .reject
    else interp kinds tail (build op) c flags

end ChiaModel.Grammar

/-! ## the condition list, the spend and the generator output over the table-driven grammar

The same recursions as `parseItem` / `parseAll` (Spec/CondList.lean) and `parseSpend` / `parseSpendList` /
`parseBundle` (Spec/BundleRules.lean), with `specParseArgs` in the place of the model's `parseArgs`. -/

namespace ChiaModel.Rules
open ChiaModel ChiaModel.Cond ChiaModel.Grammar

/-- one element of a condition list: `(opcode . args)`; an element whose first is not an opcode is ignored
(rejected under NO_UNKNOWN_CONDS); otherwise its arguments parse per the table -/
def specParseItem (flags : Nat) (c : Sexp) : R Item :=
  match c with
  | .atom _ => .error .reject
  | .pair opn args =>
    match parseOpcode opn with
    | none => if hasFlag flags Gen.flagNoUnknownConds then .error .reject else .ok .unknown
    | some op =>
      match specParseArgs args op flags with
      | .ok cva => .ok (.known op cva)
      | .error e => .error e

def specParseAll (flags : Nat) : List Sexp → R (List Item)
  | [] => .ok []
  | c :: cs =>
    match specParseItem flags c, specParseAll flags cs with
    | .ok it, .ok its => .ok (it :: its)
    | .error e, _ => .error e
    | .ok _, .error e => .error e

def specParseSpend (flags : Nat) (sp : Sexp) : Option PSpend :=
  match spendTuple sp with
  | none => none
  | some (a, conds) =>
    match sexpList conds with
    | none => none
    | some cs =>
      match specParseAll flags cs with
      | .ok items => some ⟨a, items⟩
      | .error _ => none

def specParseSpendList (flags : Nat) : List Sexp → Option (List PSpend)
  | [] => some []
  | sp :: l =>
    match specParseSpend flags sp, specParseSpendList flags l with
    | some p, some ps => some (p :: ps)
    | _, _ => none

/-- generator output `(spends . ext)` parsed with the table-driven argument grammar -/
def specParseBundle (flags : Nat) : Sexp → Option (List PSpend)
  | .pair spends _ =>
    match sexpList spends with
    | some l => specParseSpendList flags l
    | none => none
  | .atom _ => none

end ChiaModel.Rules
