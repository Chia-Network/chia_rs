import ChiaModel.Spec.ConditionRules
import ChiaModel.Spec.CondList
/-
C01 — the rules for a whole generator output `(spends . ext)` (DESIGN.md §6 "C01", Appendix A.4),
on top of the per-spend rules of `Spec/ConditionRules.lean`.

The argument grammar of the individual conditions is the model's table `parseArgs` / `parseOpcode`,
used here through its list form `parseAll` (Spec/CondList.lean: every element of the condition list is
either ignored — not an opcode, allowed unless NO_UNKNOWN_CONDS — or parses to a condition; `Item`,
`itemConds`, and the cost table in list form `totalCost`).  Core Lean only.

What is declarative here: the shape of the spend list and of a spend tuple, the coin id, the
acceptance rules (`BundleAccepts`: all order-free — a count, a `Nodup`, two sums, a `∀ p ∈ ps`, and the
deferred cross-spend rules) and the summary as a left fold of the per-spend summaries over the spends in
listing order (`bundleFold`).  What is NOT re-specified but taken from the model inside the fold: the
mempool visitor's eligibility flags (`allBits`, `postSpend`, `newSpendVisit`, `postProcess`, which only
write the `flags` field of spend records) and the cost bookkeeping `wrapF`/`bump`; the closed forms of the
two flags (Appendix A.3, `blocksFF` below) are proved separately in Props/C01.lean
(`dedup_flag_closed_form`, `ff_flag_closed_form`, `flags_empty_visitor`).
-/
namespace ChiaModel.Rules
open ChiaModel ChiaModel.Cond

/-- a spend whose tuple and whose every condition has been parsed -/
structure PSpend where
  attrs : Attrs
  items : List Item

/-- Appendix A.4: a spend is `(parent ph amount conds . ext)`; parent id and puzzle hash are atoms of
exactly 32 bytes, the amount is a canonical u64 atom; the coin id is
SHA-256(parent ‖ puzzle hash ‖ amount atom).  Returns the attributes and the condition list. -/
def spendTuple : Sexp → Option (Attrs × Sexp)
  | .pair (.atom parent) (.pair (.atom ph) (.pair (.atom amt) (.pair conds _))) =>
    if parent.length = 32 ∧ ph.length = 32 then
      match sanitizeUint amt 8 with
      | .ok v => some (⟨parent, ph, coinId parent ph amt, v⟩, conds)
      | _ => none
    else none
  | _ => none

/-- the spend tuple is well-formed, its condition list is NIL-terminated and every element of it is
ignored or parses (per `parseAll`) -/
def parseSpend (flags : Nat) (sp : Sexp) : Option PSpend :=
  match spendTuple sp with
  | none => none
  | some (a, conds) =>
    match sexpList conds with
    | none => none
    | some cs =>
      match parseAll flags cs with
      | .ok items => some ⟨a, items⟩
      | .error _ => none

def parseSpendList (flags : Nat) : List Sexp → Option (List PSpend)
  | [] => some []
  | sp :: l =>
    match parseSpend flags sp, parseSpendList flags l with
    | some p, some ps => some (p :: ps)
    | _, _ => none

/-- generator output `(spends . ext)`: `spends` is NIL-terminated, `ext` is free -/
def parseBundle (flags : Nat) : Sexp → Option (List PSpend)
  | .pair spends _ =>
    match sexpList spends with
    | some l => parseSpendList flags l
    | none => none
  | .atom _ => none

/-- cost table: the per-spend charge plus the charges of the spend's condition list -/
def spendCost (flags : Nat) (p : PSpend) : Nat := spendCharge flags + totalCost flags p.items
def bundleCost (flags : Nat) (ps : List PSpend) : Nat := (ps.map (spendCost flags)).sum
/-- Σ RESERVE_FEE over all spends -/
def bundleFee (ps : List PSpend) : Nat := (ps.map (fun p => feeSum (itemConds p.items))).sum

/-- the state in which the conditions of a spend with attributes `a` are entered, after the spends that
produced `(ret, st)`: removal amount added, coin id / puzzle hash recorded as spent, a fresh spend record
(execution cost `cc`), the per-spend charge booked, the visitor's initial eligibility flags -/
def spendStart (env : Env) (cc : Nat) (ret : Bundle) (st : PState) (a : Attrs) : CSt :=
  newSpendVisit env (bump
    { ret := { ret with removalAmount := ret.removalAmount + a.amount }
      st := { st with spentCoins := st.spentCoins ++ [a.coinId], spentPuzzles := a.puzzleHash :: st.spentPuzzles }
      spend := { parentId := a.parentId, coinAmount := a.amount, puzzleHash := a.puzzleHash, coinId := a.coinId,
                 executionCost := cc } }
    (spendCharge env.flags))

/-- the bundle summary and parse state after one more spend: the spend's summary entered
(`spendResult`), its condition costs booked and the visitor's flags cleared (`wrapF`), the spend record
finished and pushed (`finishSpend`) -/
def enterSpend (env : Env) (cc : Nat) (acc : Bundle × PState) (p : PSpend) : Bundle × PState :=
  finishSpend env
    (wrapF (allBits env.mempool 0 p.items) (spendResult env (spendStart env cc acc.1 acc.2 p.attrs) (itemConds p.items))
      (totalCount p.items) (totalCost env.flags p.items))

/-- the summary and parse state after all spends, in listing order -/
def bundleFold (env : Env) (cc : Nat) (ps : List PSpend) : Bundle × PState :=
  ps.foldl (enterSpend env cc) ({}, {})

/-- the deferred cross-spend rules, read off the summary and the collected parse state
(the right-hand side of `C01.validateConditions_iff`) -/
def Deferred (ret : Bundle) (st : PState) : Prop :=
  ret.additionAmount ≤ ret.removalAmount ∧
  ret.reserveFee ≤ ret.removalAmount - ret.additionAmount ∧
  (∀ bh, ret.beforeHeightAbsolute = some bh → ret.heightAbsolute < bh) ∧
  (∀ bs, ret.beforeSecondsAbsolute = some bs → ret.secondsAbsolute < bs) ∧
  (∀ id ∈ st.assertConcurrentSpend, id ∈ st.spentCoins) ∧
  (∀ ph ∈ st.assertConcurrentPuzzle, ph ∈ st.spentPuzzles) ∧
  (∀ a ∈ st.assertCoin, ∃ p ∈ st.announceCoin, a = sha256 (p.1 ++ p.2)) ∧
  (∀ i ∈ st.assertEphemeral, isEphemeral st ret.spends i = true) ∧
  (∀ i ∈ st.assertNotEphemeral, isEphemeral st ret.spends i = false) ∧
  (∀ a ∈ st.assertPuzzle, ∃ p ∈ st.announcePuzzle, a = sha256 (p.1 ++ p.2)) ∧
  (∀ m ∈ st.messages, ((st.messages.filter (fun x => x.1 == m.1)).map (·.2)).sum = 0)

/-- **The bundle acceptance rules** for the parsed spends `ps` under cost limit `L`. -/
def BundleAccepts (env : Env) (sigOk : List (Bytes × Bytes) → Bool) (L cc : Nat) (ps : List PSpend) : Prop :=
  -- at most 6000 spends under LIMIT_SPENDS (2^64 − 1 otherwise)
  ps.length ≤ spendLimit env.flags ∧
  -- no coin is spent twice
  (ps.map (·.attrs.coinId)).Nodup ∧
  -- the table cost fits the limit
  bundleCost env.flags ps ≤ L ∧
  -- every spend satisfies the per-spend rules (fresh announcement budget of 1024) …
  (∀ p ∈ ps, SpendAccepts env p.attrs 0 1024 (itemConds p.items)) ∧
  -- … and the fees reserved by all spends together stay a u64
  bundleFee ps < 2 ^ 64 ∧
  -- the deferred cross-spend rules hold of the summary
  Deferred (postProcess env (bundleFold env cc ps).1 (bundleFold env cc ps).2) (bundleFold env cc ps).2 ∧
  -- the aggregate signature verifies the collected (public key, signed text) pairs, unless not requested
  (hasFlag env.flags Gen.flagDontValidateSignature = false → sigOk (bundleFold env cc ps).2.pkmPairs = true)

/-- **The reported summary**: the fold of the per-spend summaries, the mempool visitor's post-processing
of the spend flags, the signature marker and the table cost; with it the collected parse state -/
def bundleSummary (env : Env) (cc : Nat) (ps : List PSpend) : Bundle × PState :=
  ({ postProcess env (bundleFold env cc ps).1 (bundleFold env cc ps).2 with
      validatedSignature := !hasFlag env.flags Gen.flagDontValidateSignature
      cost := bundleCost env.flags ps },
   (bundleFold env cc ps).2)

/-! ### mempool eligibility flags, per spend (Appendix A.3) -/

/-- Appendix A.3, per condition: does `c`, seen as the `i`-th recognised condition of its spend (counting
from 0), make the spend ineligible for fast-forward -/
def blocksFF (i : Nat) : Cond → Bool
  | .assertMyCoinId _ | .assertHeightRelative _ | .assertSecondsRelative _ | .assertBeforeHeightRelative _
  | .assertBeforeSecondsRelative _ | .assertMyBirthHeight _ | .assertMyBirthSeconds _ | .assertEphemeral
  | .createCoinAnnouncement _ => true
  | .assertMyParentId _ => i ≠ 1
  | .aggSig op _ _ =>
    op = Gen.opAggSigMe ∨ op = Gen.opAggSigParent ∨ op = Gen.opAggSigParentAmount ∨ op = Gen.opAggSigParentPuzzle
  | .sendMessage srcMode _ _ => srcMode / 4 % 2 = 1
  | .receiveMessage _ dstMode _ => dstMode / 4 % 2 = 1
  | _ => false

end ChiaModel.Rules
