import ChiaModel.Model.Conditions
/-
C01 — the condition list of one spend as the bundle rules (`Spec/BundleRules.lean`) see it: every element of the list is
either ignored (not an opcode) or parses to a condition (`Item`, `parseAll`), the cost table in list form (`itemCost`,
`totalCost`), and what the loop of `parse_conditions` does around the effect of the conditions: it books their cost,
counts them, and lets the visitor clear eligibility flags (`wrapF`, `allBits`).  Definitions only.
-/
namespace ChiaModel.Cond

/-- the elements of a NIL-terminated CLVM list (`none` for an improper list) -/
def sexpList : Sexp → Option (List Sexp)
  | .atom [] => some []
  | .atom _ => none
  | .pair a r => (sexpList r).map (a :: ·)

/-- clear ELIGIBLE_FOR_DEDUP if `b.1`, ELIGIBLE_FOR_FF if `b.2` -/
def clr (b : Bool × Bool) (f : Nat) : Nat :=
  let f := if b.1 then clearFlag f ELIGIBLE_FOR_DEDUP else f
  if b.2 then clearFlag f ELIGIBLE_FOR_FF else f

/-- which of the two eligibility flags the visitor clears for a parsed condition (DEDUP, FF);
`n` is the condition counter -/
def visitBits (mempool : Bool) (n : Nat) (c : Cond) : Bool × Bool :=
  if !mempool then (false, false) else
  match c with
  | .assertMyCoinId _ | .assertHeightRelative _ | .assertSecondsRelative _ | .assertBeforeHeightRelative _
  | .assertBeforeSecondsRelative _ | .assertMyBirthHeight _ | .assertMyBirthSeconds _ | .assertEphemeral => (false, true)
  | .assertMyParentId _ => (false, decide (n ≠ 1))
  | .aggSig op _ _ =>
    (true, decide (op = Gen.opAggSigMe ∨ op = Gen.opAggSigParent ∨ op = Gen.opAggSigParentAmount ∨ op = Gen.opAggSigParentPuzzle))
  | .sendMessage srcMode _ _ => (true, decide (srcMode / 4 % 2 = 1))
  | .receiveMessage _ dstMode _ => (true, decide (dstMode / 4 % 2 = 1))
  | .createCoinAnnouncement _ => (false, true)
  | _ => (false, false)

/-- what the loop does around `applyCond`: clear the eligibility flags `b`, count `n` conditions, book cost `k` -/
def wrapF (b : Bool × Bool) (s : CSt) (n k : Nat) : CSt :=
  { s with ret := { s.ret with conditionCost := s.ret.conditionCost + k },
           spend := { s.spend with conditionCost := s.spend.conditionCost + k, flags := clr b s.spend.flags },
           counter := s.counter + n }

/-- one element of a condition list after opcode recognition and argument parsing -/
inductive Item where
  | unknown                          -- not an opcode: ignored (or rejected under NO_UNKNOWN_CONDS)
  | known (op : Nat) (cva : Cond)

/-- the state-independent part of `stepCond`: recognise the opcode and parse the arguments -/
def parseItem (flags : Nat) (c : Sexp) : R Item := do
  let opn ← first c
  match parseOpcode opn with
  | none => if hasFlag flags Gen.flagNoUnknownConds then .error .reject else .ok .unknown
  | some op => do
    let args ← rest c
    let cva ← parseArgs args op flags
    .ok (.known op cva)

def itemCost (flags : Nat) : Item → Nat
  | .unknown => if hasFlag flags Gen.flagCostConditions then Gen.genericConditionCost else 0
  | .known op cva => preCharge flags op + condExtraCost cva

def itemCount : Item → Nat
  | .unknown => 0
  | .known _ _ => 1

def itemConds : List Item → List Cond
  | [] => []
  | .unknown :: l => itemConds l
  | .known _ cva :: l => cva :: itemConds l

def totalCost (flags : Nat) : List Item → Nat
  | [] => 0
  | it :: l => itemCost flags it + totalCost flags l

def totalCount : List Item → Nat
  | [] => 0
  | it :: l => itemCount it + totalCount l

def parseAll (flags : Nat) : List Sexp → R (List Item)
  | [] => .ok []
  | c :: cs => do
    let it ← parseItem flags c
    let its ← parseAll flags cs
    .ok (it :: its)

def itemBits (mempool : Bool) (n : Nat) : Item → Bool × Bool
  | .unknown => (false, false)
  | .known _ cva => visitBits mempool n cva

def allBits (mempool : Bool) : Nat → List Item → Bool × Bool
  | _, [] => (false, false)
  | n, it :: l => ((itemBits mempool n it).1 || (allBits mempool (n + itemCount it) l).1,
                   (itemBits mempool n it).2 || (allBits mempool (n + itemCount it) l).2)

end ChiaModel.Cond
